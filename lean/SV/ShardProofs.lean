import SV.Shard
namespace SV.Shard

theorem clog2_of_two_le {n : Nat} (h : 2 ≤ n) : clog2 n = Nat.log2 (n - 1) + 1 :=
  if_neg (Nat.not_le_of_lt h)

theorem bytesNeeded_of_two_le {n : Nat} (h : 2 ≤ n) : bytesNeeded n = Nat.log2 (n - 1) / 8 + 1 :=
  if_neg (Nat.ne_of_gt h)

theorem clog2_spec (n : Nat) (h : 2 ≤ n) :
    1 ≤ clog2 n ∧ 2 ^ (clog2 n - 1) < n ∧ n ≤ 2 ^ clog2 n := by
  rw [clog2_of_two_le h, Nat.add_sub_cancel]
  exact ⟨Nat.succ_pos _, Nat.lt_of_le_pred (Nat.lt_of_lt_of_le Nat.zero_lt_two h) (Nat.log2_self_le (Nat.sub_ne_zero_of_lt h)),
    Nat.le_of_pred_lt Nat.lt_log2_self⟩

theorem computeId_eq (n : Nat) (key : Bytes) :
    computeId n key =
      if foldAddr (suffixOf n key) % 2 ^ clog2 n > n - 1 then foldAddr (suffixOf n key) % 2 ^ (clog2 n - 1)
      else foldAddr (suffixOf n key) % 2 ^ clog2 n := by
  unfold computeId maskHigh maskLow
  simp only [Nat.and_two_pow_sub_one_eq_mod]

theorem computeId_lt (n : Nat) (key : Bytes) (h : 2 ≤ n) : computeId n key < n := by
  rw [computeId_eq]
  by_cases hi : foldAddr (suffixOf n key) % 2 ^ clog2 n > n - 1
  · rw [if_pos hi]
    exact Nat.lt_trans (Nat.mod_lt _ (Nat.two_pow_pos _)) (clog2_spec n h).2.1
  · rw [if_neg hi]
    exact Nat.lt_of_le_of_lt (Nat.le_of_not_gt hi) (Nat.sub_one_lt (Nat.ne_of_gt (Nat.lt_of_lt_of_le Nat.zero_lt_two h)))

theorem suffixOf_append (n : Nat) (pre suf : Bytes) (h : suf.length = bytesNeeded n) :
    suffixOf n (pre ++ suf) = suf := by
  unfold suffixOf
  rw [List.length_append, ← h, Nat.add_sub_cancel, List.drop_left]
  refine ite_eq_left_iff.mpr fun hl => ?_
  rw [List.eq_nil_of_length_eq_zero (Nat.eq_zero_of_not_pos fun hp => hl (Nat.lt_add_of_pos_left hp))]
  rfl

theorem suffixOf_self (n : Nat) (suf : Bytes) (h : suf.length ≤ bytesNeeded n) : suffixOf n suf = suf :=
  if_neg (Nat.not_lt.mpr h)

theorem computeId_suffix (n : Nat) (pre suf : Bytes) (h : suf.length = bytesNeeded n) :
    computeId n (pre ++ suf) = computeId n suf := by
  unfold computeId
  rw [suffixOf_append n pre suf h, suffixOf_self n suf (Nat.le_of_eq h)]

theorem foldAddr_snoc (xs : Bytes) (b : UInt8) :
    foldAddr (xs ++ [b]) = (foldAddr xs * 256 + b.toNat) % 4294967296 := by
  unfold foldAddr
  rw [List.foldl_append]
  rfl

theorem beKey_length (k i : Nat) : (beKey k i).length = k := by
  induction k generalizing i with
  | zero => rfl
  | succ k ih => rw [beKey, List.length_append, ih]; rfl

theorem foldAddr_beKey (k i : Nat) (hk : k ≤ 4) : foldAddr (beKey k i) = i % 256 ^ k := by
  induction k generalizing i with
  | zero => exact (Nat.mod_one i).symm
  | succ k ih =>
    rw [beKey, foldAddr_snoc, ih (i / 256) (Nat.le_of_succ_le hk), UInt8.toNat_ofNat_of_lt' (Nat.mod_lt i (by decide)),
      Nat.mul_comm, Nat.add_comm, ← Nat.mod_mul, ← Nat.pow_succ']
    -- no wrap-around in uint32: `256 ^ (k + 1) ≤ 256 ^ 4 = 2 ^ 32`
    exact Nat.mod_eq_of_lt (Nat.lt_of_lt_of_le (Nat.mod_lt _ (Nat.pow_pos (by decide)))
      (Nat.pow_le_pow_right (by decide) hk : 256 ^ (k + 1) ≤ 256 ^ 4))

theorem bytesNeeded_le_four (n : Nat) (h2 : 2 ≤ n) (h : n < 2147483648) : bytesNeeded n ≤ 4 := by
  have hl : Nat.log2 (n - 1) < 8 * 4 :=
    (Nat.log2_lt (Nat.sub_ne_zero_of_lt h2)).mpr (Nat.lt_of_le_of_lt (Nat.sub_le n 1) (Nat.lt_trans h (by decide)))
  rw [bytesNeeded_of_two_le h2]
  exact Nat.div_lt_of_lt_mul hl

theorem lt_pow_bytesNeeded (n : Nat) (h2 : 2 ≤ n) : n - 1 < 256 ^ bytesNeeded n := by
  rw [bytesNeeded_of_two_le h2, show (256 : Nat) = 2 ^ 8 from rfl, ← Nat.pow_mul]
  exact Nat.lt_of_lt_of_le Nat.lt_log2_self (Nat.pow_le_pow_right (by decide) (Nat.lt_mul_div_succ _ (by decide)))

theorem computeId_onto (n i : Nat) (h2 : 2 ≤ n) (hn : n < 2147483648) (hi : i < n) :
    computeId n (beKey (bytesNeeded n) i) = i := by
  have hi' : i ≤ n - 1 := Nat.le_sub_one_of_lt hi
  rw [computeId_eq, suffixOf_self n _ (Nat.le_of_eq (beKey_length _ _)), foldAddr_beKey _ _ (bytesNeeded_le_four n h2 hn),
    Nat.mod_eq_of_lt (Nat.lt_of_le_of_lt hi' (lt_pow_bytesNeeded n h2)),
    Nat.mod_eq_of_lt (Nat.lt_of_lt_of_le hi (clog2_spec n h2).2.2)]
  exact if_neg (Nat.not_lt.mpr hi')


/-! monotonicity of the three mask components, soundness of the bisection run-length encoding -/

theorem log2_mono {a b : Nat} (ha : a ≠ 0) (h : a ≤ b) : Nat.log2 a ≤ Nat.log2 b :=
  (Nat.le_log2 (Nat.ne_of_gt (Nat.lt_of_lt_of_le (Nat.pos_of_ne_zero ha) h))).mpr (Nat.le_trans (Nat.log2_self_le ha) h)

theorem clog2_mono {a b : Nat} (ha : 2 ≤ a) (h : a ≤ b) : clog2 a ≤ clog2 b := by
  rw [clog2_of_two_le ha, clog2_of_two_le (Nat.le_trans ha h)]
  exact Nat.succ_le_succ (log2_mono (Nat.sub_ne_zero_of_lt ha) (Nat.sub_le_sub_right h 1))

theorem bytesNeeded_mono {a b : Nat} (ha : 2 ≤ a) (h : a ≤ b) : bytesNeeded a ≤ bytesNeeded b := by
  rw [bytesNeeded_of_two_le ha, bytesNeeded_of_two_le (Nat.le_trans ha h)]
  exact Nat.succ_le_succ (Nat.div_le_div_right (log2_mono (Nat.sub_ne_zero_of_lt ha) (Nat.sub_le_sub_right h 1)))

theorem triple_const {a n b : Nat} (ha : 2 ≤ a) (h1 : a ≤ n) (h2 : n ≤ b) (he : triple a = triple b) :
    triple n = triple a := by
  have hn : 2 ≤ n := Nat.le_trans ha h1
  obtain ⟨e1, e3⟩ : maskHigh a = maskHigh b ∧ bytesNeeded a = bytesNeeded b :=
    ⟨congrArg Prod.fst he, congrArg (·.2.2) he⟩
  have hc : clog2 a = clog2 b :=
    (Nat.pow_right_inj (by decide)).mp (Nat.sub_one_cancel (Nat.two_pow_pos _) (Nat.two_pow_pos _) e1)
  have hcn : clog2 n = clog2 a := Nat.le_antisymm (hc ▸ clog2_mono hn h2) (clog2_mono ha h1)
  have hbn : bytesNeeded n = bytesNeeded a := Nat.le_antisymm (e3 ▸ bytesNeeded_mono hn h2) (bytesNeeded_mono ha h1)
  unfold triple maskHigh maskLow
  rw [hcn, hbn]

def SegOk (s : Nat × Nat × Triple) : Prop := ∀ n, s.1 ≤ n → n ≤ s.2.1 → triple n = s.2.2

theorem halves_lt {a b p : Nat} (h : b < a + 2 * p) : (a + b) / 2 < a + p ∧ b < (a + b) / 2 + 1 + p := by
  constructor
  · rw [Nat.div_lt_iff_lt_mul Nat.zero_lt_two, Nat.add_mul, Nat.mul_two a, Nat.add_assoc, Nat.mul_comm p]
    exact Nat.add_lt_add_left h a
  · have hm : a + b < 2 * ((a + b) / 2 + 1) := Nat.lt_mul_div_succ _ Nat.zero_lt_two
    refine Nat.lt_of_mul_lt_mul_left (a := 2) ?_
    rw [Nat.mul_add, Nat.two_mul b]
    refine Nat.lt_trans (Nat.add_lt_add_left h b) ?_
    rw [← Nat.add_assoc, Nat.add_comm b a]
    exact Nat.add_lt_add_right hm _

theorem segs_sound (fuel a b : Nat) (ha : 2 ≤ a) (hf : b - a < 2 ^ fuel) :
    ∀ s ∈ segs fuel a b, SegOk s := by
  replace hf : b < a + 2 ^ fuel := Nat.lt_of_le_of_lt (Nat.sub_le_iff_le_add'.mp (Nat.le_refl _)) (Nat.add_lt_add_left hf a)
  induction fuel generalizing a b with
  | zero =>
    intro s hs n h1 h2
    rw [segs, List.mem_singleton] at hs
    subst hs
    rw [Nat.le_antisymm (Nat.le_trans h2 (Nat.le_of_lt_succ hf)) h1]
  | succ fuel ih =>
    intro s hs
    rw [segs] at hs
    by_cases he : triple a = triple b
    · rw [if_pos he, List.mem_singleton] at hs
      subst hs
      exact fun n h1 h2 => triple_const ha h1 h2 he
    · rw [if_neg he, List.mem_append] at hs
      rw [Nat.pow_succ, Nat.mul_comm] at hf
      rcases hs with hs | hs
      · exact ih a ((a + b) / 2) ha (halves_lt hf).1 s hs
      · exact ih ((a + b) / 2 + 1) b
          (Nat.succ_le_succ ((Nat.le_div_iff_mul_le Nat.zero_lt_two).mpr (Nat.le_trans ha (Nat.le_add_right a b))))
          (halves_lt hf).2 s hs

theorem mergeSegs_sound : ∀ (l : List (Nat × Nat × Triple)), (∀ s ∈ l, SegOk s) → ∀ s ∈ mergeSegs l, SegOk s := by
  intro l
  induction l using mergeSegs.induct with
  | case1 => intro _ s hs; simp [mergeSegs] at hs
  | case2 s0 => intro h s hs; simp only [mergeSegs, List.mem_singleton] at hs; subst hs; exact h _ (List.mem_singleton.mpr rfl)
  | case3 a b t c d u rest hc ih =>
    intro h s hs
    rw [mergeSegs, if_pos hc] at hs
    apply ih _ s hs
    intro s' hs'
    rcases List.mem_cons.mp hs' with rfl | hs'
    · intro n h1 h2
      by_cases hn : n ≤ b
      · exact h (a, b, t) (List.mem_cons_self ..) n h1 hn
      · rw [hc.1]
        exact h (c, d, u) (List.mem_cons_of_mem _ (List.mem_cons_self ..)) n (hc.2 ▸ Nat.lt_of_not_le hn) h2
    · exact h s' (List.mem_cons_of_mem _ (List.mem_cons_of_mem _ hs'))
  | case4 a b t c d u rest hc ih =>
    intro h s hs
    rw [mergeSegs, if_neg hc] at hs
    rcases List.mem_cons.mp hs with rfl | hs
    · exact h _ (List.mem_cons_self ..)
    · exact ih (fun s' hs' => h s' (List.mem_cons_of_mem _ hs')) s hs

end SV.Shard
