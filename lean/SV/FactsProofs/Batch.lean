/-
  SV.FactsProofs.Batch — the pending batch of the LevelDB persisters (leveldb/batch.go), regenerated: `Put`, `Delete` and
  `Reset` perform, unconditionally and under the batch's own mutex, exactly the three effects the model's `P.put`,
  `P.remove` and `P.flush` perform on (`cached`, `removed`, `ops`): a condition, an early return or a missing marker in the
  source changes the extracted list and breaks these theorems.
-/
import SV.Generated.Facts
import SV.Persist.Model
namespace SV.Facts
open SV SV.Persist

/-- the model's effects, named like the extractor names the source's -/
def modelPutEffects : List String := ["cached.set", "ldb.put", "removed.del"]
def modelDeleteEffects : List String := ["cached.del", "ldb.del", "removed.set"]
def modelResetEffects : List String := ["cached.clear", "ldb.reset", "removed.clear"]

theorem batch_put_effects : batchPutEffects = modelPutEffects := rfl
theorem batch_delete_effects : batchDeleteEffects = modelDeleteEffects := rfl
theorem batch_reset_effects : batchResetEffects = modelResetEffects := rfl

/-- what those names mean in the model (before the batch counter is bumped) -/
theorem model_put_does (p : P) (k : Bytes) (v : Val) :
    p.put k v = P.bump { p with cached := aset k v p.cached, removed := p.removed.filter (· != k), ops := p.ops ++ [.put k v.bytes] } := rfl
theorem model_remove_does (p : P) (k : Bytes) :
    p.remove k = P.bump { p with removed := if p.removed.contains k then p.removed else p.removed ++ [k],
                                 cached := aerase k p.cached, ops := p.ops ++ [.del k] } := rfl
theorem model_flush_does (p : P) : p.flush.cached = [] ∧ p.flush.removed = [] ∧ p.flush.ops = [] := ⟨rfl, rfl, rfl⟩

end SV.Facts
