/-
  SV.FactsProofs.Adapter — regenerated fact behind C17: the adapter's Put is a single critical section of its lock.
-/
import SV.Generated.Facts
namespace SV.Facts

theorem adapter_put_is_single_section : adapterPutSingleSection = true := by decide +kernel

end SV.Facts
