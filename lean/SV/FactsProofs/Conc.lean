/-
  SV.FactsProofs.Conc — regenerated facts about locking in the mempool and the size-bounded LRU (C14, C15): the listed methods
  are single critical sections, the lock-order graph is acyclic, `AddTx`'s index updates and eviction's removals run inside
  `mutTxOperation`, the atomic counters are paired with the map updates.  (lean/SV/Generated/Facts.lean is rewritten from
  /repo's current source by tools/extract on every run; these proofs are re-checked against it.)
-/
import SV.Generated.Facts
namespace SV.Facts

theorem single_sections : ∀ m ∈ singleCriticalSection, m.2 = true := by decide +kernel
theorem single_sections_present : 20 ≤ singleCriticalSection.length := by decide +kernel

/-- every operation of the size-bounded LRU that the cache wrapper reaches is ONE critical section of the LRU's own mutex: a
    concurrent caller sees the two structures and the byte counter only between operations (what the sequential refinement
    theorems of C15 are then about) -/
theorem sized_lru_sections :
    ∀ n ∈ ["lrucache/capacity:capacityLRU.AddSized", "lrucache/capacity:capacityLRU.AddSizedIfMissing",
           "lrucache/capacity:capacityLRU.AddSizedAndReturnEvicted", "lrucache/capacity:capacityLRU.Get",
           "lrucache/capacity:capacityLRU.Remove", "lrucache/capacity:capacityLRU.Keys"],
      (n, true) ∈ singleCriticalSection := by
  -- each name is pointed out among the rows of the table; `decide` would have the kernel UTF-8 encode the literals to compare them
  simp only [singleCriticalSection, List.mem_cons, List.not_mem_nil, or_false]
  rintro n (rfl | rfl | rfl | rfl | rfl | rfl) <;> simp only [true_or, or_true]

/-- Kahn-style acyclicity test: repeatedly delete the edges whose source has no incoming edge -/
def prune (edges : List (Nat × Nat)) : List (Nat × Nat) :=
  edges.filter (fun e => edges.any (fun f => f.2 == e.1))

def acyclicFuel : Nat → List (Nat × Nat) → Bool
  | 0, edges => edges.isEmpty
  | n + 1, edges => if edges.isEmpty then true else acyclicFuel n (prune edges)

def acyclic (edges : List (Nat × Nat)) : Bool := acyclicFuel (edges.length + 1) edges

/-- the lock-order graph ("held A while acquiring B") extracted from the source has no cycle -/
theorem lockOrder_acyclic : acyclic lockOrderIdx = true := by decide +kernel

-- the test does reject cycles
example : acyclic [(0, 1), (1, 2), (2, 0)] = false := by decide +kernel
example : acyclic [(0, 1), (1, 0), (3, 4)] = false := by decide +kernel
example : acyclic [(0, 1), (0, 2), (1, 2)] = true := by decide +kernel

/-- `TxCache.AddTx` performs both index updates inside one critical section: concurrent AddTx calls execute as SOME
    sequential order of these sections (hypothesis of SV.TxCache.AddCommute) -/
theorem addTx_updates_atomic : addTxIndexUpdatesAtomic = true := by decide +kernel

/-- eviction's removals (senders' lists, then hash index) of every pass run inside `mutTxOperation`: they are atomic with respect
    to AddTx and RemoveTxByHash, so a sender list emptied and dropped by the eviction cannot be the one a concurrent AddTx is
    about to insert into (defect F13 before the repair: such a transaction stayed reachable by hash only — neither
    selectable nor evictable) -/
theorem eviction_removals_atomic : evictionRemovalsUnderTxOperationLock = true := by decide +kernel

/-- the mempool's atomic counters are paired with the chunk-locked map updates: they change iff the map operation reported a
    change, with no lookup before it (no check-then-act) — the mechanism behind "once all goroutines have finished, CountTx
    and NumBytes equal the number and total Size of the transactions reachable by hash" -/
theorem counters_paired_with_map_updates : (hashIndexCountersPaired && senderCounterPaired) = true := by decide +kernel

end SV.Facts
