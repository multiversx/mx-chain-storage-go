/-
  SV.FactsProofs.Unit — regenerated facts behind C16: the storage unit's Get/Put/Remove/Has are single critical sections
  of its lock, so a concurrent history of such calls is a sequential one and the sequential theorems apply.
-/
import SV.Generated.Facts
namespace SV.Facts

theorem unit_operations_are_single_sections :
    (unitGetSingleSection && unitPutSingleSection && unitRemoveSingleSection && unitHasSingleSection) = true := by decide +kernel

end SV.Facts
