/-
  SV.FactsProofs.Blocks — regenerated facts about the critical sections of the two LevelDB persisters (C10, C11): the read
  paths read the pending batch in one section, a flush holds the batch mutex from the LevelDB write to the reset / swap,
  `DB` resets only after a successful write.  (lean/SV/Generated/Facts.lean is rewritten from /repo's current source by
  tools/extract on every run; these proofs are re-checked against it.)
-/
import SV.Generated.Facts
namespace SV.Facts

/-- the persister read paths read the pending batch in one critical section and the flush paths hold the batch mutex
    until LevelDB has the batch: the block structure of SV.Conc.PersistConc is the structure of the code -/
theorem persister_blocks :
    (dbGetBatchReadsAtomic && dbHasBatchReadsAtomic && serialGetBatchReadsAtomic && serialHasBatchReadsAtomic &&
     serialFlushHoldsLock && dbFlushHoldsLock) = true := by decide +kernel

/-- a flush is ONE critical section of the batch mutex in both persisters: the records handed to LevelDB and the records dropped
    by the reset that follows are the same records — nothing can enter the batch between the write and the reset -/
theorem flush_is_one_critical_section : (serialFlushHoldsLock && dbFlushHoldsLock) = true := by decide +kernel

/-- DB resets its pending batch only after the LevelDB write of a flush succeeded (size-triggered and timer-triggered flush):
    a write that fails leaves the acknowledged operations in the batch, to be written by the next flush -/
theorem failed_write_keeps_the_batch : dbResetOnlyAfterSuccessfulWrite = true := by decide +kernel

end SV.Facts
