/-
  SV.FactsProofs.Sync — regenerated facts about the LevelDB writes of the persisters (C09, C10): every write is synced and is
  handed the batch's own record list.  (lean/SV/Generated/Facts.lean is rewritten from /repo's current source by tools/extract
  on every run; these proofs are re-checked against it.)
-/
import SV.Generated.Facts
namespace SV.Facts

/-- every goleveldb write of package leveldb is issued with Sync: true (hypothesis of the C10 durability argument) -/
theorem all_writes_sync : ∀ w ∈ leveldbWrites, w.2 = true := by decide +kernel
/-- …and the fact list is not vacuous: two write sites (one per persister, see `writes_pass_the_record_list`) -/
theorem write_sites_present : 2 ≤ leveldbWrites.length := by decide +kernel

/-- both flush paths hand goleveldb the batch's own record list (`batch.batch`: every Put/Delete of the batch in the order they
    were issued, each value copied by goleveldb at `Put` time) — what the model's `flush` writes; not something rebuilt from
    the lookup maps at flush time -/
theorem writes_pass_the_record_list :
    leveldbWriteArgs = ["DB.putBatch: dbBatch.batch", "putBatchAct.doPutRequest: p.batch.batch"] := rfl

end SV.Facts
