/-
  C11 — Concurrent persister operations are linearizable.
  PARTIAL: the theorem is about the block-interleaving model SV.Conc.PersistConc (critical sections as atomic blocks).
  The block structure is tied to the source by regenerated facts (`persister_blocks`) and by forced schedules replayed on
  the model; Go memory-model races inside a block, fairness and goleveldb's internal concurrency are outside the model.
-/
import SV.Conc.LinProofs
import SV.FactsProofs.Blocks
namespace SV.Props.C11
open SV SV.Persist SV.Conc

/-- the code has the block structure of the model (regenerated from the current source on every run) -/
theorem block_structure_matches_source :
    (Facts.dbGetBatchReadsAtomic && Facts.dbHasBatchReadsAtomic && Facts.serialGetBatchReadsAtomic &&
     Facts.serialHasBatchReadsAtomic && Facts.serialFlushHoldsLock && Facts.dbFlushHoldsLock) = true := Facts.persister_blocks

/-- ALL schedules, any number of threads, any programs, any batch size (flushes by size, and by the timer thread): there
    is a sequential order of the operations (`lin`, sorted by linearization point `pt`) such that
    (1) replaying it on a plain map reproduces every returned value (`SeqOK`);
    (2) every completed read is in it with a point inside its call/return window;
    (3) every write is in it at the step of its first block (between its call and its return);
    (`SV.Conc.linearizable` states in addition that `lin` contains nothing else, and no operation twice.)
    Hence every operation appears to take effect atomically at one instant between its call and its return. -/
theorem linearizable (maxBatch : Nat) (progs : List (List Conc.Op)) (sched : List Nat) :
    ∃ lin : List LinOp,
      lin.Pairwise (fun a b => a.pt ≤ b.pt) ∧
      SeqOK (fun _ => none) lin ∧
      (∀ j t k r, Ev.ret t (.get k) r ∈ evsAt (Cfg.init maxBatch progs) sched j →
        ∃ i m, i ≤ m ∧ m ≤ j ∧ CallRet (Cfg.init maxBatch progs) sched t k r i j ∧
          (⟨m, t, j, .get k, r⟩ : LinOp) ∈ lin) ∧
      (∀ i t op, op.isWrite = true → Ev.call t op ∈ evsAt (Cfg.init maxBatch progs) sched i →
        (⟨i, t, i, op, none⟩ : LinOp) ∈ lin) :=
  let ⟨lin, h1, h2, h3, h4, _⟩ := SV.Conc.linearizable maxBatch progs sched
  ⟨lin, h1, h2, h3, h4⟩

/-- every completed read returns the logical value of SOME configuration between its call and its return -/
theorem read_window (maxBatch : Nat) (progs : List (List Conc.Op)) (sched : List Nat) (j t : Nat) (k : Bytes)
    (r : Option Bytes) (hret : Ev.ret t (.get k) r ∈ evsAt (Cfg.init maxBatch progs) sched j) :
    ∃ i m, i ≤ m ∧ m ≤ j ∧ CallRet (Cfg.init maxBatch progs) sched t k r i j ∧
      r = (cfgAt (Cfg.init maxBatch progs) sched m).abs k := get_window maxBatch progs sched j t k r hret

/-- in particular: a read that starts after a write to the same key took effect (e.g. has returned), with no other write
    to that key until the read returns, returns that write's value (none for a remove) — it never misses it -/
theorem read_never_misses_a_returned_write (maxBatch : Nat) (progs : List (List Conc.Op)) (sched : List Nat) (j t : Nat) (k : Bytes)
    (r : Option Bytes) (hret : Ev.ret t (.get k) r ∈ evsAt (Cfg.init maxBatch progs) sched j) :
    ∃ i, CallRet (Cfg.init maxBatch progs) sched t k r i j ∧
      (∀ w t' v, w < i → Ev.call t' (.put k v) ∈ evsAt (Cfg.init maxBatch progs) sched w →
          NoWrite (Cfg.init maxBatch progs) sched k (w + 1) j → r = some v) ∧
      (∀ w t', w < i → Ev.call t' (.rm k) ∈ evsAt (Cfg.init maxBatch progs) sched w →
          NoWrite (Cfg.init maxBatch progs) sched k (w + 1) j → r = none) := read_after_write maxBatch progs sched j t k r hret

/-- reads never go backwards: if one read returned before another was called, the second observes a strictly later configuration -/
theorem reads_never_go_backwards (maxBatch : Nat) (progs : List (List Conc.Op)) (sched : List Nat) (j₁ t₁ j₂ t₂ : Nat)
    (k₁ k₂ : Bytes) (r₁ r₂ : Option Bytes)
    (h₁ : Ev.ret t₁ (.get k₁) r₁ ∈ evsAt (Cfg.init maxBatch progs) sched j₁)
    (h₂ : Ev.ret t₂ (.get k₂) r₂ ∈ evsAt (Cfg.init maxBatch progs) sched j₂) :
    ∃ m₁ i₂ m₂, m₁ ≤ j₁ ∧ i₂ ≤ m₂ ∧ m₂ ≤ j₂ ∧ CallRet (Cfg.init maxBatch progs) sched t₂ k₂ r₂ i₂ j₂ ∧
      r₁ = (cfgAt (Cfg.init maxBatch progs) sched m₁).abs k₁ ∧
      r₂ = (cfgAt (Cfg.init maxBatch progs) sched m₂).abs k₂ ∧
      (j₁ < i₂ → m₁ < m₂) := reads_monotone maxBatch progs sched j₁ t₁ j₂ t₂ k₁ k₂ r₁ r₂ h₁ h₂

/-- a flush — by size or by the timer — never changes the logical map; a write changes it at exactly one block -/
theorem flush_is_invisible (p : P) (k : Bytes) (h : CInv p) : p.flush.abs k = p.abs k := abs_flush p k (h.replay k)
theorem write_takes_effect_at_one_block (p : P) (k k' v : Bytes) (h : CInv p) :
    (batchPut p k v).abs k' = if k' = k then some v else p.abs k' :=
  have _ := h
  abs_batchPut p k k' v

-- non-vacuity: a schedule in which a read's batch lookup misses before a concurrent put and a timer flush run
example : (runSched (Cfg.init 3 [[.put [1] [7]], [.get [1]]]) [1, 0, 0, 2, 1]).1.getLast? = some (Ev.ret 1 (.get [1]) (some [7])) := by
  decide +kernel

end SV.Props.C11
