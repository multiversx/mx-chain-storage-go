/-
  C10 — A crash loses at most the unflushed batch; flushed batches survive whole.
  PARTIAL: the batching LOGIC is proved; that goleveldb applies a synced batch atomically and durably (and recovers it
  from a torn journal) is the engine's contract — observed on crash images at every storage event, not proved; so is the
  timer actually firing within BatchDelaySeconds.
-/
import SV.Persist.Proofs
import SV.Persist.CrashProofs
import SV.FactsProofs.Sync
import SV.FactsProofs.Blocks
import SV.GenProofs.Persist
namespace SV.Props.C10
open SV SV.Persist

/-- every LevelDB write the persisters issue is synced (regenerated from the current source on every run) -/
theorem every_write_is_synced : ∀ w ∈ Facts.leveldbWrites, w.2 = true := Facts.all_writes_sync
/-- (regenerated fact) both persisters hold the batch mutex from before the LevelDB write of a flush until the batch has been
    reset (DB) / swapped and answered (SerialDB): the model's `flush` — write `ops`, continue with `[]` — is one atomic step of
    the code, so an operation acknowledged meanwhile is in the NEXT batch and not wiped with the flushed one -/
theorem flush_is_one_critical_section : (Facts.serialFlushHoldsLock && Facts.dbFlushHoldsLock) = true :=
  Facts.flush_is_one_critical_section
/-- (regenerated fact) the pending batch of `DB` is reset only after the LevelDB write of the flush returned nil — in the
    size-triggered and in the timer-triggered flush: the model's `flush` (write `ops`, continue with `[]`) is the code's SUCCESSFUL
    flush; a failed write changes neither the store nor the batch, so acknowledged operations are not dropped by an I/O error -/
theorem failed_write_keeps_the_batch : Facts.dbResetOnlyAfterSuccessfulWrite = true := Facts.failed_write_keeps_the_batch
/-- (regenerated fact) what is handed to goleveldb at a flush is the batch's own record list, in the order of the operations -/
theorem every_flush_writes_the_record_list :
    Facts.leveldbWriteArgs = ["DB.putBatch: dbBatch.batch", "putBatchAct.doPutRequest: p.batch.batch"] :=
  Facts.writes_pass_the_record_list

/-- the LevelDB state changes only by applying ONE WHOLE batch: an operation either leaves the flushed state untouched or
    replaces it by the pending batch (all acknowledged operations since the last flush, in order, including this one)
    applied on top of it — never a part of a batch, never out of order -/
theorem put_db_atomic (p : P) (k : Bytes) (v : Val) :
    (p.put k v).db = p.db ∨ (p.put k v).db = applyBatch p.db (p.ops ++ [.put k v.bytes]) :=
  put_db_atomic' p k v

theorem remove_db_atomic (p : P) (k : Bytes) :
    (p.remove k).db = p.db ∨ (p.remove k).db = applyBatch p.db (p.ops ++ [.del k]) :=
  remove_db_atomic' p k

/-- a flush (size-triggered, timer, Close) writes exactly the pending batch -/
theorem flush_db (p : P) : p.flush.db = applyBatch p.db p.ops ∧ p.flush.ops = [] := ⟨rfl, rfl⟩

/-- what a restart finds after a crash during a write of `inflight` on top of `db`, the engine's write being all-or-nothing -/
def recover (db : Store) (inflight : List BOp) (survived : Bool) : Store := if survived then applyBatch db inflight else db
/-- hence whatever survives of the write a flushing Put issues, the recovered state is the flush boundary before or after
    that Put -/
theorem crash_during_flushing_put (p : P) (k : Bytes) (v : Val) (survived : Bool)
    (hf : (p.put k v).db = applyBatch p.db (p.ops ++ [.put k v.bytes])) :
    recover p.db (p.ops ++ [.put k v.bytes]) survived = p.db ∨
    recover p.db (p.ops ++ [.put k v.bytes]) survived = (p.put k v).db := by
  unfold recover
  cases survived
  · left; rfl
  · right; simp [hf]
/-- an operation that does not flush issues no write at all: any crash during it recovers the previous flush boundary -/
theorem crash_during_non_flushing_put (p : P) (k : Bytes) (v : Val) (survived : Bool) : recover p.db [] survived = p.db := by
  unfold recover; cases survived <;> simp [applyBatch]

/-- the flushed state IS the logical map at the flush boundary: nothing acknowledged before the flush is missing from it -/
theorem flushed_state_is_the_map (p : P) (h : BInv p) : ∀ k, alookup k p.flush.db = p.abs k := (range_after_flush p h).2
/-- an acknowledged write is at risk only until its batch is flushed: the pending batch counts every acknowledged
    operation since the last flush and stays below MaxBatchSize after every operation, so the flush happens after at most
    MaxBatchSize − 1 further operations (or at the next timer event, which is a flush) -/
theorem at_risk_bounded (p : P) (h : BInv p) : p.ops.length < p.maxBatch := pending_bounded p h
theorem invariant_put (p : P) (k : Bytes) (v : Val) (h : BInv p) : BInv (p.put k v) := BInv.put p k v h
theorem invariant_remove (p : P) (k : Bytes) (h : BInv p) : BInv (p.remove k) := BInv.remove p k h

/-! ### whole histories, every crash point. SV.Persist.Crash: `crashImage maxBatch ops i survived` is the directory left by
    a process that dies while operation `i` is in progress — if that operation issued a LevelDB write, the write either
    survived whole or not at all (the engine contract, an explicit hypothesis built into the definition) -/

/-- for EVERY history, batch size and crash point the recovered directory is the state as of a flush boundary `j ≤ i+1`
    which is at least every boundary completed before the crash (all completed flushes are fully present), and it is —
    key by key — EXACTLY the plain-map state after the first `j` operations: nothing of a later batch (never partial),
    everything of the earlier ones, applied in order -/
theorem crash_recovers_a_flush_boundary (maxBatch : Nat) (hm : 1 ≤ maxBatch) (ops : List Op) (i : Nat) (survived : Bool) :
    ∃ j, j ≤ i + 1 ∧ Boundary maxBatch ops j ∧
      (∀ j', j' ≤ i → Boundary maxBatch ops j' → j' ≤ j) ∧
      crashImage maxBatch ops i survived = (run maxBatch (ops.take j)).db ∧
      ∀ k, alookup k (crashImage maxBatch ops i survived) = (ops.take j).foldl specStep (fun _ => none) k :=
  crash_recovers_a_recent_flush_boundary maxBatch hm ops i survived

/-- an acknowledged write is at risk for at most MaxBatchSize − 1 further Put/Remove operations: if that many follow
    operation `j`, a flush boundary lies in `(j, i]`; and every timer event / Close is a boundary -/
theorem acknowledged_write_flushed_within (maxBatch : Nat) (hm : 1 ≤ maxBatch) (ops : List Op) (i j : Nat) (hji : j < i)
    (hi : i ≤ ops.length) (hcnt : maxBatch ≤ ((ops.take i).drop (j + 1)).countP Op.isUpdate + 1) :
    ∃ j', j < j' ∧ j' ≤ i ∧ Boundary maxBatch ops j' := write_flushed_within maxBatch hm ops i j hji hi hcnt
theorem timer_and_close_are_boundaries (maxBatch : Nat) (ops : List Op) (i : Nat)
    (h : ops[i]? = some Op.tick ∨ ops[i]? = some Op.reopen) : Boundary maxBatch ops (i + 1) :=
  boundary_after_tick_reopen maxBatch ops i h
/-- fewer than MaxBatchSize acknowledged updates are lost by any crash -/
theorem lost_updates_are_bounded (maxBatch : Nat) (hm : 1 ≤ maxBatch) (ops : List Op) (i : Nat) (survived : Bool) :
    ((ops.take i).drop (crashPoint maxBatch ops i survived)).countP Op.isUpdate < maxBatch :=
  lost_updates_bounded maxBatch hm ops i survived

/-- the judgement the model driver applies to every REAL crash image (`imageAllowed`, computable) is sound and complete
    for that characterisation -/
theorem driver_judgement_sound (maxBatch : Nat) (hm : 1 ≤ maxBatch) (ops : List Op) (i : Nat) (img : Store)
    (h : imageAllowed maxBatch ops i img = true) :
    ∃ j, j ≤ i + 1 ∧ Boundary maxBatch ops j ∧ (∀ j', j' ≤ i → Boundary maxBatch ops j' → j' ≤ j) ∧
      ∀ k, alookup k img = (ops.take j).foldl specStep (fun _ => none) k := imageAllowed_sound maxBatch hm ops i img h
theorem driver_judgement_complete (maxBatch : Nat) (ops : List Op) (i : Nat) (survived : Bool) :
    imageAllowed maxBatch ops i (crashImage maxBatch ops i survived) = true := imageAllowed_crashImage maxBatch ops i survived

/-! ### tie by translation: the source's own leaf logic (regenerated into SV/Generated/Funcs.lean on every run) IS the model's -/
theorem source_flush_test_is_the_models (p : P) :
    p.bump = (if Gen.dbNoFlushNeeded (s_sizeBatch := p.sizeBatch) (s_maxBatchSize := p.maxBatch) then { p with sizeBatch := p.sizeBatch + 1 }
              else ({ p with sizeBatch := p.sizeBatch + 1 } : P).flush) ∧
    Gen.serialNoFlushNeeded (s_sizeBatch := p.sizeBatch) (s_maxBatchSize := p.maxBatch) = Gen.dbNoFlushNeeded (s_sizeBatch := p.sizeBatch) (s_maxBatchSize := p.maxBatch) := GenProofs.bump_eq p

end SV.Props.C10
