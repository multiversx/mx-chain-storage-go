/-
  C12 — Immunized items are never evicted.
-/
import SV.Immunity.Proofs
import SV.GenProofs.Immunity
import SV.Immunity.CacheProofs
import SV.Immunity.FifoSpec
import SV.Immunity.ChunkLib
namespace SV.Props.C12
open SV SV.Immunity

/-- adding to a full chunk evicts only non-immune items: every immune resident stays, as the very same item (same payload) -/
theorem add_keeps_immune (cfg : ChunkCfg) (c : Chunk) (k p : Bytes) (size : Int) :
    ∀ it ∈ c.items, it.immune = true → it ∈ (c.addItem Variant.current cfg k p size).1.items :=
  addItem_keeps_immune cfg c k p size
theorem eviction_skips_immune (n : Nat) (l : List Item) :
    (∀ it ∈ (removeOldest n l).2, it.immune = false) ∧ (∀ it ∈ l, it.immune = true → it ∈ (removeOldest n l).1) :=
  removeOldest_keeps_immune n l
/-- once a key is immune and resident with payload p it stays so through ANY history without `remove k`
    (Clear re-creates the chunks, i.e. ends the history) -/
theorem protected_forever (cfg : ChunkCfg) (c : Chunk) (k p : Bytes) (ops : List COp) (hi : ChunkInv cfg c)
    (hw : ∀ op ∈ ops, (match op with | .add _ _ s => 0 ≤ s | _ => True)) (hm : 1 ≤ cfg.maxNumItems)
    (h : Protected c k p) (hop : COp.rm k ∉ ops) : Protected (ops.foldl (Chunk.apply cfg) c) k p :=
  have _ := hi; have _ := hw; have _ := hm
  Protected.run cfg c k p ops h hop
/-- protection starts when an already-immunized key is added (immunisation before insertion) … -/
theorem protected_when_added (cfg : ChunkCfg) (c : Chunk) (k p : Bytes) (size : Int) (hi : ChunkInv cfg c)
    (hk : k ∈ c.immuneKeys) (ha : (c.addItem Variant.current cfg k p size).2.2 = true) :
    Protected (c.addItem Variant.current cfg k p size).1 k p :=
  have _ := hi
  Protected.of_add cfg c k p size hk ha
/-- … or when a resident key is immunized (immunisation after insertion) -/
theorem protected_when_immunized (cfg : ChunkCfg) (c : Chunk) (k : Bytes) (it : Item) (hi : ChunkInv cfg c)
    (hit : it ∈ c.items) (hk : it.key = k) : Protected (c.immunizeKey k).1 k it.payload :=
  have _ := hi
  Protected.of_immunize c k it hit hk
/-- if all residents are immune and capacity is reached the add is refused and the chunk is unchanged -/
theorem all_immune_refused (cfg : ChunkCfg) (c : Chunk) (k p : Bytes) (size : Int)
    (hall : ∀ it ∈ c.items, it.immune = true) (hex : c.exceeded cfg = true) (hk : c.has k = false) :
    c.addItem Variant.current cfg k p size = (c, false, false) := addItem_all_immune_refused cfg c k p size hall hex hk
theorem refusal_changes_nothing (cfg : ChunkCfg) (c : Chunk) (k p : Bytes) (size : Int) (c' : Chunk)
    (h : c.addItem Variant.current cfg k p size = (c', false, false)) : c' = c := addItem_refused cfg c k p size c' h
/-- adds never overwrite the payload of a key that is already present -/
theorem never_overwrites (cfg : ChunkCfg) (c : Chunk) (k p : Bytes) (size : Int) (hk : c.has k = true) :
    c.addItem Variant.current cfg k p size = (c, true, false) := addItem_present cfg c k p size hk
/-- F10 (pre-repair): evicting before the duplicate test overwrote a resident key -/
theorem legacy_F10 : ∃ (cfg : ChunkCfg) (c : Chunk) (k p : Bytes),
    c.has k = true ∧ (c.addItem Variant.legacy cfg k p 1).2 = (false, true) ∧
    ((c.addItem Variant.legacy cfg k p 1).1.get k).map (·.payload) ≠ (c.get k).map (·.payload) :=
  legacy_overwrite_counterexample

/-! ### tie by translation: the source's own leaf logic (regenerated into SV/Generated/Funcs.lean on every run) IS the model's -/
theorem source_capacity_test_is_the_models (cfg : ChunkCfg) (c : Chunk) :
    c.exceeded cfg = Gen.chunkExceeded (len_chunk_items := c.items.length) (chunk_config_maxNumItems := cfg.maxNumItems) (chunk_numBytes := c.numBytes) (chunk_config_maxNumBytes := cfg.maxNumBytes) := GenProofs.chunkExceeded_eq cfg c
theorem source_chunk_config_is_the_models (c : Config) :
    ((c.chunkCfg.maxNumItems : Nat) : Int) = Gen.chunkMaxNumItems (config_NumChunks := c.numChunks) (config_MaxNumItems := c.maxNumItems) ∧
    ((c.chunkCfg.maxNumBytes : Nat) : Int) = Gen.chunkMaxNumBytes (config_NumChunks := c.numChunks) (config_MaxNumBytes := c.maxNumBytes) ∧
    ((c.chunkCfg.numToEvict : Nat) : Int) = Gen.chunkNumItemsToEvict (config_NumChunks := c.numChunks) (config_NumItemsToPreemptivelyEvict := c.numItemsToEvict) := GenProofs.chunkCfg_eq c

/-! ### the whole cache (any number of chunks ≥ 1, routing by fnv32) — SV.Immunity.CacheProofs -/

/-- once `ImmunizeKeys keys` has been accepted (capacity gate passed) for a key `k ∈ keys`, then — whatever happens in between
    except `Remove k` / `Clear` — an item added under `k` (immunity registered BEFORE the item exists) stays retrievable
    with its original payload through any further history without `Remove k` / `Clear` -/
theorem cache_protects_accepted_keys {c : Cache} (h : CacheInv c) (keys : List Bytes) (hg : ¬ c.gateRefuses keys)
    (k p : Bytes) (s : Int) (hs : 0 ≤ s) (hk : k ∈ keys) (ops₁ ops₂ : List CacheOp)
    (hw₁ : ∀ op ∈ ops₁, op.sizeOk) (hw₂ : ∀ op ∈ ops₂, op.sizeOk)
    (hrm₁ : CacheOp.rm k ∉ ops₁) (hcl₁ : CacheOp.clear ∉ ops₁) (hrm₂ : CacheOp.rm k ∉ ops₂) (hcl₂ : CacheOp.clear ∉ ops₂)
    (ha : ((ops₁.foldl Cache.apply (c.immunizeKeys keys).1).hasOrAdd Variant.current k p s).2.2 = true) :
    (ops₂.foldl Cache.apply ((ops₁.foldl Cache.apply (c.immunizeKeys keys).1).hasOrAdd Variant.current k p s).1).get k
      = some p := immunize_then_add_protected h keys hg k p s hs hk ops₁ ops₂ hw₁ hw₂ hrm₁ hcl₁ hrm₂ hcl₂ ha
/-- a key that is immune and resident with payload p stays so through any cache history without `Remove k` / `Clear`
    (immunisation AFTER insertion is `cprotected_of_immunize` in CacheProofs) -/
theorem cache_protected_forever {c : Cache} (h : CacheInv c) (k p : Bytes) (ops : List CacheOp) (hw : ∀ op ∈ ops, op.sizeOk)
    (hp : CProtected c k p) (hrm : CacheOp.rm k ∉ ops) (hcl : CacheOp.clear ∉ ops) :
    (ops.foldl Cache.apply c).get k = some p := cprotected_run_get h k p ops hw hp hrm hcl
/-- if all residents of the target chunk are immune and it is at capacity the add is refused; a refused add leaves the
    WHOLE cache unchanged; an add never overwrites a present key -/
theorem cache_all_immune_refused (c : Cache) (k p : Bytes) (s : Int)
    (hall : ∀ it ∈ (c.chunkOf k).items, it.immune = true) (hex : (c.chunkOf k).exceeded c.cfg.chunkCfg = true)
    (hk : (c.get k).isSome = false) : c.hasOrAdd Variant.current k p s = (c, false, false) :=
  hasOrAdd_all_immune_refused c k p s hall hex hk
theorem cache_refusal_changes_nothing (c : Cache) (k p : Bytes) (s : Int) (c' : Cache)
    (h : c.hasOrAdd Variant.current k p s = (c', false, false)) : c' = c := refused_add_changes_nothing c k p s c' h
theorem cache_never_overwrites (c : Cache) (k p : Bytes) (s : Int) (hk : (c.get k).isSome = true) :
    c.hasOrAdd Variant.current k p s = (c, true, false) := hasOrAdd_present c k p s hk

/-! ### one chunk IS a FIFO queue with batch eviction: history-level refinement to an independent reference (SV.Immunity.FifoSpec:
    a queue of (key, payload, size) oldest first + a set of immune keys, no per-item flags) -/

theorem single_chunk_refines_fifo_queue (cfg : ChunkCfg) (ops : List COp)
    (hw : ∀ op ∈ ops, (match op with | .add _ _ s => 0 ≤ s | _ => True)) :
    let c := ops.foldl (Chunk.apply cfg) Chunk.empty
    let q := Q.run cfg Q.empty ops
    c.toQ = q ∧
    c.items.map (·.key) = q.queue.map (·.1) ∧
    c.items.map (·.payload) = q.queue.map (·.2.1) ∧
    c.items.map (·.size) = q.queue.map (·.2.2) ∧
    c.numBytes = q.bytes ∧
    c.immuneKeys = q.immune ∧
    Chunk.trace cfg Chunk.empty ops = Q.trace cfg Q.empty ops := chunk_run_refines_queue cfg ops hw
/-- the reference refuses an add exactly when the key is new, the queue is full and nothing is evictable (every resident immune,
    or batch size 0); a refused add changes nothing -/
theorem fifo_refusal_iff (cfg : ChunkCfg) (q : Q) (k p : Bytes) (size : Int) :
    ((q.add cfg k p size).2 = (false, false) ↔
      (q.has k = false ∧ q.full cfg = true ∧
        (cfg.numToEvict = 0 ∨ ∀ e ∈ q.queue, q.immune.contains e.1 = true))) ∧
    ((q.add cfg k p size).2 = (false, false) → (q.add cfg k p size).1 = q) := q_refusal_iff cfg q k p size

/-- on the faithful two-structure chunk (items map + linked list, SV/Immunity/ChunkLib.lean): an element flagged by
    ImmunizeKeys stays linked, flagged and retrievable through the map across every later history that does not remove its key -/
theorem immunized_element_survives_on_the_two_structure_chunk (cfg : ChunkCfg) {c : Lib.LChunk} (h : Lib.Coh c)
    (keys : List Bytes) {e : Lib.Elem} (he : e ∈ c.list) (hk : e.item.key ∈ keys) (ops : List Lib.Op)
    (hno : Lib.Op.remove e.item.key ∉ ops) :
    ∃ e' ∈ (Lib.finalState (Lib.LChunk.step cfg) c (Lib.Op.immunize keys :: ops)).list, Lib.SameElem e e' ∧ e'.item.immune = true ∧
      (Lib.finalState (Lib.LChunk.step cfg) c (Lib.Op.immunize keys :: ops)).getItem e.item.key = some e'.item :=
  Lib.lib_immunized_never_evicted cfg h keys he hk ops hno

end SV.Props.C12
