/-
  C08 — Persisters return the latest written value regardless of batching state.
-/
import SV.Persist.Proofs
import SV.GenProofs.Persist
import SV.FactsProofs.Batch
import SV.Persist.ShardedProofs
namespace SV.Props.C08
open SV SV.Persist

/-- Get/Has return the logical map (pending batch overlaid on LevelDB), whatever the batching state -/
theorem get_is_logical_map (p : P) (k : Bytes) : p.get Variant.current k = p.abs k := get_eq_abs p k
theorem has_agrees_with_get (p : P) (k : Bytes) : p.has Variant.current k = (p.get Variant.current k).isSome := rfl
/-- the logical map behaves like a plain map under Put and Remove — for every batch size — and is untouched by a flush -/
theorem put_then_read (p : P) (k k' : Bytes) (v : Val) (h : BInv p) : (p.put k v).abs k' = if k' = k then some v.bytes else p.abs k' :=
  abs_put p k k' v h
theorem remove_then_read (p : P) (k k' : Bytes) (h : BInv p) : (p.remove k).abs k' = if k' = k then none else p.abs k' :=
  abs_remove p k k' h
theorem flush_invisible (p : P) (k : Bytes) (h : BInv p) : p.flush.abs k = p.abs k := abs_flush p k (h.replay k)
/-- any history of Put/Remove with timer flushes and close/reopen anywhere, any MaxBatchSize ≥ 1 (values of any content,
    nil and empty included): every read is the read of a plain map -/
theorem history_refines_map (maxBatch : Nat) (hm : 1 ≤ maxBatch) (ops : List Op) (k : Bytes) :
    (ops.foldl P.step (P.init maxBatch [])).get Variant.current k = (ops.foldl specStep (fun _ => none)) k :=
  run_refines_map maxBatch hm ops k
/-- the in-memory persister is a plain map by definition; the sharded persister behaves as a single map (`sharded_history_refines_map` below, and C19) -/
theorem mem_is_a_map (m : Mem) (k k' : Bytes) (v : Val) (hk : k' ≠ k) :
    Mem.get (Mem.put m k v) k = some v.bytes ∧ Mem.get (Mem.put m k v) k' = Mem.get m k' :=
  ⟨alookup_aset_self k v.bytes m, alookup_aset_ne v.bytes m hk⟩
/-- F8 (pre-repair): a nil value in the pending batch read as absent -/
theorem legacy_F8 : ∃ (p : P) (k : Bytes), (p.put k ⟨true, []⟩).get Variant.legacy k ≠ (p.put k ⟨true, []⟩).abs k :=
  legacy_nil_counterexample

/-! ### tie by translation: the source's own leaf logic (regenerated into SV/Generated/Funcs.lean on every run) IS the model's -/
theorem source_flush_test_is_the_models (p : P) :
    p.bump = (if Gen.dbNoFlushNeeded (s_sizeBatch := p.sizeBatch) (s_maxBatchSize := p.maxBatch) then { p with sizeBatch := p.sizeBatch + 1 }
              else ({ p with sizeBatch := p.sizeBatch + 1 } : P).flush) ∧
    Gen.serialNoFlushNeeded (s_sizeBatch := p.sizeBatch) (s_maxBatchSize := p.maxBatch) = Gen.dbNoFlushNeeded (s_sizeBatch := p.sizeBatch) (s_maxBatchSize := p.maxBatch) := GenProofs.bump_eq p

/-- (regenerated fact) the pending batch's Put / Delete / Reset perform unconditionally exactly the model's three effects each -/
theorem batch_operations_have_the_models_effects :
    Facts.batchPutEffects = Facts.modelPutEffects ∧ Facts.batchDeleteEffects = Facts.modelDeleteEffects ∧
    Facts.batchResetEffects = Facts.modelResetEffects :=
  ⟨Facts.batch_put_effects, Facts.batch_delete_effects, Facts.batch_reset_effects⟩

/-- the SHARDED persister over batching persisters is one plain map over whole histories — any shard count ≥ 2, any batch
    size ≥ 1, timer flushes of all shards and close/reopen cycles anywhere -/
theorem sharded_history_refines_map (n maxBatch : Nat) (hn : 2 ≤ n) (hm : 1 ≤ maxBatch) (ops : List Op) (k : Bytes) :
    (ops.foldl Sharded.step (Sharded.init n maxBatch)).get Variant.current k = (ops.foldl specStep (fun _ => none)) k :=
  sharded_run_refines_map n maxBatch hn hm ops k

end SV.Props.C08
