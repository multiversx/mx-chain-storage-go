/-
  C13 — Immunity cache is a bounded FIFO map with exact accounting.
-/
import SV.Immunity.Proofs
import SV.GenProofs.Immunity
import SV.Immunity.CacheProofs
import SV.GenProofs.Config
import SV.Immunity.FifoSpec
import SV.Immunity.ChunkLib
namespace SV.Props.C13
open SV SV.Immunity

/-- every reachable chunk satisfies `ChunkInv`: at most maxNumItems items (so the cache, Σ over chunks of
    MaxNumItems / NumChunks, holds at most MaxNumItems), keys distinct, `immune` flags = membership in the immune-key set,
    NumBytes = Σ sizes (the clamp at 0 never fires), immune keys distinct (CountImmune = their number) -/
theorem chunk_invariant (cfg : ChunkCfg) (ops : List COp) (hm : 1 ≤ cfg.maxNumItems)
    (hw : ∀ op ∈ ops, (match op with | .add _ _ s => 0 ≤ s | _ => True)) :
    ChunkInv cfg (ops.foldl (Chunk.apply cfg) Chunk.empty) :=
  have _ := hm
  ChunkInv.run cfg ops hw
/-- HasOrAdd: has ⇔ the key was present; added ⇔ it became present (then with the given payload and size) -/
theorem flags_truthful (cfg : ChunkCfg) (c : Chunk) (k p : Bytes) (size : Int) :
    let r := c.addItem Variant.current cfg k p size
    r.2.1 = c.has k ∧ (r.2.2 = true ↔ (c.has k = false ∧ r.1.has k = true)) ∧
    (r.2.2 = true → ∃ it ∈ r.1.items, it.key = k ∧ it.payload = p ∧ it.size = size) := addItem_flags cfg c k p size
/-- the coded eviction is the reference FIFO eviction: remove the first n items (oldest first) whose key is not immune -/
theorem eviction_is_fifo (cfg : ChunkCfg) (c : Chunk) (h : ChunkInv cfg c) (n : Nat) :
    removeOldest n c.items = specRemoveOldest c.immuneKeys n c.items := removeOldest_eq_spec cfg c h n
theorem eviction_partition (n : Nat) (l : List Item) :
    ((removeOldest n l).1 ++ (removeOldest n l).2).Perm l ∧ (removeOldest n l).1.Sublist l ∧ (removeOldest n l).2.length ≤ n :=
  removeOldest_partition n l
/-- Remove withdraws current or future immunity -/
theorem remove_withdraws_immunity (c : Chunk) (k : Bytes) :
    k ∉ (c.removeItem k).1.immuneKeys ∧ (c.removeItem k).1.has k = false := removeItem_withdraws c k
/-- the ImmunizeKeys capacity gate: refused as a whole, unchanged, when CountImmune + |keys| > MaxNumItems -/
theorem immunize_gate (c : Cache) (keys : List Bytes) (h : c.countImmune + keys.length > c.cfg.maxNumItems) :
    c.immunizeKeys keys = (c, 0, 0) := Cache.immunizeKeys_refused c keys h

/-! ### tie by translation: the source's own leaf logic (regenerated into SV/Generated/Funcs.lean on every run) IS the model's -/
theorem source_capacity_test_is_the_models (cfg : ChunkCfg) (c : Chunk) :
    c.exceeded cfg = Gen.chunkExceeded (len_chunk_items := c.items.length) (chunk_config_maxNumItems := cfg.maxNumItems) (chunk_numBytes := c.numBytes) (chunk_config_maxNumBytes := cfg.maxNumBytes) := GenProofs.chunkExceeded_eq cfg c
theorem source_chunk_config_is_the_models (c : Config) :
    ((c.chunkCfg.maxNumItems : Nat) : Int) = Gen.chunkMaxNumItems (config_NumChunks := c.numChunks) (config_MaxNumItems := c.maxNumItems) ∧
    ((c.chunkCfg.maxNumBytes : Nat) : Int) = Gen.chunkMaxNumBytes (config_NumChunks := c.numChunks) (config_MaxNumBytes := c.maxNumBytes) ∧
    ((c.chunkCfg.numToEvict : Nat) : Int) = Gen.chunkNumItemsToEvict (config_NumChunks := c.numChunks) (config_NumItemsToPreemptivelyEvict := c.numItemsToEvict) := GenProofs.chunkCfg_eq c

/-! ### the whole cache (any number of chunks ≥ 1) — SV.Immunity.CacheProofs -/

/-- after ANY history of HasOrAdd/Put (sizes ≥ 0), Remove, ImmunizeKeys, Clear: the cache invariant holds and the cache
    never holds more than MaxNumItems items -/
theorem cache_never_exceeds_max (cfg : Config) (hn : 1 ≤ cfg.numChunks) (ops : List CacheOp) (hw : ∀ op ∈ ops, op.sizeOk) :
    CacheInv (ops.foldl Cache.apply (Cache.init cfg)) ∧ (ops.foldl Cache.apply (Cache.init cfg)).count ≤ cfg.maxNumItems :=
  ⟨CacheInv.run cfg hn ops hw, count_le_max_run cfg hn ops hw⟩
/-- Count, Len, Keys, ForEachItem, Get and Has describe the same set; NumBytes = Σ sizes; CountImmune = number of
    distinct immune keys -/
theorem cache_views_agree {c : Cache} (h : CacheInv c) :
    (∀ k p, c.get k = some p ↔ ∃ it ∈ c.items, it.key = k ∧ it.payload = p) ∧
    (c.items.map (·.key)).Nodup ∧ c.count = c.items.length ∧ c.numBytes = sumSz c.items ∧
    c.countImmune = c.immuneKeys.length ∧ c.immuneKeys.Nodup :=
  ⟨get_iff h, items_keys_nodup h, count_eq_length c, numBytes_eq_sum h, countImmune_eq_length c, immuneKeys_nodup h⟩
/-- HasOrAdd at cache level: has ⇔ was present; added ⇔ became present (then with the given payload) -/
theorem cache_flags_truthful {c : Cache} (h : CacheInv c) (k p : Bytes) (s : Int) :
    let r := c.hasOrAdd Variant.current k p s
    r.2.1 = (c.get k).isSome ∧ (r.2.2 = true ↔ ((c.get k).isSome = false ∧ (r.1.get k).isSome = true)) ∧
    (r.2.2 = true → r.1.get k = some p) := hasOrAdd_flags h k p s
/-- Remove withdraws the key's current or future immunity and no other -/
theorem cache_remove_withdraws_immunity {c : Cache} (h : CacheInv c) (k x : Bytes) :
    x ∈ (c.remove k).1.immuneKeys ↔ x ∈ c.immuneKeys ∧ x ≠ k := immuneKeys_remove h k x
/-- the ImmunizeKeys capacity gate refuses the call as a whole: no chunk, no view changes -/
theorem cache_immunize_gate_refuses_whole (c : Cache) (keys : List Bytes)
    (hg : c.countImmune + keys.length > c.cfg.maxNumItems) :
    c.immunizeKeys keys = (c, 0, 0) ∧
    (∀ i : Nat, (c.immunizeKeys keys).1.chunks[i]? = c.chunks[i]?) ∧
    (∀ k, (c.immunizeKeys keys).1.chunkOf k = c.chunkOf k) ∧
    (c.immunizeKeys keys).1.immuneKeys = c.immuneKeys ∧ (c.immunizeKeys keys).1.items = c.items :=
  immunize_gate_refuses_whole c keys hg

/-- for EVERY configuration accepted by `NewImmunityCache` / `NewCrossTxCache` (validity test translated from
    `CacheConfig.Verify` / `ConfigDestinationMe.verify`): invariant and capacity bound after any history -/
theorem holds_for_every_accepted_configuration (cfg : Config) (nameLen : Nat) (hacc : GenProofs.immunityAccepted cfg nameLen = true)
    (ops : List CacheOp) (hw : ∀ op ∈ ops, op.sizeOk) :
    CacheInv (ops.foldl Cache.apply (Cache.init cfg)) ∧ (ops.foldl Cache.apply (Cache.init cfg)).count ≤ cfg.maxNumItems :=
  have hb := GenProofs.immunityAccepted_bounds cfg nameLen hacc
  ⟨CacheInv.run cfg hb.2.1 ops hw, count_le_max_run cfg hb.2.1 ops hw⟩

/-! ### one chunk IS a FIFO queue with batch eviction: history-level refinement to an independent reference (SV.Immunity.FifoSpec:
    a queue of (key, payload, size) oldest first + a set of immune keys, no per-item flags) -/

theorem single_chunk_refines_fifo_queue (cfg : ChunkCfg) (ops : List COp)
    (hw : ∀ op ∈ ops, (match op with | .add _ _ s => 0 ≤ s | _ => True)) :
    let c := ops.foldl (Chunk.apply cfg) Chunk.empty
    let q := Q.run cfg Q.empty ops
    c.toQ = q ∧
    c.items.map (·.key) = q.queue.map (·.1) ∧
    c.items.map (·.payload) = q.queue.map (·.2.1) ∧
    c.items.map (·.size) = q.queue.map (·.2.2) ∧
    c.numBytes = q.bytes ∧
    c.immuneKeys = q.immune ∧
    Chunk.trace cfg Chunk.empty ops = Q.trace cfg Q.empty ops := chunk_run_refines_queue cfg ops hw
/-- the reference refuses an add exactly when the key is new, the queue is full and nothing is evictable (every resident immune,
    or batch size 0); a refused add changes nothing -/
theorem fifo_refusal_iff (cfg : ChunkCfg) (q : Q) (k p : Bytes) (size : Int) :
    ((q.add cfg k p size).2 = (false, false) ↔
      (q.has k = false ∧ q.full cfg = true ∧
        (cfg.numToEvict = 0 ∨ ∀ e ∈ q.queue, q.immune.contains e.1 = true))) ∧
    ((q.add cfg k p size).2 = (false, false) → (q.add cfg k p size).1 = q) := q_refusal_iff cfg q k p size
/-- victims are the oldest non-immune entries, in whole batches except possibly the last; eviction stops once the queue is not
    full any more or a batch came out short -/
theorem fifo_eviction_in_batches (cfg : ChunkCfg) {q q' : Q} (h : q.Wf) (he : q.evict cfg = some q') :
    1 ≤ cfg.numToEvict ∧ q.evictable ≠ [] ∧
    ∃ j, 1 ≤ j ∧ q' = q.without (q.evictable.take (j * cfg.numToEvict)) ∧
      (∀ i, 1 ≤ i → i < j → i * cfg.numToEvict ≤ q.evictable.length ∧
        (q.without (q.evictable.take (i * cfg.numToEvict))).full cfg = true) ∧
      (j * cfg.numToEvict ≤ q.evictable.length → q'.full cfg = false) ∧
      q'.count + min (j * cfg.numToEvict) q.evictable.length = q.count := q_batches cfg h he

/-! ### the chunk's two structures are not assumed coherent (SV/Immunity/ChunkLib.lean): the `items` map (key ↦ list element)
    and the `itemsAsList` linked list transcribed separately, every lookup going through the map to the element -/
/-- for every configuration and every history the faithful two-structure chunk returns what the one-list model returns, ends in
    the corresponding state, and its map and list are coherent (same keys, no dangling entry) -/
theorem two_structure_chunk_refines_the_model (cfg : ChunkCfg) (ops : List Lib.Op) :
    Lib.trace (Lib.LChunk.step cfg) Lib.LChunk.empty ops = Lib.trace (Lib.handStep cfg) Chunk.empty ops ∧
    (Lib.finalState (Lib.LChunk.step cfg) Lib.LChunk.empty ops).abs = Lib.finalState (Lib.handStep cfg) Chunk.empty ops ∧
    Lib.Coh (Lib.finalState (Lib.LChunk.step cfg) Lib.LChunk.empty ops) := Lib.lib_chunk_refines_model cfg ops
/-- `Count()` (the size of the MAP, as the code computes it) never exceeds the chunk's item limit, after any history -/
theorem map_count_never_exceeds_max (cfg : ChunkCfg) (ops : List Lib.Op) :
    (Lib.finalState (Lib.LChunk.step cfg) Lib.LChunk.empty ops).count ≤ cfg.maxNumItems := Lib.lib_count_le_max cfg ops

/-- the tie by translation for `NumBytes`: the two statements of the CURRENT source that change a chunk's byte counter are
    translated on every run and are the model's — an insertion adds the declared size; every removal (explicit, or one item
    of an eviction) subtracts the item's size and clamps at zero -/
theorem source_byte_counter_updates_are_the_models :
    (∀ b size : Int, b + size = Gen.chunkBytesAfterAdd (chunk_numBytes := b) (item_size := size)) ∧
    (∀ (c : Immunity.Chunk) (k : Bytes) (it : Immunity.Item), c.get k = some it →
        (c.removeItem k).1.numBytes = Gen.chunkBytesAfterRemove (chunk_numBytes := c.numBytes) (item_size := it.size)) ∧
    (∀ (b : Int) (removed : List Immunity.Item),
        Immunity.subBytes b removed =
          removed.foldl (fun b it => Gen.chunkBytesAfterRemove (chunk_numBytes := b) (item_size := it.size)) b) ∧
    Gen.chunkBytesAfterAdd_leaves = ["chunk.numBytes : Int", "item.size : Int"] ∧
    Gen.chunkBytesAfterRemove_leaves = ["chunk.numBytes : Int", "item.size : Int"] :=
  ⟨GenProofs.chunkBytes_add, GenProofs.chunkBytes_removeItem, GenProofs.subBytes_eq_source,
   GenProofs.chunkBytes_leaves.1, GenProofs.chunkBytes_leaves.2⟩

end SV.Props.C13
