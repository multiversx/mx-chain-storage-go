/-
  C15 — LRU and size-bounded LRU caches refine the reference LRU, flags and handlers too.
-/
import SV.LRU.Proofs
import SV.GenProofs.LRU
import SV.LRU.RefSpec
import SV.LRU.SimpleLruLib
import SV.LRU.CapacityLib
import SV.FactsProofs.Conc
namespace SV.Props.C15
open SV SV.LRU

/-- the sized cache keeps, after every operation: distinct keys, SizeInBytesContained = Σ resident sizes, and it
    fits its item and byte capacity — except that a single (the most recently written) entry always stays -/
theorem invariant_put (c : Cap) (k v : Bytes) (size : Int) (h : CapInv c) : CapInv (c.addSized Variant.current k v size).1 :=
  CapInv.addSized c k v size h
theorem invariant_hasOrAdd (c : Cap) (k v : Bytes) (size : Int) (h : CapInv c) : CapInv (c.addSizedIfMissing Variant.current k v size).1 :=
  CapInv.addSizedIfMissing c k v size h
theorem invariant_get (c : Cap) (k : Bytes) (h : CapInv c) : CapInv (c.get k).1 := CapInv.get c k h
theorem invariant_remove (c : Cap) (k : Bytes) (h : CapInv c) : CapInv (c.remove k).1 := CapInv.remove c k h
/-- eviction drops a SUFFIX of the recency list (the least recently used entries), stops as soon as the cache fits, and
    drops no more than needed: keeping one more entry would not fit -/
theorem eviction_drops_lru_suffix (c : Cap) (hb : c.bytes = sumSizes c.entries) :
    c.entries = (c.evictIfNeeded).1.entries ++ (c.evictIfNeeded).2.reverse ∧
    (c.evictIfNeeded).1.bytes = sumSizes (c.evictIfNeeded).1.entries ∧
    (c.evictIfNeeded).1.cap = c.cap ∧ (c.evictIfNeeded).1.maxBytes = c.maxBytes := evictIfNeeded_split c hb
theorem eviction_minimal (c : Cap) (hb : c.bytes = sumSizes c.entries) (hs : ∀ e ∈ c.entries, 0 ≤ e.size)
    (e : Entry) (rest : List Entry) (h : (c.evictIfNeeded).2.reverse = e :: rest) :
    ¬ Fits c.cap c.maxBytes ((c.evictIfNeeded).1.entries ++ [e]) :=
  have _ := hs
  evictIfNeeded_minimal c hb e rest h
/-- Put makes the written entry the most recently used one; a negative size is rejected without any effect -/
theorem put_refreshes (c : Cap) (k v : Bytes) (size : Int) (h : CapInv c) (hs : 0 ≤ size) :
    (c.addSized Variant.current k v size).1.entries.head? = some ⟨k, v, size⟩ := addSized_head c k v size h hs
theorem negative_size_rejected (c : Cap) (k v : Bytes) (size : Int) (h : CapInv c) (hs : size < 0) :
    c.addSized Variant.current k v size = (c, false) := addSized_negative c k v size h hs
/-- Put's flag says truthfully whether an eviction happened; every entry that left is reported -/
theorem evicted_flag_truthful (c : Cap) (k v : Bytes) (size : Int) (h : CapInv c) :
    let r := c.addSizedAndReturnEvicted Variant.current k v size
    (∀ e ∈ c.entries, e.key ≠ k → (e ∈ r.1.entries ∨ e ∈ r.2)) ∧
    (∀ e ∈ r.2, e ∈ c.entries ∧ e.key ≠ k ∧ r.1.has e.key = false) ∧
    ((c.addSized Variant.current k v size).2 = !r.2.isEmpty) ∧ (c.addSized Variant.current k v size).1 = r.1 :=
  addSizedAndReturnEvicted_conservation c k v size h
/-- Get refreshes recency (moves the key to the most-recent end of Keys), Peek/Has do not -/
theorem get_refreshes (c : Cap) (k : Bytes) (h : CapInv c) (hk : c.has k = true) :
    (c.get k).1.keys = (c.keys.filter (· != k)) ++ [k] :=
  have _ := h
  get_keys c k hk
/-- HasOrAdd: has ⇔ present; inserts iff absent and the size is valid -/
theorem hasOrAdd_flags (c : Cap) (k v : Bytes) (size : Int) (h : CapInv c) :
    let r := c.addSizedIfMissing Variant.current k v size
    r.2.1 = c.has k ∧ (c.has k = true → r.1 = c) ∧ (c.has k = false → 0 ≤ size → r.1.entries.head? = some ⟨k, v, size⟩) ∧
    (c.has k = false → size < 0 → r.1 = c) := addSizedIfMissing_flags c k v size h
/-- the plain (hashicorp) LRU: bounded; `Add` evicts iff the key is new and the cache full, and then exactly the least
    recently used entry goes and the written one is in front -/
theorem simple_bound (c : Simple) (k v : Bytes) (h : SimpleInv c) (hc : 1 ≤ c.cap) : SimpleInv (c.add k v).1 := SimpleInv.add c k v h hc
theorem simple_evicts_lru (c : Simple) (k v : Bytes) (h : SimpleInv c) (hc : 1 ≤ c.cap) :
    (c.add k v).2 = (!c.has k && decide (c.entries.length = c.cap)) ∧
    ((c.add k v).2 = true → (c.add k v).1.entries = (k, v) :: c.entries.dropLast) := Simple.add_evicted c k v h hc
/-- handlers: every Put and every inserting HasOrAdd yields exactly one invocation per registered handler -/
theorem put_invokes_each_handler_once (c : Cache) (k v : Bytes) (size : Int) :
    (c.put Variant.current k v size).2.2 = c.handlers.map (·, k, v) := put_notifies c k v size
theorem hasOrAdd_invokes_iff_added (c : Cache) (k v : Bytes) (size : Int) :
    let r := c.hasOrAdd Variant.current k v size
    r.2.2.2 = (if r.2.2.1 then c.handlers.map (·, k, v) else []) ∧ (r.2.1 = true → r.2.2.1 = false) := hasOrAdd_notifies c k v size
theorem registry_is_a_set (c : Cache) (id : String) (h : c.handlers.Nodup) :
    (c.register id).handlers.Nodup ∧ id ∈ (c.register id).handlers := register_nodup c id h
/-- F11 (pre-repair): a growth overwrite evicted silently -/
theorem legacy_F11 : ∃ (c : Cap) (k v : Bytes) (size : Int) (e : Entry),
    let r := c.addSizedAndReturnEvicted Variant.legacy k v size
    e ∈ c.entries ∧ e.key ≠ k ∧ e ∉ r.1.entries ∧ e ∉ r.2 ∧ (c.addSized Variant.legacy k v size).2 = false :=
  legacy_silent_eviction_counterexample

/-! ### tie by translation: the source's own leaf logic (regenerated into SV/Generated/Funcs.lean on every run) IS the model's -/
theorem source_eviction_test_is_the_models (c : Cap) :
    c.shouldEvict = Gen.lruShouldEvict (c_evictList_Len := c.entries.length) (c_size := c.cap) (c_currentCapacityInBytes := c.bytes) (c_maxCapacityInBytes := c.maxBytes) := GenProofs.lruShouldEvict_eq c

/-! ### whole histories against an INDEPENDENT reference LRU (SV.LRU.RefSpec: recency list least→most recent; a write removes the
    key, appends it as most recent and trims least-recent entries while over the item / byte capacity and more than one
    entry remains; Get refreshes, Peek/Has do not) -/

/-- the size-bounded LRU: for EVERY history of Put / HasOrAdd / Get / Peek / Has / Remove / Clear the outputs (flags, values) and
    the observations (Keys in order, values, SizeInBytesContained, Len) equal the reference's at every step -/
theorem sized_lru_refines_reference (cap : Nat) (maxBytes : Int) (ops : List LOp) :
    runTrace Cap.stepL Cap.obs (Cap.init cap maxBytes) ops
      = runTrace Ref.step Ref.obs (Ref.init cap (some maxBytes)) ops ∧
    (runFinal Cap.stepL (Cap.init cap maxBytes) ops).toRef = runFinal Ref.step (Ref.init cap (some maxBytes)) ops ∧
    CapInv (runFinal Cap.stepL (Cap.init cap maxBytes) ops) := cap_refines_ref cap maxBytes ops
/-- the plain LRU (hashicorp) against the same reference without a byte bound -/
theorem plain_lru_refines_reference (cap : Nat) (hc : 1 ≤ cap) (ops : List LOp) :
    runTrace Simple.stepL Simple.obs ⟨cap, []⟩ ops = runTrace Ref.step Ref.obs (Ref.init cap none) ops ∧
    (runFinal Simple.stepL ⟨cap, []⟩ ops).toRef = runFinal Ref.step (Ref.init cap none) ops ∧
    SimpleInv (runFinal Simple.stepL ⟨cap, []⟩ ops) := simple_refines_ref cap hc ops
/-- the reference, in the property's words: the entry just written always stays … -/
theorem reference_never_evicts_just_written (r : Ref) (k v : Bytes) (size : Int) (h : r.rejects size = false) :
    (r.put k v size).1.items.getLast? = some ⟨k, v, r.stored size⟩ ∧
    (r.put k v size).1.keys.getLast? = some k ∧
    (r.put k v size).1.has k = true ∧ (r.put k v size).1.peek k = some v := ref_never_evicts_just_written r k v size h
/-- … what is dropped is a prefix of the least→most recent order, no more than needed, and the flag says whether anything was dropped … -/
theorem reference_evicts_least_recent_first (r : Ref) (k v : Bytes) (size : Int) (h : r.rejects size = false) :
    ∃ dropped kept, r.without k = dropped ++ kept ∧
      (r.put k v size).1.items = kept ++ [⟨k, v, r.stored size⟩] ∧
      (r.put k v size).2 = !dropped.isEmpty ∧
      (∀ d e, dropped = d ++ [e] → Ref.exceeds r.cap r.maxBytes (e :: (r.put k v size).1.items) = true) :=
  ref_evicts_least_recent_first r k v size h
/-- … flags are truthful and SizeInBytesContained is the sum of the resident sizes -/
theorem reference_flags_truthful (r : Ref) (k v : Bytes) (size : Int) (h : r.WF) :
    ((r.put k v size).2 = true ↔ ∃ e ∈ r.items, e.key ≠ k ∧ (r.put k v size).1.has e.key = false) ∧
    ((r.hasOrAdd k v size).2.1 = r.has k) ∧
    ((r.hasOrAdd k v size).2.2 = true ↔ (r.has k = false ∧ (r.hasOrAdd k v size).1.has k = true)) ∧
    ((r.hasOrAdd k v size).2.2 = false → (r.hasOrAdd k v size).1 = r) := ref_flags_truthful r k v size h
theorem reference_bytes_is_sum (r : Ref) : r.bytes = (r.items.map (·.size)).sum := ref_bytes_is_sum r

/-! ### hashicorp `simplelru` is not assumed: the library's LRU (items map + evict list, `Add`/`Get`/`Contains`/`Peek`/
    `Remove`/`RemoveOldest`/`Keys`/`Purge`, the wrapper's `ContainsOrAdd`) transcribed in SV/LRU/SimpleLruLib.lean refines
    the plain-LRU model and, through it, the reference specification -/
/-- the library model under the `lruCache` wrapper produces, for every history, the trace of the reference specification -/
theorem library_lru_refines_reference (cap : Nat) (hc : 1 ≤ cap) (ops : List LOp) :
    SV.LRU.runTrace Lib.LRU.stepL Lib.LRU.obsL (Lib.LRU.new cap) ops
      = SV.LRU.runTrace Ref.step Ref.obs (Ref.init cap none) ops ∧
    (SV.LRU.runFinal Lib.LRU.stepL (Lib.LRU.new cap) ops).abs.toRef = SV.LRU.runFinal Ref.step (Ref.init cap none) ops ∧
    Lib.Inv (SV.LRU.runFinal Lib.LRU.stepL (Lib.LRU.new cap) ops) := Lib.lib_refines_reference cap hc ops
/-- directly on the library model: never more than `size` entries after any history -/
theorem library_lru_never_exceeds_size (size : Nat) (hs : 0 < size) (ops : List Lib.Op) :
    (Lib.finalState Lib.LRU.step (Lib.LRU.new size) ops).len ≤ size ∧
    (Lib.finalState Lib.LRU.step (Lib.LRU.new size) ops).items.length ≤ size := Lib.lib_len_le_size size hs ops
/-- directly on the library model: `Add` evicts iff the key is new and the cache is full, and then exactly the least
    recently used entry (reported to the callback once) -/
theorem library_lru_add_evicts_least_recent (c : Lib.LRU) (k v : Bytes) (h : Lib.Inv c) :
    (c.add k v).2.1 = (!c.contains k && decide (c.len = c.size)) ∧
    ((c.add k v).2.1 = false → (c.add k v).2.2 = []) ∧
    ((c.add k v).2.1 = true → ∃ o, Lib.DL.back c.evictList = some o ∧ (c.add k v).2.2 = [(o.key, o.val)] ∧
        c.keys.head? = some o.key ∧ (c.add k v).1.keys = c.keys.tail ++ [k] ∧
        (c.add k v).1.contains o.key = false) := Lib.lib_add_evicts_lru c k v h

/-! ### the size-bounded LRU's two structures and its byte counter are not assumed coherent (SV/LRU/CapacityLib.lean:
    `items` map ↦ list element, `evictList`, `currentCapacityInBytes` transcribed from capacityLRUCache.go) -/
/-- for every capacity pair and every history the faithful model produces the trace of the reference specification and ends
    coherent (same keys in map and list, counter = sum of the linked sizes, sizes ≥ 0, within limits or a single entry) -/
theorem two_structure_sized_lru_refines_reference (size maxBytes : Nat) (ops : List LOp) :
    SV.LRU.runTrace CapLib.LCap.stepL CapLib.LCap.obsL (CapLib.LCap.new size maxBytes) ops
      = SV.LRU.runTrace Ref.step Ref.obs (Ref.init size (some (maxBytes : Int))) ops ∧
    (SV.LRU.runFinal CapLib.LCap.stepL (CapLib.LCap.new size maxBytes) ops).abs.toRef
      = SV.LRU.runFinal Ref.step (Ref.init size (some (maxBytes : Int))) ops ∧
    CapLib.Inv (SV.LRU.runFinal CapLib.LCap.stepL (CapLib.LCap.new size maxBytes) ops) :=
  CapLib.lib_cap_refines_reference size maxBytes ops
/-- directly on the faithful model: never more than `size` entries (list and map alike) -/
theorem two_structure_sized_lru_len_bound (size maxBytes : Nat) (hs : 1 ≤ size) (ops : List CapLib.Op) :
    (CapLib.finalState CapLib.LCap.step (CapLib.LCap.new size maxBytes) ops).len ≤ size ∧
    (CapLib.finalState CapLib.LCap.step (CapLib.LCap.new size maxBytes) ops).items.length ≤ size :=
  CapLib.lib_len_le_size size maxBytes hs ops
/-- the byte counter (and `SizeInBytesContained`) is within the byte capacity unless a single oversized entry is held, and equals
    the sum of the resident sizes -/
theorem two_structure_sized_lru_bytes_bound (size maxBytes : Nat) (ops : List CapLib.Op) :
    let c := CapLib.finalState CapLib.LCap.step (CapLib.LCap.new size maxBytes) ops
    (c.cur ≤ (maxBytes : Int) ∨ c.len = 1) ∧ (c.sizeInBytesContained ≤ maxBytes ∨ c.len = 1) ∧
    (c.sizeInBytesContained : Int) = (c.evictList.map (·.sz)).sum :=
  CapLib.lib_bytes_le_max_unless_single size maxBytes ops

/-- (regenerated fact) the operations of the size-bounded LRU are single critical sections of its mutex in the CURRENT source —
    `Keys` included: the slice it fills is sized and filled under one lock, so the listing is a snapshot of one state -/
theorem sized_lru_operations_are_single_critical_sections :
    ∀ n ∈ ["lrucache/capacity:capacityLRU.AddSized", "lrucache/capacity:capacityLRU.AddSizedIfMissing",
           "lrucache/capacity:capacityLRU.AddSizedAndReturnEvicted", "lrucache/capacity:capacityLRU.Get",
           "lrucache/capacity:capacityLRU.Remove", "lrucache/capacity:capacityLRU.Keys"],
      (n, true) ∈ Facts.singleCriticalSection := Facts.sized_lru_sections

/-- the tie by translation for `SizeInBytesContained`: every statement of the CURRENT source that changes
    `currentCapacityInBytes` (`addNew`, `removeElement`, `adjustSize`) is translated on every run and is the update the model
    performs — insertion adds the declared size, eviction and removal subtract the size stored with the entry, an overwrite
    moves the counter by the difference -/
theorem source_byte_counter_updates_are_the_models :
    (∀ (c : LRU.Cap) (k v : Bytes) (size : Int),
        (c.addNew k v size).bytes = Gen.lruBytesAfterAdd (c_currentCapacityInBytes := c.bytes) (sizeInBytes := size)) ∧
    (∀ (c : LRU.Cap) (e : LRU.Entry), c.entries.getLast? = some e →
        c.removeOldest.1.bytes = Gen.lruBytesAfterRemove (c_currentCapacityInBytes := c.bytes) (kv_size := e.size)) ∧
    (∀ (c : LRU.Cap) (k : Bytes) (e : LRU.Entry), c.find k = some e →
        (c.remove k).1.bytes = Gen.lruBytesAfterRemove (c_currentCapacityInBytes := c.bytes) (kv_size := e.size)) ∧
    (∀ bytes size old : Int,
        bytes + (size - old) = Gen.lruBytesAfterResize (c_currentCapacityInBytes := bytes) (v_size := old) (sizeInBytes := size)) ∧
    Gen.lruBytesAfterAdd_leaves = ["c.currentCapacityInBytes : Int", "sizeInBytes : Int"] ∧
    Gen.lruBytesAfterRemove_leaves = ["c.currentCapacityInBytes : Int", "kv.size : Int"] ∧
    Gen.lruBytesAfterResize_leaves = ["c.currentCapacityInBytes : Int", "sizeInBytes : Int", "v.size : Int"] :=
  ⟨GenProofs.lruBytes_addNew, GenProofs.lruBytes_removeOldest, GenProofs.lruBytes_remove,
   fun b s o => (GenProofs.lruBytes_update_eq_source b s o).2,
   GenProofs.lruBytes_leaves.1, GenProofs.lruBytes_leaves.2.1, GenProofs.lruBytes_leaves.2.2⟩

end SV.Props.C15
