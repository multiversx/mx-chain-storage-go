/-
  C07 — Eviction removes only least-valuable per-sender suffixes, no more than needed.
-/
import SV.TxCache.EvictPost
import SV.GenProofs.TxThresholds
import SV.GenProofs.TxComparator
import SV.GenProofs.TxLists
import SV.TxCache.ReachableSize
import SV.TxCache.GoList
namespace SV.Props.C07
open SV SV.TxCache

/-- the victim taken at each step is the least valuable among the heads of all walks
    (lowest fee per gas unit; ties: smaller gas limit, then larger hash) -/
theorem takes_least_valuable (v : Variant) (heap : List HItem) (it : HItem) (rest : List HItem)
    (hd : (heap.map (·.cur.hash)).Nodup) (h : popWorst v heap = some (it, rest)) :
    ∀ other ∈ rest, moreValuable v other.cur it.cur = true :=
  popWorst_is_least_valuable v heap it rest hd h
/-- batches of exactly NumItemsToPreemptivelyEvict (or whatever is left) -/
theorem batch_size (v : Variant) (hv : v.evictionDropsPopped = false) (n : Nat) (heap : List HItem) (acc : List Tx) :
    (collectVictims v n heap acc).1.length = acc.length + min n ((heap.map (fun it => it.rest.length + 1)).sum) :=
  collectVictims_length v hv n heap acc
/-- a further batch is taken only while the pool is still over a threshold -/
theorem stops_when_within (v : Variant) (fuel : Nat) (p : Pool) (heap : List HItem) (h : p.exceeded = false) :
    evictLoop v fuel p heap = p := evictLoop_stops v fuel p heap h
/-- nothing is evicted while the pool is within thresholds -/
theorem noop_within_thresholds (v : Variant) (p : Pool) (h : p.exceeded = false) : evict v p = p := evict_noop v p h
/-- every surviving list is a PREFIX of the old one and everything cut has a nonce strictly above everything kept:
    each sender loses a suffix of its nonce order, same-nonce siblings go together, no gap is opened -/
theorem loses_nonce_suffix (v : Variant) (p : Pool) (hi : ListsInv p) (s : Bytes) (l' : List Tx)
    (h : (s, l') ∈ (evict v p).lists) :
    ∃ l suf, (s, l) ∈ p.lists ∧ l = l' ++ suf ∧ ∀ a ∈ l', ∀ b ∈ suf, a.nonce < b.nonce :=
  evict_lists_prefix v p hi s l' h
/-- evicted transactions disappear from every view: after eviction the two indexes and the counters still agree -/
theorem disappear_from_every_view (U : Bytes → Tx) (p : Pool) (h : Inv U p) : Inv U (evict Variant.current p) := Inv.evict U p h
/-- independence of the sender iteration order: the popped victim does not depend on the order of the heap -/
theorem victim_independent_of_order (v : Variant) (l l' : List HItem) (b : HItem) (r : List HItem)
    (hd : (l.map (·.cur.hash)).Nodup) (hp : l.Perm l') (h : popWorst v l = some (b, r)) :
    ∃ r', popWorst v l' = some (b, r') ∧ r.Perm r' :=
  popBy_perm_invariant _ l l' b r (popWorst_strictTotalOn v l) hd hp h

/-! ### tie by translation: the source's own leaf logic (regenerated into SV/Generated/Funcs.lean on every run) IS the model's -/
theorem source_threshold_tests_are_the_models (p : Pool) :
    p.exceeded =
      Gen.poolExceeded (cache_areThereTooManyBytes := (Gen.tooManyBytes (cache_NumBytes := (clampNat p.numBytes)) (cache_config_NumBytesThreshold := p.cfg.numBytesThreshold))) (cache_areThereTooManySenders := (Gen.tooManySenders (cache_CountSenders := (clampNat p.cntSenders)) (cache_config_CountThreshold := p.cfg.countThreshold))) (cache_areThereTooManyTxs := (Gen.tooManyTxs (cache_CountTx := (clampNat p.cntTx)) (cache_config_CountThreshold := p.cfg.countThreshold))) := GenProofs.poolExceeded_eq p
theorem source_comparator_is_the_models (a b : Tx) :
    moreValuable Variant.current a b =
      Gen.moreValuable (wrappedTx_PricePerUnit := (GenProofs.sat64 (a.ppu Variant.current))) (otherTransaction_PricePerUnit := (GenProofs.sat64 (b.ppu Variant.current))) (wrappedTx_Tx_GetGasLimit := a.gasLimit) (otherTransaction_Tx_GetGasLimit := b.gasLimit) (wrappedTx_TxHash := a.hash) (otherTransaction_TxHash := b.hash) (wrappedTx_computeExactPricePerUnit := (a.ppu Variant.current)) (otherTransaction_computeExactPricePerUnit := (b.ppu Variant.current)) := GenProofs.moreValuable_eq a b

/-! ### end to end, over every pool reachable by any history (SV/TxCache/ReachableSize.lean) -/
/-- eviction of any reachable pool cuts per-sender nonce suffixes: what is kept is a prefix, every kept nonce is below every cut one -/
theorem every_reachable_eviction_cuts_nonce_suffixes (cfg : Config) (ops : List Op) (s : Bytes) (l' : List Tx)
    (h : (s, l') ∈ (evict Variant.current (run cfg ops)).lists) :
    ∃ l suf, (s, l) ∈ (run cfg ops).lists ∧ l = l' ++ suf ∧ ∀ a ∈ l', ∀ b ∈ suf, a.nonce < b.nonce :=
  reachable_eviction_cuts_nonce_suffixes cfg ops s l' h
/-- nothing is evicted from a reachable pool that is within its thresholds -/
theorem every_reachable_eviction_noop_within (cfg : Config) (ops : List Op) (h : (run cfg ops).exceeded = false) :
    evict Variant.current (run cfg ops) = run cfg ops := reachable_eviction_noop_within_thresholds cfg ops h
/-- what eviction of a reachable pool removes from the sender lists is gone by hash too, what it keeps is still found -/
theorem every_reachable_evicted_disappear_everywhere (U : Bytes → Tx) (cfg : Config) (ops : List Op)
    (hw : ∀ t, Op.add t ∈ ops → WfTx U t) :
    Inv U (evict Variant.current (run cfg ops)) ∧
    ∀ t, (∃ s l, (s, l) ∈ (run cfg ops).lists ∧ t ∈ l) →
      (¬ ∃ s l, (s, l) ∈ (evict Variant.current (run cfg ops)).lists ∧ t ∈ l) →
      alookup t.hash (evict Variant.current (run cfg ops)).byHash = none :=
  reachable_evicted_disappear_everywhere U cfg ops hw
theorem every_reachable_survivor_stays_hashed (U : Bytes → Tx) (cfg : Config) (ops : List Op)
    (hw : ∀ t, Op.add t ∈ ops → WfTx U t) (s : Bytes) (l : List Tx) (t : Tx)
    (hm : (s, l) ∈ (evict Variant.current (run cfg ops)).lists) (ht : t ∈ l) :
    alookup t.hash (evict Variant.current (run cfg ops)).byHash = some t :=
  reachable_survivors_stay_hashed U cfg ops hw s l t hm ht

/-! ### the suffix cut: tie by translation, and over the transcribed `container/list` (SV/TxCache/GoList.lean) -/
/-- the cut of a sender's suffix walks from the back and stops where the source's loop breaks (first nonce below the cut) -/
theorem source_suffix_cut_is_the_models (n : Nat) (c : Tx) (rest : List Tx) :
    dropHigherRev n (c :: rest) =
      (if Gen.removeHigherStops (txNonce := c.nonce) (givenNonce := n) = [true] then c :: rest else dropHigherRev n rest) :=
  GenProofs.dropHigherRev_cons_eq_source n c rest

open GoList in
/-- the suffix cut of eviction (`removeTransactionsWithHigherOrEqualNonce`, walking `Back()/Prev()` and saving `Prev()` before
    `Remove`) over the transcribed `container/list` is the model's `keepLower`; the hashes come out from the back -/
theorem go_list_suffix_cut_is_the_models (k : Nat) {s : SenderList} (h : SWF s) :
    SWF (s.removeHigherOrEqual k).1
    ∧ (s.removeHigherOrEqual k).1.items.toList = keepLower k s.items.toList
    ∧ (s.removeHigherOrEqual k).2
        = ((s.items.toList.drop (keepLower k s.items.toList).length).reverse).map (·.hash) := removeHigherOrEqual_refines k h

end SV.Props.C07
