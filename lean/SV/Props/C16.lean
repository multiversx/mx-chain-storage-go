/-
  C16 — A storage unit keeps its cache and its persister coherent.
-/
import SV.Misc.UnitProofs
import SV.Misc.UnitReal
import SV.GenProofs.Config
import SV.FactsProofs.Unit
namespace SV.Props.C16
open SV SV.Unit SV.UnitReal

/-- after ANY history of Put/Get/Remove/ClearCache — with ANY cache evictions (the cacher is arbitrary) and ANY persister
    faults — the unit is coherent (its cache never serves a value different from what its persister holds) and Get / Has
    answer exactly like the map of acknowledged writes -/
theorem behaves_like_map_of_acknowledged_writes (ops : List Op) (k : Bytes) (keep : List Bytes) :
    let u := ops.foldl U.step U.init
    Coherent u ∧ (u.get k false keep).2 = (ops.foldl ackStep (fun _ => none)) k ∧ u.has k = ((ops.foldl ackStep (fun _ => none)) k).isSome :=
  run_spec ops k keep
/-- if the persister rejects a Put the error is returned, the persister is unchanged and the rejected value is not served afterwards -/
theorem rejected_put (u : U) (k v : Bytes) (keep keep' : List Bytes) (h : Coherent u) :
    (u.put k v true keep).2 = false ∧ (u.put k v true keep).1.db = u.db ∧
    ((u.put k v true keep).1.get k false keep').2 = alookup k u.db :=
  have _ := h
  ⟨by simpa using (put_db u k v true keep).1, by simpa using (put_db u k v true keep).2, rejected_put_not_served u k v keep keep'⟩
/-- Remove removes the key from both layers -/
theorem remove_both_layers (u : U) (k : Bytes) :
    alookup k (u.remove k false).1.cache = none ∧ alookup k (u.remove k false).1.db = none := remove_clears u k
/-- a read never changes the persister -/
theorem get_is_readonly (u : U) (k : Bytes) (fail : Bool) (keep : List Bytes) : (u.get k fail keep).1.db = u.db := get_db u k fail keep

/-! ### the unit over the REAL cachers (SV.Misc.UnitReal): every cacher the factory builds is an instance of the abstract
    cacher ("write the entry, then keep some subset"), so the statements above hold for the storage unit written exactly
    as storageunit.go calls its cacher — over the capacity LRU, the hashicorp LRU and the FIFO sharded cache -/

theorem real_cachers_satisfy_the_contract (vr : LRU.Variant) (size : Nat) :
    (capCacher vr).Lawful ∧ simpleCacher.Lawful ∧ (fifoCacher size).Lawful ∧ (lruCacher vr).Lawful :=
  ⟨capCacher_lawful vr, simpleCacher_lawful, fifoCacher_lawful size, lruCacher_lawful vr⟩
theorem unit_over_size_lru (vr : LRU.Variant) (cap : Nat) (maxBytes : Int) (rops : List ROp) (k : Bytes) :
    let u := rops.foldl RU.step (RU.init (LRU.Cap.init cap maxBytes) : RU (capCacher vr))
    LRU.CapInv u.cache ∧ RCoherent u ∧ (u.get k false).2 = (rops.foldl rackStep (fun _ => none)) k ∧
      u.has k = ((rops.foldl rackStep (fun _ => none)) k).isSome := capUnit_run_spec vr cap maxBytes rops k
theorem unit_over_lru (cap : Nat) (rops : List ROp) (k : Bytes) :
    let u := rops.foldl RU.step (RU.init (⟨cap, []⟩ : LRU.Simple) : RU simpleCacher)
    LRU.SimpleInv u.cache ∧ RCoherent u ∧ (u.get k false).2 = (rops.foldl rackStep (fun _ => none)) k ∧
      u.has k = ((rops.foldl rackStep (fun _ => none)) k).isSome := simpleUnit_run_spec cap rops k
theorem unit_over_fifo (size n : Nat) (hn : 1 ≤ n) (rops : List ROp) (k : Bytes) :
    let u := rops.foldl RU.step (RU.init (Fifo.Cache.init size n) : RU (fifoCacher size))
    Fifo.CacheInv size u.cache ∧ RCoherent u ∧ (u.get k false).2 = (rops.foldl rackStep (fun _ => none)) k ∧
      u.has k = ((rops.foldl rackStep (fun _ => none)) k).isSome := fifoUnit_run_spec size n hn rops k
theorem real_unit_rejected_put_not_served {C : Cacher} (L : C.Lawful) (u : RU C) (k v : Bytes) (hi : C.Inv u.cache)
    (h : RCoherent u) : ((u.put k v true).1.get k false).2 = alookup k u.db :=
  have _ := h
  realUnit_rejected_put_not_served L u k v hi

/-- the factory refuses a unit whose persister batch is larger than its cache (translated from `NewStorageUnitFromConf`) -/
theorem factory_refuses_batch_larger_than_cache (maxBatch capacity : Nat) (h : Gen.unitConfRejected (dbConf_MaxBatchSize := maxBatch) (cacheConf_Capacity := capacity) = false) :
    maxBatch ≤ capacity := GenProofs.unitConf_accepted maxBatch capacity h

/-- (regenerated fact) Put, Get (lookup + persister read + refill), Has and Remove each hold the unit lock for their whole body:
    the two layers are updated under one lock, so concurrent calls are serialised and the sequential statements apply -/
theorem unit_operations_hold_the_lock_throughout :
    (Facts.unitGetSingleSection && Facts.unitPutSingleSection && Facts.unitRemoveSingleSection && Facts.unitHasSingleSection) = true :=
  Facts.unit_operations_are_single_sections

end SV.Props.C16
