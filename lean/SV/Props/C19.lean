/-
  C19 — Shard routing is total, in range and stable.
  Property theorems only; helper lemmas live in SV.ShardProofs (routing) and SV.Persist.ShardedProofs (the sharded persister).
-/
import SV.ShardProofs
import SV.Persist.Proofs
import SV.Persist.ShardedProofs
import SV.GenProofs.Shard
namespace SV.Props.C19
open SV SV.Shard

/-- For every shard count `n ≥ 2` and every key (any length, including empty) the id is in `[0,n)`.
    `computeId` is a total function, so totality and stability (same key ⇒ same id) are definitional. -/
theorem id_in_range (n : Nat) (key : Bytes) (h : 2 ≤ n) : computeId n key < n :=
  computeId_lt n key h

/-- The id depends only on the key's trailing `bytesNeeded n` bytes. -/
theorem id_depends_on_suffix_only (n : Nat) (pre pre' suf : Bytes) (h : suf.length = bytesNeeded n) :
    computeId n (pre ++ suf) = computeId n (pre' ++ suf) := by
  rw [computeId_suffix n pre suf h, computeId_suffix n pre' suf h]

/-- Every id in `[0,n)` is produced by some key (for every shard count the constructor accepts). -/
theorem id_onto (n i : Nat) (hv : validCount n = true) (hi : i < n) : ∃ key : Bytes, computeId n key = i := by
  simp only [validCount, Bool.and_eq_true, decide_eq_true_eq] at hv
  exact ⟨beKey (bytesNeeded n) i, computeId_onto n i hv.1 hv.2 hi⟩

/-- The run-length encoding the driver prints for the exhaustive mask comparison is sound for the
    model's masks: every `n` inside a printed segment has exactly the printed masks. -/
theorem mask_segments_sound (a b : Nat) (ha : 2 ≤ a) (hb : b - a < 2 ^ 64) :
    ∀ s ∈ mergeSegs (segs 64 a b), ∀ n, s.1 ≤ n → n ≤ s.2.1 → triple n = s.2.2 :=
  fun s hs => mergeSegs_sound _ (segs_sound 64 a b ha hb) s hs

/-- a sharded persister routes every operation on a key to one and the same underlying persister and therefore behaves
    as a single map (reads after Put / Remove), for every shard count ≥ 2 and every batch size -/
theorem sharded_put_then_read (s : Persist.Sharded) (k k' : Bytes) (v : Persist.Val) (h : Persist.SInv s) :
    (s.put k v).get Persist.Variant.current k' = if k' = k then some v.bytes else s.get Persist.Variant.current k' :=
  Persist.sharded_get_put s k k' v h
theorem sharded_remove_then_read (s : Persist.Sharded) (k k' : Bytes) (h : Persist.SInv s) :
    (s.remove k).get Persist.Variant.current k' = if k' = k then none else s.get Persist.Variant.current k' :=
  Persist.sharded_get_remove s k k' h
theorem sharded_invariant (s : Persist.Sharded) (k : Bytes) (v : Persist.Val) (h : Persist.SInv s) : Persist.SInv (s.put k v) :=
  Persist.SInv.put s k v h
/-- RangeKeys of the sharded persister is the union (concatenation) of the shards' ranges, by definition -/
theorem sharded_range_is_union (s : Persist.Sharded) : s.range = s.shards.flatMap Persist.P.range := rfl

-- non-vacuity: concrete instances
example : computeId 5 [0xff, 0xff, 0x07] = 3 := by decide +kernel
example : validCount 300 = true ∧ computeId 300 (beKey (bytesNeeded 300) 299) = 299 := by decide +kernel
example : bytesNeeded 300 = 2 ∧ computeId 300 ([1, 2, 3] ++ [1, 2]) = computeId 300 ([] ++ [1, 2]) := by decide +kernel

/-- whole histories: the sharded persister behaves as a single map, and after a flush RangeKeys visits the union of all shards —
    exactly the logical map, each key once (every key lives only in the shard its id routes to) -/
theorem sharded_history_is_one_map (n maxBatch : Nat) (hn : 2 ≤ n) (hm : 1 ≤ maxBatch) (ops : List Persist.Op) (k : Bytes) :
    (ops.foldl Persist.Sharded.step (Persist.Sharded.init n maxBatch)).get Persist.Variant.current k
      = (ops.foldl Persist.specStep (fun _ => none)) k := Persist.sharded_run_refines_map n maxBatch hn hm ops k
theorem sharded_range_visits_the_union_once (n maxBatch : Nat) (hn : 2 ≤ n) (hm : 1 ≤ maxBatch) (ops : List Persist.Op) :
    (((ops ++ [Persist.Op.tick]).foldl Persist.Sharded.step (Persist.Sharded.init n maxBatch)).range.map (·.1)).Nodup ∧
    ∀ k, alookup k ((ops ++ [Persist.Op.tick]).foldl Persist.Sharded.step (Persist.Sharded.init n maxBatch)).range
      = (ops.foldl Persist.specStep (fun _ => none)) k := Persist.sharded_run_range n maxBatch hn hm ops

/-- the tie by translation: the two tests of `ComputeId` in the CURRENT source (which bytes of the key are read; when the low
    mask replaces the high one) are the model's, and they read exactly the operands pinned here -/
theorem source_computeId_tests_are_the_models (n : Nat) (key : Bytes) (hn : 1 ≤ n) :
    suffixOf n key =
      (if Gen.shardKeepsWholeKey (len_key := key.length) (sp_bytesNeeded := bytesNeeded n)
       then key.drop (key.length - bytesNeeded n) else key) ∧
    computeId n key =
      (let addr := foldAddr (suffixOf n key)
       if Gen.shardFallsBackToLowMask (shardIndex := ((addr &&& maskHigh n : Nat) : Int)) (sp_numOfShards := n)
       then addr &&& maskLow n else addr &&& maskHigh n) ∧
    Gen.shardKeepsWholeKey_leaves = ["len(key) : Int", "sp.bytesNeeded : Int"] ∧
    Gen.shardFallsBackToLowMask_leaves = ["shardIndex : Int", "sp.numOfShards : Int"] :=
  ⟨GenProofs.suffixOf_eq_source n key, GenProofs.computeId_eq_source n key hn,
   GenProofs.shardKeepsWholeKey_leaves, GenProofs.shardFallsBackToLowMask_leaves⟩

end SV.Props.C19
