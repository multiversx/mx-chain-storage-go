/-
  C01 — Selection yields per sender a gap-free nonce run starting at the account nonce.
  Property theorems only; proofs in SV.TxCache.SelProofs / OrderProofs / EvictInv / ReachableProofs / SessionWrapper
  and SV.GenProofs.TxSelection.
-/
import SV.TxCache.SelProofs
import SV.TxCache.OrderProofs
import SV.TxCache.EvictInv
import SV.TxCache.ReachableProofs
import SV.GenProofs.TxSelection
import SV.TxCache.SessionWrapper
namespace SV.Props.C01
open SV SV.TxCache

/-- For every sender, the nonces of the selected transactions, in result order, are exactly
    `accountNonce, accountNonce+1, …` (so: strictly consecutive, increasing, no (sender, nonce) twice, lowest = the
    session's account nonce, 0 when the session cannot resolve the account) — for ANY bunches that are single-sender and
    nonce-sorted, any session answers, any gas/count limits, any time-budget oracle, and ANY pop policy (the heap order
    plays no role for this property). -/
theorem nonce_run (v : Variant) (pick : List HItem → Option (HItem × List HItem)) (hp : PickOk pick)
    (s : Session) (q : SelParams) (bunches : List (List Tx))
    (hb : ∀ b ∈ bunches, BunchOk b) (hd : BunchesDistinct bunches) (fuel : Nat) (snd : Bytes) :
    ∃ k, noncesOf snd (selectLoop v pick s q fuel (initHeap bunches) (fun _ => 0) 0 []).1 = List.range' (s.nonce snd) k :=
  selectLoop_nonce_run v pick hp s q bunches hb hd fuel snd

/-- the code's selection (best-first pop) is an instance -/
theorem nonce_run_select (v : Variant) (s : Session) (q : SelParams) (bunches : List (List Tx))
    (hb : ∀ b ∈ bunches, BunchOk b) (hd : BunchesDistinct bunches) (snd : Bytes) :
    ∃ k, noncesOf snd (selectFromBunches v s q bunches).1 = List.range' (s.nonce snd) k :=
  selectLoop_nonce_run v (popBest v) (popBest_pickOk v) s q bunches hb hd _ snd

/-- every pool reachable by AddTx/RemoveTxByHash/Clear delivers lists that are strictly sorted (hence nonce-sorted),
    one sender each — the hypothesis of `nonce_run` is met by every reachable pool -/
theorem reachable_lists_sorted (U : Bytes → Tx) (cfg : Config) (ops : List Op) (hw : ∀ t, Op.add t ∈ ops → WfTx U t) :
    ListsSorted (ops.foldl applyOp (Pool.init cfg)) :=
  ListsSorted.reachable U cfg ops hw

-- non-vacuity: a concrete pool with a gap, a duplicate nonce and two senders
example :
    let t (h : UInt8) (s : UInt8) (n : Nat) : Tx := ⟨[h], [s], n, 1, 10, 1, 10, 0, []⟩
    let bunches := [[t 1 0xa0 0, t 2 0xa0 1, t 3 0xa0 1, t 4 0xa0 3], [t 5 0xa1 0]]
    let s : Session := ⟨fun _ => 0, fun _ => 1000, fun _ => false⟩
    ((selectFromBunches Variant.current s ⟨1000, 10, fun _ => false, 10⟩ bunches).1.map (·.hash)) = [[1], [2], [5]] := by
  decide +kernel

/-- END-TO-END: for the pool reached by ANY history of AddTx (with or without eviction) / RemoveTxByHash / Clear, any
    session, any limits, any sender: the selected nonces are `accountNonce, accountNonce+1, …` in result order -/
theorem nonce_run_of_every_reachable_pool (U : Bytes → Tx) (cfg : Config) (ops : List Op)
    (hw : ∀ t, Op.add t ∈ ops → WfTx U t) (s : Session) (q : SelParams) (snd : Bytes) :
    ∃ k, noncesOf snd (select Variant.current (ops.foldl applyOp (Pool.init cfg)) s q).1 = List.range' (s.nonce snd) k :=
  reachable_nonce_run U cfg ops hw s q snd

/-! ### tie by translation: the source's own leaf logic (regenerated into SV/Generated/Funcs.lean on every run) IS the model's -/
theorem source_detectors_are_the_models (s : Session) (consumed : Bytes → Nat) (it : HItem) :
    classify s consumed it =
      (if Gen.initialGap (item_latestSelectedTransaction_nil := it.latest.isNone) (item_currentTransactionNonce := it.cur.nonce) (senderNonce := (s.nonce it.cur.sender)) then .dropSender
       else if Gen.middleGap (item_latestSelectedTransaction_nil := it.latest.isNone) (item_currentTransactionNonce := it.cur.nonce) (item_latestSelectedTransactionNonce := (it.latest.getD 0 : Nat)) then .dropSender
       else if Gen.feeExceedsBalance (tx_Fee := it.cur.fee) (fee_nil := false) (tx_FeePayer := 0) (sessionWrapper_getAccountRecord_feePayer := 0) (feePayerRecord_consumedBalance := (consumed it.cur.payer)) (feePayerRecord_initialBalance := (s.balance it.cur.payer)) then .dropSender
       else if Gen.lowerNonce (item_currentTransactionNonce := it.cur.nonce) (senderNonce := (s.nonce it.cur.sender)) then .skipTx
       else if s.badGuard it.cur then .skipTx
       else if Gen.nonceDuplicate (item_latestSelectedTransaction_nil := it.latest.isNone) (item_currentTransactionNonce := it.cur.nonce) (item_latestSelectedTransactionNonce := (it.latest.getD 0 : Nat)) then .skipTx
       else .take) := GenProofs.classify_uses_generated_detectors s consumed it

/-! ### the real selection session is an external, possibly stateful object: the code reads it through a memoising wrapper
    (`selectionSessionWrapper.getAccountRecord`); `SV.TxCache.SessionWrapper` models that wrapper over an ARBITRARY oracle
    (answers may differ from call to call, may fail) and proves it refines the pure session of first answers -/

/-- whatever the session answers, the wrapper-threaded selection equals the model's selection for the session of FIRST answers -/
theorem wrapper_refines_pure_session (v : Variant) (pick : List HItem → Option (HItem × List HItem)) (o : SW.Oracle)
    (guard : Tx → Bool) (q : SelParams) (fuel : Nat) (heap : List HItem) :
    SW.selectLoopW v pick o guard q fuel heap SW.W.empty 0 [] =
      selectLoop v pick (SW.firstAnswers v pick o guard q fuel heap) q fuel heap (fun _ => 0) 0 [] :=
  SW.selectLoopW_refines v pick o guard q fuel heap
/-- hence, for ANY oracle: per sender the selected nonces are consecutive and start at the nonce reported at the FIRST (only)
    query for that sender — 0 on a lookup error or if the sender was never looked up -/
theorem nonce_run_for_any_session_oracle (v : Variant) (pick : List HItem → Option (HItem × List HItem)) (hp : PickOk pick)
    (o : SW.Oracle) (guard : Tx → Bool) (q : SelParams) (bunches : List (List Tx))
    (hb : ∀ b ∈ bunches, BunchOk b) (hd : BunchesDistinct bunches) (fuel : Nat) (snd : Bytes) :
    ∃ k, noncesOf snd (SW.selectLoopW v pick o guard q fuel (initHeap bunches) SW.W.empty 0 []).1 =
      List.range'
        (match (SW.finalW v pick o guard q fuel (initHeap bunches) SW.W.empty 0 []).queryIndex snd with
          | some i => ((o i snd).map (·.1)).getD 0
          | none => 0) k := SW.selectLoopW_nonce_run v pick hp o guard q bunches hb hd fuel snd
/-- each account is looked up at most once per selection -/
theorem each_account_looked_up_once (v : Variant) (pick : List HItem → Option (HItem × List HItem)) (o : SW.Oracle)
    (guard : Tx → Bool) (q : SelParams) (fuel : Nat) (heap : List HItem) :
    (SW.finalW v pick o guard q fuel heap SW.W.empty 0 []).calls
        = ((SW.finalW v pick o guard q fuel heap SW.W.empty 0 []).records.map (·.1)).length ∧
    ((SW.finalW v pick o guard q fuel heap SW.W.empty 0 []).records.map (·.1)).Nodup :=
  SW.getRecord_at_most_once v pick o guard q fuel heap

end SV.Props.C01
