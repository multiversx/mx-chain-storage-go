/-
  C03 — Selection order is the deterministic fee-per-gas greedy merge across senders.
-/
import SV.TxCache.OrderProofs
import SV.TxCache.SelOrderProofs
import SV.TxCache.GreedySpec
import SV.TxCache.HeapModel
import SV.TxCache.ReachableProofs
import SV.GenProofs.TxComparator
import SV.TxCache.ChunkedMap
namespace SV.Props.C03
open SV SV.TxCache

/-- fee per gas unit used for ordering is floor(fee / gasLimit) for EVERY fee (no truncation to 64 bits), 0 for gasLimit 0 -/
theorem ppu_is_floor (t : Tx) : t.ppu Variant.current = if t.gasLimit = 0 then 0 else t.fee / t.gasLimit := by
  unfold Tx.ppu; simp [Variant.current]

/-- the comparator (higher fee per gas unit, then larger gas limit, then smaller hash) is a strict total order on
    transactions with different hashes: every pair is ordered, so "the best candidate" is unique -/
theorem comparator_strict_total (v : Variant) :
    (∀ a, moreValuable v a a = false) ∧
    (∀ a b c, moreValuable v a b = true → moreValuable v b c = true → moreValuable v a c = true) ∧
    (∀ a b, a.hash ≠ b.hash → moreValuable v a b = true ∨ moreValuable v b a = true) :=
  ⟨moreValuable_irrefl v, moreValuable_trans v, moreValuable_total v⟩

/-- each step takes, among the next pending transactions of the senders still in play, THE most valuable one -/
theorem pops_the_best (v : Variant) (heap : List HItem) (b : HItem) (r : List HItem)
    (hd : (heap.map (·.cur.hash)).Nodup) (h : popBest v heap = some (b, r)) :
    ∀ i ∈ r, moreValuable v b.cur i.cur = true :=
  popBy_best (moreValuable v) heap b r (popBest_strictTotalOn v heap) hd h

/-- the result depends only on the SET of bunches: not on insertion order, map iteration order or chunk count -/
theorem order_independent (v : Variant) (s : Session) (q : SelParams) (bunches bunches' : List (List Tx))
    (hp : bunches.Perm bunches') (hn : (bunches.flatten.map (·.hash)).Nodup) :
    selectFromBunches v s q bunches = selectFromBunches v s q bunches' :=
  selectFromBunches_perm v s q bunches bunches' hp hn

/-- lowering maxNum, gasRequested or the time budget yields a prefix -/
theorem stricter_limits_give_prefix (v : Variant) (hv : v.gasWraps = false) (s : Session) (q' q : SelParams) (hs : Stricter q' q)
    (bunches : List (List Tx)) : (selectFromBunches v s q' bunches).1 <+: (selectFromBunches v s q bunches).1 :=
  selectFromBunches_prefix v hv s q' q hs bunches

/-- the model's selection IS the documented procedure: `greedy` (SV.TxCache.GreedySpec) is written independently in the
    README's vocabulary — players with a queue and an expectation (first / after n), an explicit argmax over the heads,
    budget tests, then sender-level hazards (initial gap, middle gap, unaffordable fee: drop the sender), then
    transaction-level hazards (stale, badly guarded, duplicate nonce: skip one) — and returns the same list and gas -/
theorem equals_documented_greedy_procedure (v : Variant) (s : Session) (q : SelParams) (bunches : List (List Tx))
    (hn : (bunches.flatten.map (·.hash)).Nodup) : selectFromBunches v s q bunches = greedy v s q bunches :=
  selectFromBunches_eq_greedy v s q bunches hn

/-- Go's container/heap is not assumed: a faithful functional model of heap.Push/Pop (binary heap in a slice, sift-up /
    sift-down transcribed from the Go source; selection.go calls heap.Init on the EMPTY heap only, where it does nothing,
    so it is not transcribed) threaded through the same loop returns exactly what the extract-best abstraction returns -/
theorem container_heap_refines_extract_best (v : Variant) (s : Session) (q : SelParams) (bunches : List (List Tx))
    (hn : (bunches.flatten.map (·.hash)).Nodup) :
    Heap.selectFromBunchesHeap v s q bunches = selectFromBunches v s q bunches :=
  Heap.selectFromBunchesHeap_eq v s q bunches hn

/-- selection is a pure function of (pool, session, limits): `select` returns no pool, the pool is unchanged by
    construction; repeatability is then reflexivity -/
theorem repeatable (v : Variant) (p : Pool) (s : Session) (q : SelParams) : select v p s q = select v p s q := rfl

/-- F2 (pre-repair): PPU from the low 64 bits of the fee -/
theorem legacy_ppu_truncates : (⟨[1], [2], 0, 1, 1, 1, two64 + 5, 0, []⟩ : Tx).ppu Variant.legacy = 5 := by decide +kernel

/-- END-TO-END: on every reachable pool the selection IS the documented greedy procedure and depends only on the SET of
    sender lists (any other map iteration / insertion order of the senders gives the same result) -/
theorem greedy_on_every_reachable_pool (U : Bytes → Tx) (cfg : Config) (ops : List Op)
    (hw : ∀ t, Op.add t ∈ ops → WfTx U t) (s : Session) (q : SelParams) :
    let p := ops.foldl applyOp (Pool.init cfg)
    select Variant.current p s q = greedy Variant.current s q (p.lists.map (·.2)) ∧
    (∀ L' : List (Bytes × List Tx), L'.Perm p.lists →
      selectFromBunches Variant.current s q (L'.map (·.2)) = select Variant.current p s q) ∧
    (∀ p' : Pool, p'.lists.Perm p.lists → select Variant.current p' s q = select Variant.current p s q) :=
  reachable_selection_is_greedy U cfg ops hw s q

/-! ### tie by translation: the source's own leaf logic (regenerated into SV/Generated/Funcs.lean on every run) IS the model's -/
theorem source_comparator_is_the_models (a b : Tx) :
    moreValuable Variant.current a b =
      Gen.moreValuable (wrappedTx_PricePerUnit := (GenProofs.sat64 (a.ppu Variant.current))) (otherTransaction_PricePerUnit := (GenProofs.sat64 (b.ppu Variant.current))) (wrappedTx_Tx_GetGasLimit := a.gasLimit) (otherTransaction_Tx_GetGasLimit := b.gasLimit) (wrappedTx_TxHash := a.hash) (otherTransaction_TxHash := b.hash) (wrappedTx_computeExactPricePerUnit := (a.ppu Variant.current)) (otherTransaction_computeExactPricePerUnit := (b.ppu Variant.current)) := GenProofs.moreValuable_eq a b
theorem source_comparator_reads (_ : Unit) :
    Gen.moreValuable_leaves = ["otherTransaction.PricePerUnit : Int", "otherTransaction.Tx.GetGasLimit() : Int", "otherTransaction.TxHash : Bytes", "otherTransaction.computeExactPricePerUnit() : Int", "wrappedTx.PricePerUnit : Int", "wrappedTx.Tx.GetGasLimit() : Int", "wrappedTx.TxHash : Bytes", "wrappedTx.computeExactPricePerUnit() : Int"] := GenProofs.moreValuable_leaves

/-- the price per gas unit stored at insertion is computed by the source as ⌊fee / gasLimit⌋ saturated at 2^64 − 1, for EVERY
    fee (the math/big path included; a reintroduced `fee.Uint64()` truncation would change the translated definition and
    break this theorem) -/
theorem source_price_per_unit_is_floor_saturated (t : Tx) (hg : t.gasLimit ≠ 0) :
    Gen.pricePerUnit (fee := t.fee) (gasLimit := t.gasLimit) = GenProofs.sat64 (t.ppu Variant.current) := GenProofs.pricePerUnit_eq t hg

/-! ### "not on chunk count": the mempool's chunked concurrent map (txcache/maps/concurrentMap.go, transcribed in
    SV/TxCache/ChunkedMap.lean: fnv32 chunk choice, per-chunk Go maps enumerated in ANY order) is invisible -/
open ChunkedMap ChunkedMap.CMap in
/-- the same history of map operations on `n` and on `n'` chunks returns the same flags/values/counts, ends with the same
    lookups, and its two enumerations are permutations of one another (whatever order Go iterates each chunk in) -/
theorem chunk_count_is_invisible_to_the_map {α : Type} (n n' : Nat) (ops : List (Op α))
    (σ σ' : Nat → List (Bytes × α) → List (Bytes × α)) (hσ : IterOrder σ) (hσ' : IterOrder σ') :
    (run n ops).2 = (run n' ops).2 ∧
    (∀ k, (run n ops).1.get k = (run n' ops).1.get k) ∧
    (∀ k, (run n ops).1.has k = (run n' ops).1.has k) ∧
    (run n ops).1.count = (run n' ops).1.count ∧
    ((run n ops).1.enumWith σ).Perm ((run n' ops).1.enumWith σ') ∧
    ((run n ops).1.keysWith σ).Perm ((run n' ops).1.keysWith σ') ∧
    ((run n ops).1.keysWith σ).Nodup ∧
    ((run n ops).1.keys).Perm ((run n' ops).1.keys) := chunks_invisible n n' ops σ σ' hσ hσ'
open ChunkedMap ChunkedMap.CMap in
/-- hence the selection computed from the senders' lists enumerated through the chunked map is the same for every
    chunk count and every per-chunk iteration order -/
theorem selection_independent_of_chunk_count (v : Variant) (s : Session) (q : SelParams) (n n' : Nat) (ops : List (Op (List Tx)))
    (σ σ' : Nat → List (Bytes × List Tx) → List (Bytes × List Tx)) (hσ : IterOrder σ) (hσ' : IterOrder σ')
    (hn : ((bunchesWith σ (run n ops).1).flatten.map (·.hash)).Nodup) :
    selectFromBunches v s q (bunchesWith σ (run n ops).1) = selectFromBunches v s q (bunchesWith σ' (run n' ops).1) :=
  selection_chunks_invisible v s q n n' ops σ σ' hσ hσ' hn
open ChunkedMap ChunkedMap.CMap in
/-- … and it is the selection of the one-association-list representation the hand-written model uses -/
theorem chunked_selection_is_the_models (v : Variant) (s : Session) (q : SelParams) (n : Nat) (ops : List (Op (List Tx)))
    (σ : Nat → List (Bytes × List Tx) → List (Bytes × List Tx)) (hσ : IterOrder σ)
    (hn : (((runA ops).1.map (·.2)).flatten.map (·.hash)).Nodup) :
    selectFromBunches v s q (bunchesWith σ (run n ops).1) = selectFromBunches v s q ((runA ops).1.map (·.2)) :=
  selection_refines_alist v s q n ops σ hσ hn

end SV.Props.C03
