/-
  C06 — Pool size limits hold after every insertion.  PARTIAL on the per-sender byte limit (known finding F3).
-/
import SV.TxCache.EvictPost
import SV.GenProofs.TxThresholds
import SV.GenProofs.Config
import SV.TxCache.ReachableSize
import SV.TxCache.GoList
namespace SV.Props.C06
open SV SV.TxCache

/-- after every AddTx each sender holds at most CountPerSenderThreshold transactions (and lists stay sorted) -/
theorem sender_count_bound (v : Variant) (p : Pool) (t : Tx) (hi : ListsInv p) (hc : 1 ≤ p.cfg.countPerSender) :
    ListsInv (addTx v p t).1 :=
  have _ := hc
  ListsInv.addTx v p t hi
/-- per-sender byte limit: holds whenever dropping one transaction suffices (F3 otherwise, see C04.trim_incomplete_F3) -/
theorem sender_bytes_partial (cfg : Config) (l : List Tx) (h : senderExceeded cfg l.dropLast = false) :
    senderExceeded cfg (trim1 cfg l).1 = false := by
  rw [trim1_spec]; split
  · exact h
  · rename_i hh; simpa using hh
/-- eviction ends with the pool within its thresholds, or empty -/
theorem eviction_postcondition (U : Bytes → Tx) (p : Pool) (h : Inv U p) (hso : ListsSorted p) (hn : 1 ≤ p.cfg.numItemsToEvict) :
    (evict Variant.current p).exceeded = false ∨ ((evict Variant.current p).byHash = [] ∧ (evict Variant.current p).lists = []) :=
  have _ := hso
  evict_post U p h hn
/-- with eviction enabled, after an insertion the pool exceeds each pool-wide threshold by at most the one transaction
    just added; since the next insertion starts with the same eviction, that excess is gone once it has run -/
theorem pool_bounds_after_add (U : Bytes → Tx) (p : Pool) (t : Tx) (h : Inv U p) (hso : ListsSorted p) (ht : WfTx U t)
    (he : p.cfg.evictionEnabled = true) (hn : 1 ≤ p.cfg.numItemsToEvict) :
    let p' := (addTx Variant.current p t).1
    p'.cntTx ≤ (p.cfg.countThreshold : Int) + 1 ∧ p'.cntSenders ≤ (p.cfg.countThreshold : Int) + 1 ∧
    p'.numBytes ≤ (p.cfg.numBytesThreshold : Int) + (t.size : Int) :=
  have _ := hso; have _ := ht
  addTx_pool_bounds U p t h he hn
/-- with eviction disabled no transaction is ever dropped for pool-wide reasons: other senders' lists are untouched -/
theorem no_pool_wide_drop_when_disabled (U : Bytes → Tx) (p : Pool) (t : Tx) (h : Inv U p) (hso : ListsSorted p) (ht : WfTx U t)
    (he : p.cfg.evictionEnabled = false) (s : Bytes) (hs : s ≠ t.sender) :
    alookup s (addTx Variant.current p t).1.lists = alookup s p.lists :=
  have _ := h; have _ := hso; have _ := ht
  evict_not_called_when_disabled p t he s hs

/-! ### tie by translation: the source's own leaf logic (regenerated into SV/Generated/Funcs.lean on every run) IS the model's -/
theorem source_threshold_tests_are_the_models (p : Pool) :
    p.exceeded =
      Gen.poolExceeded (cache_areThereTooManyBytes := (Gen.tooManyBytes (cache_NumBytes := (clampNat p.numBytes)) (cache_config_NumBytesThreshold := p.cfg.numBytesThreshold))) (cache_areThereTooManySenders := (Gen.tooManySenders (cache_CountSenders := (clampNat p.cntSenders)) (cache_config_CountThreshold := p.cfg.countThreshold))) (cache_areThereTooManyTxs := (Gen.tooManyTxs (cache_CountTx := (clampNat p.cntTx)) (cache_config_CountThreshold := p.cfg.countThreshold))) := GenProofs.poolExceeded_eq p
theorem source_sender_limit_test_is_the_models (cfg : Config) (l : List Tx) :
    senderExceeded cfg l = Gen.senderExceeded (listForSender_constraints_maxNumBytes := cfg.numBytesPerSender) (listForSender_constraints_maxNumTxs := cfg.countPerSender) (listForSender_totalBytes_Get := (listBytes l)) (listForSender_countTx := l.length) :=
  GenProofs.senderExceeded_eq cfg l

/-- for EVERY configuration accepted by `NewTxCache` (the validity test is translated from `ConfigSourceMe.verify`, the bounds
    are regenerated constants): per-sender count bound + sortedness are preserved by AddTx, and eviction ends within the
    thresholds (or with an empty pool) -/
theorem holds_for_every_accepted_configuration (U : Bytes → Tx) (p : Pool) (t : Tx) (nameLen numChunks : Nat)
    (hacc : GenProofs.txAccepted p.cfg nameLen numChunks = true) (hi : ListsInv p) (h : Inv U p) (hso : ListsSorted p) :
    ListsInv (addTx Variant.current p t).1 ∧
    ((evict Variant.current p).exceeded = false ∨ ((evict Variant.current p).byHash = [] ∧ (evict Variant.current p).lists = [])) := by
  have hb := GenProofs.txAccepted_bounds p.cfg nameLen numChunks hacc
  have _ := hso
  exact ⟨ListsInv.addTx Variant.current p t hi, evict_post U p h hb.2.2.2.2.2.2.2.2.2⟩

/-! ### end to end: every pool reachable from the empty one by ANY history, every configuration accepted by `NewTxCache`;
    the hypotheses `Inv`, `ListsSorted`, `ListsInv`, `1 ≤ numItemsToEvict` of the single-step statements above are discharged
    (SV/TxCache/ReachableSize.lean) -/
/-- per-sender count bound and strict order of every sender list of every reachable pool -/
theorem every_reachable_sender_list_bounded (U : Bytes → Tx) (cfg : Config) (ops : List Op) (nameLen numChunks : Nat)
    (hacc : GenProofs.txAccepted cfg nameLen numChunks = true) (hw : ∀ t, Op.add t ∈ ops → WfTx U t)
    (s : Bytes) (l : List Tx) (hm : (s, l) ∈ (run cfg ops).lists) :
    ListSorted l ∧ 1 ≤ l.length ∧ l.length ≤ cfg.countPerSender ∧ 1 ≤ cfg.countPerSender ∧ ∀ t ∈ l, t.sender = s :=
  reachable_sender_lists U cfg ops nameLen numChunks hacc hw s l hm
/-- pool-wide bounds at EVERY insertion point of EVERY history (as reported by the unsigned counters) -/
theorem pool_bounds_at_every_add_of_every_history (U : Bytes → Tx) (cfg : Config) (ops : List Op)
    (nameLen numChunks : Nat) (hacc : GenProofs.txAccepted cfg nameLen numChunks = true)
    (hw : ∀ t, Op.add t ∈ ops → WfTx U t) (he : cfg.evictionEnabled = true)
    (pre post : List Op) (t : Tx) (hsplit : ops = pre ++ Op.add t :: post) :
    let p' := run cfg (pre ++ [Op.add t])
    clampNat p'.cntTx ≤ cfg.countThreshold + 1 ∧ clampNat p'.cntSenders ≤ cfg.countThreshold + 1 ∧
    clampNat p'.numBytes ≤ cfg.numBytesThreshold + t.size :=
  reachable_pool_bounds_at_every_add_of_history U cfg ops nameLen numChunks hacc hw he pre post t hsplit
/-- eviction of ANY reachable pool ends within the three thresholds (no "or empty" escape) -/
theorem eviction_of_every_reachable_pool_ends_within (U : Bytes → Tx) (cfg : Config) (ops : List Op) (nameLen numChunks : Nat)
    (hacc : GenProofs.txAccepted cfg nameLen numChunks = true) (hw : ∀ t, Op.add t ∈ ops → WfTx U t) :
    let q := evict Variant.current (run cfg ops)
    q.exceeded = false ∧ q.cntTx ≤ (cfg.countThreshold : Int) ∧ q.cntSenders ≤ (cfg.countThreshold : Int) ∧
    q.numBytes ≤ (cfg.numBytesThreshold : Int) :=
  reachable_within_thresholds_after_eviction U cfg ops nameLen numChunks hacc hw
/-- eviction disabled: no history ever loses another sender's transactions to an insertion -/
theorem no_history_drops_pool_wide_when_disabled (cfg : Config) (ops : List Op) (he : cfg.evictionEnabled = false)
    (t : Tx) (s : Bytes) (hs : s ≠ t.sender) :
    alookup s (addTx Variant.current (run cfg ops) t).1.lists = alookup s (run cfg ops).lists :=
  reachable_no_pool_wide_drop_when_disabled cfg ops he t s hs

/-! ### F3 as a theorem about the transcribed library and loop (SV/TxCache/GoList.lean): in `applySizeConstraints`
    `element.Prev()` is evaluated AFTER `items.Remove(element)`, and `container/list` clears the removed element's links,
    so the loop ends after one removal whatever the excess -/
open GoList in
theorem go_list_trim_is_trim1 (cfg : Config) {s : SenderList} (h : SWF s) :
    SWF (s.applySizeConstraints cfg).1
    ∧ (s.applySizeConstraints cfg).1.items.toList = (trim1 cfg s.items.toList).1
    ∧ (s.applySizeConstraints cfg).2 = (trim1 cfg s.items.toList).2.map (·.hash) := applySizeConstraints_refines cfg h
open GoList in
theorem go_list_trim_removes_at_most_one_F3 (cfg : Config) {s : SenderList} (h : SWF s) :
    (s.applySizeConstraints cfg).2.length ≤ 1
    ∧ ((s.applySizeConstraints cfg).1.items.toList = s.items.toList ∧ (s.applySizeConstraints cfg).2 = []
       ∨ ∃ x, s.items.toList = (s.applySizeConstraints cfg).1.items.toList ++ [x]
             ∧ (s.applySizeConstraints cfg).2 = [x.hash]) := applySizeConstraints_removes_at_most_one cfg h

end SV.Props.C06
