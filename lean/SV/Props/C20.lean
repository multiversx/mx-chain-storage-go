/-
  C20 — FIFO sharded cache is bounded and keeps entries for a guaranteed insertion count.
-/
import SV.Misc.FifoProofs
import SV.Misc.FifoRingProofs
import SV.Misc.FifoRingCacheProofs
namespace SV.Props.C20
open SV SV.Fifo

/-- a cache of size S over N shards (S ≥ 2N) never holds more than S entries -/
theorem never_more_than_size (size : Nat) (c : Cache) (h : CacheInv size c) (hs : 2 * c.n ≤ size) : c.len ≤ size := cache_bound size c h hs
theorem invariant_put (size : Nat) (c : Cache) (k v : Bytes) (h : CacheInv size c) (hs : 2 * c.n ≤ size) : CacheInv size (c.put k v).1 :=
  have _ := hs
  CacheInv.put size c k v h
theorem invariant_hasOrAdd (size : Nat) (c : Cache) (k v : Bytes) (h : CacheInv size c) (hs : 2 * c.n ≤ size) : CacheInv size (c.hasOrAdd k v).1 :=
  CacheInv.hasOrAdd size c k v h hs
theorem invariant_remove (size : Nat) (c : Cache) (k : Bytes) (h : CacheInv size c) : CacheInv size (c.remove k) := CacheInv.remove size c k h
/-- the entry just inserted is always resident -/
theorem just_inserted_resident (size : Nat) (c : Cache) (k v : Bytes) (h : CacheInv size c) (hs : 2 * c.n ≤ size) :
    (c.put k v).1.get k = some v := put_resident size c k v h hs
/-- an entry is never dropped before ⌈S/N⌉ − 2 further insertions into its shard -/
theorem survives_guaranteed_insertions (m : Nat) (s : Shard) (k v : Bytes) (ks : List (Bytes × Bytes)) (h : ShardInv m s) (hm : 2 ≤ m)
    (hne : ∀ p ∈ ks, p.1 ≠ k) (hl : ks.length ≤ m - 2) :
    alookup k (ks.foldl (fun s p => s.set p.1 p.2) (s.set k v)).vals = some v := survives m s k v ks h hm hne hl
theorem slots_per_shard (size n : Nat) (hn : 1 ≤ n) (hs : n ≤ size) : shardSize size n = (size + n - 1) / n := shardSize_spec size n hn hs
/-- one shard: strict insertion order, an overwrite counting as a fresh insertion; the evicted key is the oldest position -/
theorem fifo_order (m : Nat) (s : Shard) (k v : Bytes) (h : ShardInv m s) (hm : 2 ≤ m) :
    (s.set k v).keys = ((blank k s.view).dropLast.reverse.filterMap id) ++ [k] := set_keys m s k v h hm
/-- Keys lists exactly the keys that have a value -/
theorem views_agree (m : Nat) (s : Shard) (h : ShardInv m s) : ∀ k, k ∈ s.keys ↔ (alookup k s.vals).isSome = true := keys_eq_vals m s h
/-- HasOrAdd inserts only when the key is absent; handlers fire exactly once per insertion -/
theorem hasOrAdd_inserts_iff_absent (c : Cache) (k v : Bytes) :
    let r := c.hasOrAdd k v
    r.2.1 = (c.get k).isSome ∧ r.2.2.1 = !(c.get k).isSome ∧ r.2.2.2 = (if r.2.2.1 then c.handlers.map (·, k, v) else []) :=
  SV.Fifo.hasOrAdd_flags c k v
theorem put_invokes_each_handler_once (c : Cache) (k v : Bytes) : (c.put k v).2 = c.handlers.map (·, k, v) := put_notifies c k v

/-! ### the ring buffer itself: `SV.Misc.FifoRing` / `FifoRingCache` transcribe concurrent-map's shard statement by statement
    (slot array `mapKeys`, `idxAdd`, per-item `arrayIdx`, `appendKeyToList`, `Keys()` walking from `idxAdd+1`) and the cache
    on top of it (`Clear` removing key by key through the hash); this is the model the driver executes.  It refines the
    age-ordered model above, so every theorem of this file holds of the ring. -/

/-- one shard: any operation sequence on the ring and on the age-ordered model stay related — same abstraction, same
    SetIfAbsent flags, same Keys (same order), same lookups; the representation invariant holds throughout -/
theorem ring_refines_age_model (m : Nat) (hm : 1 ≤ m) (ops : List Op) :
    RingInv ((Ring.init m).run ops).1 ∧
    ((Ring.init m).run ops).1.toShard = ((Shard.init m).run ops).1 ∧
    ((Ring.init m).run ops).2 = ((Shard.init m).run ops).2 ∧
    ((Ring.init m).run ops).1.keys = ((Shard.init m).run ops).1.keys ∧
    (∀ k, ((Ring.init m).run ops).1.get k = alookup k ((Shard.init m).run ops).1.vals) := run_init m hm ops
/-- the whole cache (any number of shards ≥ 1): same abstraction and the same outputs for every operation sequence over
    Put / HasOrAdd / Get / Remove / Clear / Len / Keys / handler (un)registration -/
theorem ring_cache_refines_age_model (size n : Nat) (hn : 1 ≤ n) (ops : List COp) :
    RCacheInv size ((RCache.init size n).run ops).1 ∧
    ((RCache.init size n).run ops).1.toCache = ((Cache.init size n).run ops).1 ∧
    ((RCache.init size n).run ops).2 = ((Cache.init size n).run ops).2 := crun_init size n hn ops
/-- hence, directly on the ring: never more than S entries, and the entry just inserted is resident -/
theorem ring_never_more_than_size {size : Nat} (c : RCache) (h : RCacheInv size c) (hs : 2 * c.n ≤ size) : c.len ≤ size :=
  rcache_bound c h hs
theorem ring_just_inserted_resident {size : Nat} (c : RCache) (k v : Bytes) (h : RCacheInv size c) (hs : 2 * c.n ≤ size) :
    (c.put k v).1.get k = some v := rcache_put_resident c k v h hs
/-- `Clear` (key-by-key removal) leaves every slot blank and keeps `idxAdd`; `clearWith_shards` in FifoRingCacheProofs
    says the same for any order, and any superset, of keys that `Keys()` may deliver -/
theorem ring_clear_state {size : Nat} (c : RCache) (h : RCacheInv size c) :
    c.clear = ⟨c.n, c.shards.map (fun r => ⟨r.m, r.idxAdd, List.replicate r.m none, []⟩), c.handlers⟩ := clear_state c h

end SV.Props.C20
