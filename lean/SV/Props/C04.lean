/-
  C04 — Pool contents follow add/remove semantics with per-sender ordering and limits.
  PARTIAL on the byte limit: `applySizeConstraints` drops at most one transaction per insertion (known finding F3).
-/
import SV.TxCache.ListProofs
import SV.TxCache.ListsInvProofs
import SV.TxCache.EvictPost
import SV.TxCache.ReachableProofs
import SV.GenProofs.TxThresholds
import SV.GenProofs.TxLists
import SV.TxCache.GoList
import SV.GenProofs.TxSenderBytes
namespace SV.Props.C04
open SV SV.TxCache

/-- the code's back-to-front insertion is the reference ordered insertion (nonce ↑, gas price ↓, hash ↑) and refuses exactly duplicates -/
theorem insert_is_ordered_insert (t : Tx) (l : List Tx) (hs : ListSorted l) :
    insertTx t l =
      if (∃ c ∈ l, c.nonce = t.nonce ∧ c.gasPrice = t.gasPrice ∧ c.hash = t.hash) then none
      else some (orderedInsert t l) :=
  insertTx_eq_orderedInsert t l hs

/-- AddTx and RemoveTxByHash keep every sender list strictly sorted (hence free of duplicates) and within the count limit;
    over all reachable pools: `C06.every_reachable_sender_list_bounded` -/
theorem lists_sorted_add (v : Variant) (p : Pool) (t : Tx) (hi : ListsInv p) (hc : 1 ≤ p.cfg.countPerSender) :
    ListsInv (addTx v p t).1 :=
  have _ := hc
  ListsInv.addTx v p t hi
theorem lists_sorted_remove (p : Pool) (h : Bytes) (hi : ListsInv p) : ListsInv (removeTxByHash p h).1 :=
  ListsInv.removeTxByHash p h hi
theorem sorted_has_no_duplicates {l : List Tx} (h : ListSorted l) : l.Nodup := ListSorted.nodup h

/-- AddTx (eviction off): `added` ⇔ the hash was not pooled; the sender's list becomes the ordered insertion followed by the trim -/
theorem add_semantics (U : Bytes → Tx) (p : Pool) (t : Tx) (h : Inv U p) (hso : ListsSorted p) (ht : WfTx U t)
    (he : p.cfg.evictionEnabled = false) :
    let r := addTx Variant.current p t
    let l := (alookup t.sender p.lists).getD []
    r.2 = (alookup t.hash p.byHash).isNone ∧
    (alookup t.sender r.1.lists).getD [] =
      (if (alookup t.hash p.byHash).isSome then l else (trim1 p.cfg (orderedInsert t l)).1) :=
  addTx_lists_noEvict U p t h hso ht he
theorem add_leaves_other_senders (U : Bytes → Tx) (p : Pool) (t : Tx) (h : Inv U p) (hso : ListsSorted p) (ht : WfTx U t)
    (he : p.cfg.evictionEnabled = false) (s : Bytes) (hs : s ≠ t.sender) :
    alookup s (addTx Variant.current p t).1.lists = alookup s p.lists :=
  have _ := h; have _ := hso; have _ := ht
  evict_not_called_when_disabled p t he s hs

/-- RemoveTxByHash drops exactly the sender's transactions with a lower or equal nonce and nothing else -/
theorem remove_semantics (U : Bytes → Tx) (p : Pool) (hsh : Bytes) (h : Inv U p) :
    match alookup hsh p.byHash with
    | none => removeTxByHash p hsh = (p, false)
    | some t =>
      (removeTxByHash p hsh).2 = true ∧
      (∀ s, s ≠ t.sender → alookup s (removeTxByHash p hsh).1.lists = alookup s p.lists) ∧
      (alookup t.sender (removeTxByHash p hsh).1.lists).getD [] =
        ((alookup t.sender p.lists).getD []).filter (fun x => decide (x.nonce > t.nonce)) :=
  removeTxByHash_lists U p hsh h

/-- lookups by hash agree with the lists (both directions) -/
theorem lookups_agree (U : Bytes → Tx) (p : Pool) (h : Inv U p) :
    (∀ hsh t, alookup hsh p.byHash = some t → ∃ l, alookup t.sender p.lists = some l ∧ t ∈ l) ∧
    (∀ s l t, alookup s p.lists = some l → t ∈ l → alookup t.hash p.byHash = some t) :=
  ⟨fun hsh t hm => Inv.no_ghost U p h hsh t hm, fun s l t hl ht => Inv.listed_is_hashed U p h s l t hl ht⟩

/-- limits: the trim as coded removes at most ONE transaction; it agrees with the reference trim whenever one removal suffices … -/
theorem trim_partial (cfg : Config) (l : List Tx) (h : senderExceeded cfg l.dropLast = false) :
    (trim1 cfg l).1 = trimAll cfg (l.length + 1) l := trim1_eq_trimAll_of_one_suffices cfg l h
/-- … and does NOT otherwise (finding F3: the sender stays above its byte limit) -/
theorem trim_incomplete_F3 :
    ∃ (cfg : Config) (l : List Tx), senderExceeded cfg (trim1 cfg l).1 = true ∧ (trim1 cfg l).1 ≠ trimAll cfg (l.length + 1) l :=
  trim1_incomplete_example

/-- GLOBAL REFINEMENT (eviction disabled): after ANY history the per-sender lists are exactly those of the reference
    `specLists` (SV.TxCache.ReachableProofs), which is written with ordered insertion, the one-step trim, "drop nonce ≤ n"
    and the reference's own hash search only — it mentions neither `addTx` nor `removeTxByHash`; the hash index agrees
    with the reference's search, so the `added` / `found` flags are determined by it as well -/
theorem lists_equal_reference_after_any_history (U : Bytes → Tx) (cfg : Config) (ops : List Op)
    (he : cfg.evictionEnabled = false) (hw : ∀ t, Op.add t ∈ ops → WfTx U t) (s : Bytes) :
    (alookup s (ops.foldl applyOp (Pool.init cfg)).lists).getD [] = specLists cfg ops s :=
  reachable_lists_eq_spec U cfg ops he hw s
theorem hash_index_equals_reference_after_any_history (U : Bytes → Tx) (cfg : Config) (ops : List Op)
    (he : cfg.evictionEnabled = false) (hw : ∀ t, Op.add t ∈ ops → WfTx U t) (k : Bytes) :
    alookup k (ops.foldl applyOp (Pool.init cfg)).byHash = (specState cfg ops).find k :=
  reachable_find_eq_spec U cfg ops he hw k

/-! ### tie by translation: the source's own leaf logic (regenerated into SV/Generated/Funcs.lean on every run) IS the model's -/
theorem source_sender_limit_test_is_the_models (cfg : Config) (l : List Tx) :
    senderExceeded cfg l = Gen.senderExceeded (listForSender_constraints_maxNumBytes := cfg.numBytesPerSender) (listForSender_constraints_maxNumTxs := cfg.countPerSender) (listForSender_totalBytes_Get := (listBytes l)) (listForSender_countTx := l.length) :=
  GenProofs.senderExceeded_eq cfg l

/-- one iteration of the source's `findInsertionPlace` (translated: 0 = go on towards the front, 1 = insert right after this
    element, 2 = already in the cache) is the decision the model's sorted insertion takes at that element -/
theorem source_insertion_walk_is_the_models (t c : Tx) (rest : List Tx) :
    insertRev t (c :: rest) =
      (if Gen.insertionStep (incomingTx_Tx_GetNonce := t.nonce) (incomingTx_Tx_GetGasPrice := t.gasPrice) (currentTx_Tx_GetNonce := c.nonce) (currentTx_Tx_GetGasPrice := c.gasPrice) (currentTx_TxHash := c.hash) (incomingTx_TxHash := t.hash) = 1 then some (t :: c :: rest)
       else if Gen.insertionStep (incomingTx_Tx_GetNonce := t.nonce) (incomingTx_Tx_GetGasPrice := t.gasPrice) (currentTx_Tx_GetNonce := c.nonce) (currentTx_Tx_GetGasPrice := c.gasPrice) (currentTx_TxHash := c.hash) (incomingTx_TxHash := t.hash) = 2 then none
       else (insertRev t rest).map (c :: ·)) := GenProofs.insertRev_cons_eq_source t c rest
/-- RemoveTxByHash's walk over the sender's list stops where the source's loop breaks (first nonce above the removed one) -/
theorem source_lower_nonce_removal_is_the_models (n : Nat) (c : Tx) (rest : List Tx) :
    dropLowerOrEqual n (c :: rest) =
      (if Gen.removeLowerStops (txNonce := c.nonce) (targetNonce := n) = [true] then c :: rest else dropLowerOrEqual n rest) :=
  GenProofs.dropLowerOrEqual_cons_eq_source n c rest

/-! ### Go's `container/list` is not assumed: the per-sender list code transcribed over a faithful model of the library
    (node heap with next/prev/list pointers, sentinel root, the library's guards) refines the plain-list model
    (SV/TxCache/GoList.lean) -/
open GoList in
/-- `txListForSender.AddTx` (findInsertionPlace walking `Back()/Prev()`, `PushFront`/`InsertAfter`, `applySizeConstraints`)
    over the transcribed library yields exactly the model's `insertTx` followed by `trim1`, flags and evicted hashes included -/
theorem go_list_addTx_is_the_models (cfg : Config) {s : SenderList} (h : SWF s) (t : Tx) :
    match insertTx t s.items.toList with
    | none => s.addTx cfg t = (s, false, [])
    | some l' => SWF (s.addTx cfg t).1 ∧ (s.addTx cfg t).1.items.toList = (trim1 cfg l').1
        ∧ (s.addTx cfg t).2 = (true, (trim1 cfg l').2.map (·.hash)) := addTx_refines cfg h t
open GoList in
/-- the removal walk of RemoveTxByHash over the transcribed library is the model's `dropLowerOrEqual`, hashes in list order -/
theorem go_list_lower_nonce_removal_is_the_models (k : Nat) {s : SenderList} (h : SWF s) :
    SWF (s.removeLowerOrEqual k).1
    ∧ (s.removeLowerOrEqual k).1.items.toList = dropLowerOrEqual k s.items.toList
    ∧ (s.removeLowerOrEqual k).2
        = (s.items.toList.take (s.items.toList.length - (dropLowerOrEqual k s.items.toList).length)).map (·.hash) :=
  removeLowerOrEqual_refines k h
open GoList in
/-- what `GetTransactionsPoolForSender` hands out is the list front to back -/
theorem go_list_getTxs_is_the_list (s : SenderList) : s.getTxs = s.items.toList := getTxs_eq s

open GoList in
/-- the tie by translation for the per-sender byte counter: the two statements of the CURRENT source that change
    `totalBytes` are the updates of the transcribed list code — a successful insertion adds the transaction's size, a rejected
    one (duplicate) changes nothing, every removal subtracts the size of the removed transaction -/
theorem source_sender_byte_counter_updates_are_the_transcriptions :
    (∀ (s s' : SenderList) (t : Tx), s.insert t = (s', true) →
        s'.totalBytes = Gen.senderBytesAfterAdd (listForSender_totalBytes := s.totalBytes) (tx_Size := (t.size : Int))) ∧
    (∀ (s s' : SenderList) (t : Tx), s.insert t = (s', false) → s'.totalBytes = s.totalBytes) ∧
    (∀ b sz : Int, b - sz = Gen.senderBytesAfterRemove (listForSender_totalBytes := b) (tx_Size := sz)) ∧
    Gen.senderBytesAfterAdd_leaves = ["listForSender.totalBytes : Int", "tx.Size : Int"] ∧
    Gen.senderBytesAfterRemove_leaves = ["listForSender.totalBytes : Int", "tx.Size : Int"] :=
  ⟨GenProofs.senderBytes_insert, GenProofs.senderBytes_insert_rejected, GenProofs.senderBytes_remove,
   GenProofs.senderBytes_leaves.1, GenProofs.senderBytes_leaves.2⟩

end SV.Props.C04
