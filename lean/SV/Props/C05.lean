/-
  C05 — Pool indexes and counters agree after every operation, incl. eviction and Clear.
-/
import SV.TxCache.EvictInv
namespace SV.Props.C05
open SV SV.TxCache

/-- `Inv U p` (SV.TxCache.Spec): the set of transactions reachable by hash equals the set reachable through the senders'
    lists; CountTx = its size; NumBytes = Σ Size; CountSenders = number of senders owning ≥ 1 transaction (no empty list).
    It holds after EVERY sequential history of AddTx (with or without eviction), RemoveTxByHash and Clear; selection does
    not modify the pool. -/
theorem invariant_of_every_reachable_pool (U : Bytes → Tx) (cfg : Config) (ops : List Op)
    (hw : ∀ t, Op.add t ∈ ops → WfTx U t) : Inv U (ops.foldl applyOp (Pool.init cfg)) :=
  Inv.reachable U cfg ops hw

theorem step_add (U : Bytes → Tx) (p : Pool) (t : Tx) (h : Inv U p) (hso : ListsSorted p) (ht : WfTx U t) :
    Inv U (addTx Variant.current p t).1 := Inv.addTx U p t h hso ht
theorem step_remove (U : Bytes → Tx) (p : Pool) (hsh : Bytes) (h : Inv U p) : Inv U (removeTxByHash p hsh).1 :=
  Inv.removeTxByHash U p hsh h
/-- (`h` is not used: the cleared pool is the empty one.) -/
theorem step_clear (U : Bytes → Tx) (p : Pool) (h : Inv U p) : Inv U (clear Variant.current p) := by
  have _ := h
  exact Inv.clear U p
/-- eviction keeps the invariant; its threshold step does so for ANY sender and ANY nonce threshold -/
theorem step_evict (U : Bytes → Tx) (p : Pool) (h : Inv U p) : Inv U (evict Variant.current p) := Inv.evict U p h
theorem step_threshold (U : Bytes → Tx) (p : Pool) (sn : Bytes × Nat) (h : Inv U p) :
    Inv U (applyThreshold Variant.current p sn) := Inv.applyThreshold U p sn h

/-- an emptied pool reports zero for all counters -/
theorem emptied_pool_reports_zero (U : Bytes → Tx) (p : Pool) (h : Inv U p) (he : p.byHash = []) :
    p.lists = [] ∧ p.cntTx = 0 ∧ p.numBytes = 0 ∧ p.cntSenders = 0 := Inv.empty_reports_zero U p h he
/-- no transaction remains that can be neither selected nor evicted (reachable by hash but in no list) -/
theorem no_ghost (U : Bytes → Tx) (p : Pool) (h : Inv U p) (hsh : Bytes) (t : Tx) (hm : alookup hsh p.byHash = some t) :
    ∃ l, alookup t.sender p.lists = some l ∧ t ∈ l := Inv.no_ghost U p h hsh t hm

/-- pre-repair counter-examples (F4 Clear keeps NumBytes, F5 empty sender stays registered, F6 eviction ghost) -/
theorem legacy_F4 : ∃ (cfg : Config) (t : Tx),
    let p := SV.TxCache.clear Variant.legacy (addTx Variant.legacy (Pool.init cfg) t).1
    p.byHash = [] ∧ p.numBytes ≠ 0 := legacy_clear_counterexample
theorem legacy_F5 : ∃ (cfg : Config) (t : Tx),
    let p := (addTx Variant.legacy (Pool.init cfg) t).1
    p.byHash = [] ∧ p.cntSenders ≠ 0 := legacy_empty_sender_counterexample
theorem legacy_F6 : ∃ (cfg : Config) (ts : List Tx) (g : Tx),
    let p := ts.foldl (fun p t => (addTx Variant.legacy p t).1) (Pool.init cfg)
    alookup g.hash p.byHash = some g ∧ ∀ s l, (s, l) ∈ p.lists → g ∉ l := legacy_ghost_counterexample

end SV.Props.C05
