/-
  C14 — Mempool and caches stay safe and self-consistent under concurrent use.
  PARTIAL: absence of data races, panics and runtime deadlocks is exercised under the race detector (component conc14),
  not proved.  What is proved: the lock-order graph regenerated from the source is acyclic; the listed methods are single
  critical sections, so every concurrent history of those components is a sequential one and the sequential theorems
  (C12/C13, C15, C18, C20, C04–C06 for the per-sender lists) apply to every schedule; selection results satisfy C01/C02 for
  ANY nonce-sorted single-sender snapshots, whatever happens concurrently; sorted insertion commutes, and concurrent AddTx
  calls, with eviction off and no per-sender limit hit, give the same pool in every order (SV.TxCache.AddCommute); at critical-section granularity
  (SV.TxCache.Sections) no transaction reachable by hash is orphaned under any interleaving of AddTx, RemoveTxByHash, Clear
  and eviction passes.
-/
import SV.FactsProofs.Conc
import SV.TxCache.SelProofs
import SV.TxCache.OrderProofs
import SV.TxCache.ListProofs
import SV.TxCache.AddCommute
import SV.TxCache.Sections
namespace SV.Props.C14
open SV SV.TxCache

/-- no lock-order cycle (regenerated from the current source on every run) -/
theorem no_lock_cycle : Facts.acyclic Facts.lockOrderIdx = true := Facts.lockOrder_acyclic
/-- the methods of the immunity chunk, the per-sender list, the capacity LRU, the time cache core and the concurrent map
    chunk operations are single critical sections -/
theorem components_are_single_critical_sections : ∀ m ∈ Facts.singleCriticalSection, m.2 = true := Facts.single_sections

/-- every concurrent selection works on per-sender SNAPSHOTS (`getTxs` is one critical section) which are nonce-sorted and
    single-sender; C01 holds for any such bunches — no matter what was added, removed or evicted meanwhile -/
theorem concurrent_selection_nonce_runs (v : Variant) (s : Session) (q : SelParams) (bunches : List (List Tx))
    (hb : ∀ b ∈ bunches, BunchOk b) (hd : BunchesDistinct bunches) (snd : Bytes) :
    ∃ k, noncesOf snd (selectFromBunches v s q bunches).1 = List.range' (s.nonce snd) k :=
  selectLoop_nonce_run v (popBest v) (popBest_pickOk v) s q bunches hb hd _ snd
/-- …and so do the budget clauses of C02, for ANY bunches -/
theorem concurrent_selection_budgets (s : Session) (q : SelParams) (bunches : List (List Tx)) :
    let r := selectFromBunches Variant.current s q bunches
    (r.1.map (·.gasLimit)).sum = r.2 ∧ r.2 ≤ q.gasReq ∧ r.1.length ≤ q.maxNum :=
  have h := selectLoop_gas Variant.current rfl (popBest Variant.current) s q (initHeap bunches) (bunchesTotal bunches + 1)
  ⟨h.1, h.2, selectLoop_count Variant.current (popBest Variant.current) s q (initHeap bunches) (bunchesTotal bunches + 1)⟩

/-- transactions added by concurrent AddTx calls (each list insertion is one critical section) end up in the same sorted
    list whatever the interleaving: ordered insertion yields a permutation that is sorted, and a sorted list of a given
    set of distinct keys is unique -/
theorem concurrent_adds_sorted (t : Tx) (l : List Tx) (hs : ListSorted l)
    (hn : ¬ ∃ c ∈ l, c.nonce = t.nonce ∧ c.gasPrice = t.gasPrice ∧ c.hash = t.hash) :
    ListSorted (orderedInsert t l) ∧ (orderedInsert t l).Perm (t :: l) :=
  ⟨orderedInsert_sorted t l hs hn, orderedInsert_perm t l⟩

/-! ### concurrent AddTx calls: every call performs both index updates inside ONE critical section (`mutTxOperation`), so a set
    of concurrent calls runs as SOME sequential order of them; without removals, eviction and per-sender trimming the
    outcome is the same for every order -/

/-- all transactions present (listed under their sender AND reachable by hash), nothing else, every list correctly
    ordered and a permutation of that sender's transactions; the counters equal the number / total size / senders -/
theorem concurrent_adds_all_present_and_ordered (U : Bytes → Tx) (cfg : Config) (txs : List Tx)
    (hnd : (txs.map (·.hash)).Nodup) (hw : ∀ t ∈ txs, WfTx U t) (hl : NoLimitHit cfg txs) :
    let p := addAll cfg txs
    (∀ t ∈ txs, (∃ l, alookup t.sender p.lists = some l ∧ t ∈ l) ∧ alookup t.hash p.byHash = some t) ∧
    (∀ k x, alookup k p.byHash = some x → x ∈ txs ∧ x.hash = k) ∧
    (∀ s l, alookup s p.lists = some l → ListSorted l ∧ l.Perm (txs.filter (fun t => decide (t.sender = s)))) ∧
    (∀ s, alookup s p.lists = none → txs.filter (fun t => decide (t.sender = s)) = []) ∧
    ((p.lists.map (·.1)).Nodup ∧ ∀ s, s ∈ p.lists.map (·.1) ↔ ∃ t ∈ txs, t.sender = s) ∧
    p.cntTx = (txs.length : Int) ∧ p.numBytes = (((txs.map (·.size)).sum : Nat) : Int) ∧
    p.cntSenders = (p.lists.length : Int) := adds_all_present_sorted U cfg txs hnd hw hl
/-- the observable pool does not depend on the order in which the concurrent calls were executed -/
theorem concurrent_adds_commute (U : Bytes → Tx) (cfg : Config) (txs txs' : List Tx) (hp : txs.Perm txs')
    (hnd : (txs.map (·.hash)).Nodup) (hw : ∀ t ∈ txs, WfTx U t) (hl : NoLimitHit cfg txs) :
    (∀ s, alookup s (addAll cfg txs).lists = alookup s (addAll cfg txs').lists) ∧
    (∀ k, alookup k (addAll cfg txs).byHash = alookup k (addAll cfg txs').byHash) ∧
    (addAll cfg txs).lists.Perm (addAll cfg txs').lists ∧
    (addAll cfg txs).cntTx = (addAll cfg txs').cntTx ∧
    (addAll cfg txs).numBytes = (addAll cfg txs').numBytes ∧
    (addAll cfg txs).cntSenders = (addAll cfg txs').cntSenders := adds_commute U cfg txs txs' hp hnd hw hl
/-- …and neither does a subsequent selection -/
theorem selection_after_concurrent_adds (U : Bytes → Tx) (cfg : Config) (txs txs' : List Tx) (hp : txs.Perm txs')
    (hnd : (txs.map (·.hash)).Nodup) (hw : ∀ t ∈ txs, WfTx U t) (hl : NoLimitHit cfg txs) (s : Session) (q : SelParams) :
    select Variant.current (addAll cfg txs) s q = select Variant.current (addAll cfg txs') s q :=
  SV.TxCache.selection_after_concurrent_adds U cfg txs txs' hp hnd hw hl s q

/-- (regenerated fact) both index updates of AddTx sit inside one `mutTxOperation` critical section -/
theorem addTx_is_one_critical_section : Facts.addTxIndexUpdatesAtomic = true := Facts.addTx_updates_atomic

/-- (regenerated fact) every pass of the eviction removes from both indexes inside one `mutTxOperation` critical section: eviction
    steps interleave with AddTx / RemoveTxByHash only as whole sections, hence the sequential index-agreement theorems (C05)
    apply to every concurrent history of adds, removals and evictions at section granularity -/
theorem eviction_removals_are_one_critical_section : Facts.evictionRemovalsUnderTxOperationLock = true := Facts.eviction_removals_atomic

/-- (regenerated fact) CountTx / NumBytes / CountSenders are updated iff the chunk-locked map operation reported a change:
    whatever the interleaving, at quiescence the counters equal what the maps hold -/
theorem counters_are_paired_with_map_updates : (Facts.hashIndexCountersPaired && Facts.senderCounterPaired) = true :=
  Facts.counters_paired_with_map_updates

/-! ### concurrency at critical-section granularity (SV/TxCache/Sections.lean)
    By the regenerated facts `addTx_is_one_critical_section` and `eviction_removals_are_one_critical_section` (and the
    whole-body locks of RemoveTxByHash and Clear) every concurrent execution of AddTx / RemoveTxByHash / Clear / eviction is, for
    the two indexes, an interleaving of the sections modelled by `Sections.Step`: (A) the locked part of AddTx, (A') its
    unlocked removal of the trimmed hashes, (R), (C), and ONE eviction pass over an ARBITRARY (possibly stale) victim list. -/
/-- no transaction reachable by hash is ever orphaned: it is in its sender's list, or an in-flight AddTx is about to remove it
    from the hash index (the invariant defect F13 violated before eviction's removals were put inside `mutTxOperation`) -/
theorem no_orphan_under_any_interleaving_of_sections (U : Bytes → Tx) (cfg : Config) (steps : List Sections.Step)
    (hw : ∀ t, Sections.Step.add t ∈ steps → WfTx U t) : Sections.NoOrphan (Sections.Conf.run cfg steps) :=
  Sections.noOrphan_run U cfg steps hw
/-- once all goroutines have finished (no AddTx in flight) every pooled transaction can be selected and evicted -/
theorem quiescent_pool_has_no_unreachable_transaction (U : Bytes → Tx) (cfg : Config) (steps : List Sections.Step)
    (hw : ∀ t, Sections.Step.add t ∈ steps → WfTx U t) (hq : (Sections.Conf.run cfg steps).pending = []) :
    ∀ h x, (h, x) ∈ (Sections.Conf.run cfg steps).pool.byHash →
      ∃ l, (x.sender, l) ∈ (Sections.Conf.run cfg steps).pool.lists ∧ x ∈ l :=
  Sections.quiescent_no_orphan U cfg steps hw hq
/-- each index stays well formed on its own (keys = hashes, distinct; lists sorted, non-empty, under their sender; counters
    truthful) under every interleaving -/
theorem indexes_well_formed_under_any_interleaving (U : Bytes → Tx) (cfg : Config) (steps : List Sections.Step)
    (hw : ∀ t, Sections.Step.add t ∈ steps → WfTx U t) : Sections.WfConf U (Sections.Conf.run cfg steps) :=
  Sections.wfConf_run U cfg steps hw
/-- the sequential model's AddTx is section (A) immediately followed by (A') -/
theorem sequential_add_is_the_two_sections (p : Pool) (t : Tx) :
    addTxCore Variant.current p t =
      (Sections.dropSection (Sections.addSection p t).1 (Sections.addSection p t).2.2, (Sections.addSection p t).2.1) :=
  Sections.addTxCore_eq_sections p t
/-- the agreement is one-sided on purpose: two AddTx of the same hash around a trim leave a transaction listed but not hashed
    (the "slight inconsistency" the source comments mention), so the sequential two-sided `Inv` is NOT an invariant here -/
theorem two_sided_agreement_is_not_invariant : ¬ Inv Sections.Ex.U (Sections.Conf.run Sections.Ex.cfg Sections.Ex.twoSided).pool :=
  Sections.two_sided_fails_inv

end SV.Props.C14
