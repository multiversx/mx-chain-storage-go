/-
  C09 — Close makes acknowledged writes durable; reopening yields the exact final state.
  (goleveldb contract assumed: Write applies a batch atomically and in order; Close/Open preserve the applied writes.)
-/
import SV.Persist.Proofs
import SV.FactsProofs.Batch
import SV.Persist.ShardedProofs
import SV.FactsProofs.Sync
namespace SV.Props.C09
open SV SV.Persist

/-- Close (= flush) followed by a fresh constructor on the same path yields exactly the same logical map: nothing lost, nothing resurrected -/
theorem reopen_preserves_map (p : P) (k : Bytes) (h : BInv p) : p.reopen.abs k = p.abs k := abs_reopen p k h
theorem reopen_keeps_invariant (p : P) (h : BInv p) : BInv p.reopen := BInv.reopen p h
/-- any number of close/reopen cycles anywhere in any history, any batch size ≥ 1 -/
theorem cycles (maxBatch : Nat) (hm : 1 ≤ maxBatch) (ops : List Op) (k : Bytes) :
    (ops.foldl P.step (P.init maxBatch [])).get Variant.current k = (ops.foldl specStep (fun _ => none)) k :=
  run_refines_map maxBatch hm ops k
/-- RangeKeys visits every flushed key exactly once with its flushed value; after a flush (Close) that is the whole map -/
theorem range_after_close (p : P) (h : BInv p) :
    ((p.flush.range).map (·.1)).Nodup ∧ ∀ k, alookup k p.flush.range = p.abs k := range_after_flush p h

/-- (regenerated fact) the pending batch's Put / Delete / Reset perform unconditionally exactly the model's three effects each -/
theorem batch_operations_have_the_models_effects :
    Facts.batchPutEffects = Facts.modelPutEffects ∧ Facts.batchDeleteEffects = Facts.modelDeleteEffects ∧
    Facts.batchResetEffects = Facts.modelResetEffects :=
  ⟨Facts.batch_put_effects, Facts.batch_delete_effects, Facts.batch_reset_effects⟩

/-- the SHARDED persister over batching persisters is one plain map over whole histories — any shard count ≥ 2, any batch
    size ≥ 1, timer flushes of all shards and close/reopen cycles anywhere -/
theorem sharded_history_refines_map (n maxBatch : Nat) (hn : 2 ≤ n) (hm : 1 ≤ maxBatch) (ops : List Op) (k : Bytes) :
    (ops.foldl Sharded.step (Sharded.init n maxBatch)).get Variant.current k = (ops.foldl specStep (fun _ => none)) k :=
  sharded_run_refines_map n maxBatch hn hm ops k
/-- Close + reopen of all shards loses nothing and resurrects nothing; after it RangeKeys visits exactly the logical map, each
    key exactly once across ALL shards (routing invariant) -/
theorem sharded_reopen_preserves_map (s : Sharded) (k : Bytes) (h : SInv s) :
    (s.reopen).get Variant.current k = s.get Variant.current k := sharded_reopen_preserves s k h
theorem sharded_range_after_reopen (n maxBatch : Nat) (hn : 2 ≤ n) (hm : 1 ≤ maxBatch) (ops : List Op) :
    (((ops ++ [Op.reopen]).foldl Sharded.step (Sharded.init n maxBatch)).range.map (·.1)).Nodup ∧
    ∀ k, alookup k ((ops ++ [Op.reopen]).foldl Sharded.step (Sharded.init n maxBatch)).range
      = (ops.foldl specStep (fun _ => none)) k := sharded_run_range_reopen n maxBatch hn hm ops

/-- (regenerated fact) at every flush — the one `Close` performs included — goleveldb is handed the batch's own record list
    (the operations in the order they were acknowledged, values copied when they were put): what reopening finds is what the
    model's `flush` wrote, not something reconstructed at flush time -/
theorem every_flush_writes_the_record_list :
    Facts.leveldbWriteArgs = ["DB.putBatch: dbBatch.batch", "putBatchAct.doPutRequest: p.batch.batch"] :=
  Facts.writes_pass_the_record_list

end SV.Props.C09
