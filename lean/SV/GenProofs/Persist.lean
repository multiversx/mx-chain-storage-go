/-
  SV.GenProofs.Persist — the flush test of `updateBatchWithIncrement` in both LevelDB persisters (leveldb/leveldb.go,
  leveldbSerial.go), translated from the source on every run, is the model's `P.bump` (C08, C10).  Integers are
  mathematical here (conversions are identities): wrap-around is covered by the correspondence runs.
-/
import SV.Generated.Funcs
import SV.Persist.Model
namespace SV.GenProofs
open SV

private theorem dec_natCast_lt (a b : Nat) : decide ((a : Int) < (b : Int)) = decide (a < b) :=
  decide_eq_decide.2 Int.ofNat_lt
private theorem dec_natCast_le (a b : Nat) : decide ((a : Int) ≤ (b : Int)) = decide (a ≤ b) :=
  decide_eq_decide.2 Int.ofNat_le

theorem noFlush_leaves :
    Gen.dbNoFlushNeeded_leaves = ["s.maxBatchSize : Int", "s.sizeBatch : Int"] ∧
    Gen.serialNoFlushNeeded_leaves = ["s.maxBatchSize : Int", "s.sizeBatch : Int"] := ⟨rfl, rfl⟩

/-- `updateBatchWithIncrement` of both persisters: after `sizeBatch++` the batch is flushed unless `sizeBatch < maxBatchSize` — the
    model's `P.bump` -/
theorem bump_eq (p : Persist.P) :
    p.bump = (if Gen.dbNoFlushNeeded (s_sizeBatch := p.sizeBatch) (s_maxBatchSize := p.maxBatch) then { p with sizeBatch := p.sizeBatch + 1 }
              else ({ p with sizeBatch := p.sizeBatch + 1 } : Persist.P).flush) ∧
    Gen.serialNoFlushNeeded (s_sizeBatch := p.sizeBatch) (s_maxBatchSize := p.maxBatch) = Gen.dbNoFlushNeeded (s_sizeBatch := p.sizeBatch) (s_maxBatchSize := p.maxBatch) := by
  refine ⟨?_, rfl⟩
  simp only [Persist.P.bump, Gen.dbNoFlushNeeded, decide_eq_true_eq, ← Int.natCast_succ, Int.ofNat_lt]

end SV.GenProofs
