/-
  SV.GenProofs.TimeCache — the deletion test of `sweep` and the span test of `upsert` (timecache/timeCacheCore.go),
  translated from the source on every run, are the model's (C18).  Integers are mathematical here (conversions are
  identities): wrap-around is covered by the correspondence runs.
-/
import SV.Generated.Funcs
import SV.Misc.TimeCache
namespace SV.GenProofs
open SV

private theorem dec_natCast_lt (a b : Nat) : decide ((a : Int) < (b : Int)) = decide (a < b) :=
  decide_eq_decide.2 Int.ofNat_lt
private theorem dec_natCast_le (a b : Nat) : decide ((a : Int) ≤ (b : Int)) = decide (a ≤ b) :=
  decide_eq_decide.2 Int.ofNat_le

theorem sweepExpired_leaves : Gen.sweepExpired_leaves = ["element.span : Int", "time.Since(element.timestamp) : Int"] := rfl

/-- the deletion test of `sweep` is the model's: an entry goes iff `now − timestamp > span` (strictly) -/
theorem sweepExpired_eq (now : Nat) (e : TimeCache.Entry) :
    decide (now - e.timestamp > e.span) = Gen.sweepExpired (time_Since_element_timestamp := ((now - e.timestamp : Nat) : Int)) (element_span := e.span) := by
  simp only [Gen.sweepExpired, gt_iff_lt, dec_natCast_lt]

theorem upsertExtendsSpan_leaves : Gen.upsertExtendsSpan_leaves = ["duration : Int", "existing.span : Int"] := rfl

/-- `upsert` of a present key: the source replaces the span exactly when the stored one is strictly smaller — the model's
    `max` (an Upsert never shortens the life of a key) -/
theorem upsert_span_eq_source (stored given : Nat) :
    max stored given = (if Gen.upsertExtendsSpan (existing_span := stored) (duration := given) then given else stored) := by
  simp only [Gen.upsertExtendsSpan, dec_natCast_lt, decide_eq_true_eq]
  by_cases h : stored < given
  · rw [if_pos h, Nat.max_eq_right (Nat.le_of_lt h)]
  · rw [if_neg h, Nat.max_eq_left (Nat.le_of_not_lt h)]

end SV.GenProofs
