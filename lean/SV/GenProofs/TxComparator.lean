/-
  SV.GenProofs.TxComparator — the tie BY TRANSLATION for the transaction comparator (C03, C07): `SV/Generated/Funcs.lean`
  is regenerated on every run from /repo's current source by tools/extract (trans.go), which translates the pure leaf logic
  of the repository to Lean definitions over their LEAVES.  Here: `isTransactionMoreValuableForNetwork` and
  `computePricePerUnit`.  The generated definitions are proved equal to the model's `moreValuable` and (saturated) `Tx.ppu`
  for all arguments; the `*_leaves` theorems pin the operands the source reads.  A changed comparison, tie-break or operand
  in the source therefore breaks one of these obligations on the next run.

  Integers are mathematical here (conversions are identities): the saturation of the 64-bit field `PricePerUnit` is explicit
  (`sat64`), other wrap-around is covered by the correspondence runs.
-/
import SV.Generated.Funcs
import SV.TxCache.Model
namespace SV.GenProofs
open SV

private theorem dec_natCast_lt (a b : Nat) : decide ((a : Int) < (b : Int)) = decide (a < b) := by
  simp [Int.ofNat_lt]
private theorem dec_natCast_le (a b : Nat) : decide ((a : Int) ≤ (b : Int)) = decide (a ≤ b) := by
  simp [Int.ofNat_le]

theorem moreValuable_leaves :
    Gen.moreValuable_leaves = ["otherTransaction.PricePerUnit : Int", "otherTransaction.Tx.GetGasLimit() : Int", "otherTransaction.TxHash : Bytes", "otherTransaction.computeExactPricePerUnit() : Int", "wrappedTx.PricePerUnit : Int", "wrappedTx.Tx.GetGasLimit() : Int", "wrappedTx.TxHash : Bytes", "wrappedTx.computeExactPricePerUnit() : Int"] := rfl

/-- the saturating 64-bit field `PricePerUnit` -/
def sat64 (n : Nat) : Int := if n < 18446744073709551615 then (n : Int) else 18446744073709551615

theorem sat64_of_lt {n : Nat} (h : n < 18446744073709551616) : sat64 n = n := by
  unfold sat64; split <;> omega

theorem sat64_of_ge {n : Nat} (h : ¬ n < 18446744073709551616) : sat64 n = 18446744073709551615 := by
  unfold sat64; rw [if_neg (by omega)]

theorem sat64_lt {x y : Nat} (h : x < y) :
    sat64 x < sat64 y ∨ (sat64 x = 18446744073709551615 ∧ sat64 y = 18446744073709551615) := by
  unfold sat64; split <;> split <;> omega

theorem cmpInt_of_lt {a b : Int} (h : a < b) : Gen.cmpInt a b = -1 := if_pos h

theorem cmpInt_of_gt {a b : Int} (h : b < a) : Gen.cmpInt a b = 1 := by
  rw [Gen.cmpInt, if_neg (Int.lt_asymm h), if_pos h]

theorem cmpBytes_lt (a b : Bytes) : decide (Gen.cmpBytes a b < 0) = bytesLt a b := by
  unfold Gen.cmpBytes
  cases h : bytesLt a b with
  | true => simp
  | false => cases h2 : bytesLt b a <;> simp

/-- the translated comparator over the values it reads (`x`, `y` the exact quotients, `tail` what both sides fall back
    to on a tie): the saturated fields decide unless both are saturated, then the exact quotients do -/
theorem moreValuable_sat (x y : Nat) (ga gb : Int) (ha hb : Bytes) :
    Gen.moreValuable (sat64 x) (sat64 y) ga gb ha hb x y =
      if x ≠ y then decide (x > y)
      else if decide (ga ≠ gb) then decide (ga > gb) else decide (Gen.cmpBytes ha hb < 0) := by
  unfold Gen.moreValuable
  dsimp only
  generalize (if decide (ga ≠ gb) = true then decide (ga > gb) else decide (Gen.cmpBytes ha hb < 0)) = tail
  rcases Nat.lt_trichotomy x y with hlt | rfl | hgt
  · rw [if_pos (Nat.ne_of_lt hlt), decide_eq_false (Nat.lt_asymm hlt)]
    rcases sat64_lt hlt with h | ⟨h1, h2⟩
    · rw [if_pos (decide_eq_true (Int.ne_of_lt h)), decide_eq_false (Int.lt_asymm h)]
    · -- both saturated: the exact quotients are compared
      rw [h1, h2, cmpInt_of_lt (Int.ofNat_lt.mpr hlt)]; rfl
  · simp [Gen.cmpInt]
  · rw [if_pos (Nat.ne_of_gt hgt), decide_eq_true hgt]
    rcases sat64_lt hgt with h | ⟨h1, h2⟩
    · rw [if_pos (decide_eq_true (Int.ne_of_gt h)), decide_eq_true h]
    · rw [h2, h1, cmpInt_of_gt (Int.ofNat_lt.mpr hgt)]; rfl

/-- `isTransactionMoreValuableForNetwork` — comparing the saturated 64-bit fields first and the exact quotients only when
    both are saturated — IS the model's comparator on the exact (unbounded) price per unit: PPU ↓, gas limit ↓, hash ↑ -/
theorem moreValuable_eq (a b : TxCache.Tx) :
    TxCache.moreValuable TxCache.Variant.current a b =
      Gen.moreValuable (wrappedTx_PricePerUnit := (sat64 (a.ppu TxCache.Variant.current))) (otherTransaction_PricePerUnit := (sat64 (b.ppu TxCache.Variant.current))) (wrappedTx_Tx_GetGasLimit := a.gasLimit) (otherTransaction_Tx_GetGasLimit := b.gasLimit) (wrappedTx_TxHash := a.hash) (otherTransaction_TxHash := b.hash) (wrappedTx_computeExactPricePerUnit := (a.ppu TxCache.Variant.current)) (otherTransaction_computeExactPricePerUnit := (b.ppu TxCache.Variant.current)) := by
  have hgl : (decide ((a.gasLimit : Int) ≠ (b.gasLimit : Int))) = decide (a.gasLimit ≠ b.gasLimit) :=
    decide_eq_decide.mpr (not_congr Int.natCast_inj)
  have hgl2 : (decide ((a.gasLimit : Int) > (b.gasLimit : Int))) = decide (a.gasLimit > b.gasLimit) :=
    decide_eq_decide.mpr Int.ofNat_lt
  rw [moreValuable_sat, cmpBytes_lt, hgl, hgl2]
  simp [TxCache.moreValuable]

/-! ### the price per gas unit itself (C03: "floor(fee / gasLimit) for every fee the host can return") -/

theorem pricePerUnit_leaves : Gen.pricePerUnit_leaves = ["fee : Int", "gasLimit : Int"] := rfl

/-- `IsUint64()` of a natural number -/
private theorem inU64 (n : Nat) :
    (decide ((0 : Int) ≤ (n : Int)) && decide ((n : Int) < 18446744073709551616)) = decide (n < 18446744073709551616) := by
  rw [decide_eq_true (Int.natCast_nonneg n), Bool.true_and]; exact decide_eq_decide.mpr (by omega)

/-- `Uint64()` of a natural number that fits -/
private theorem emodU64 {n : Nat} (h : n < 18446744073709551616) : (n : Int) % 18446744073709551616 = n :=
  Int.emod_eq_of_lt (Int.natCast_nonneg n) (by omega)

/-- `computePricePerUnit` (math/big code path included) returns the exact quotient ⌊fee / gasLimit⌋ saturated at 2^64 − 1 — the
    64-bit field the comparator reads first; together with `moreValuable_eq` (exact quotients compared when saturated) the
    ordering is by the exact, unbounded price per unit -/
theorem pricePerUnit_eq (t : TxCache.Tx) (hg : t.gasLimit ≠ 0) :
    Gen.pricePerUnit (fee := t.fee) (gasLimit := t.gasLimit) = sat64 (t.ppu TxCache.Variant.current) := by
  have hp : t.ppu TxCache.Variant.current = t.fee / t.gasLimit := by
    unfold TxCache.Tx.ppu; simp [TxCache.Variant.current, hg]
  rw [hp]
  unfold Gen.pricePerUnit
  rw [inU64]
  by_cases hf : t.fee < 18446744073709551616
  · rw [if_pos (decide_eq_true hf), emodU64 hf, ← Int.natCast_ediv,
      sat64_of_lt (Nat.lt_of_le_of_lt (Nat.div_le_self _ _) hf)]
  · have hpos : ¬ (decide (Gen.cmpInt (t.fee : Int) 0 < 0) = true) := by
      rw [cmpInt_of_gt (by omega)]; decide
    rw [if_neg (by rw [decide_eq_false hf]; exact Bool.false_ne_true), if_neg hpos]
    dsimp only
    rw [← Int.natCast_ediv, inU64]
    by_cases hq : t.fee / t.gasLimit < 18446744073709551616
    · rw [if_pos (decide_eq_true hq), emodU64 hq, sat64_of_lt hq]
    · rw [if_neg (by rw [decide_eq_false hq]; exact Bool.false_ne_true), sat64_of_ge hq]

/-- a gas limit of 0 leaves the field at its zero value (`precomputeFields` does not call `computePricePerUnit`), which is the
    model's `ppu = 0` -/
theorem ppu_zero_gas (t : TxCache.Tx) (hg : t.gasLimit = 0) : t.ppu TxCache.Variant.current = 0 := by
  unfold TxCache.Tx.ppu; simp [hg]

end SV.GenProofs
