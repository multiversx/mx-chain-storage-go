/-
  SV.GenProofs.Config — the constructors' validity tests, translated from the source (`ConfigSourceMe.verify`,
  `ConfigDestinationMe.verify`, `CacheConfig.Verify`, the factory's batch-size/capacity test) together with the bounds
  they compare against (SV/Generated/Facts.lean): every configuration ACCEPTED by the constructors satisfies the side
  conditions the property theorems assume (`1 ≤ numItemsToEvict`, `1 ≤ countPerSender`, `1 ≤ numChunks`, …).
-/
import SV.Generated.Funcs
import SV.Generated.Facts
import SV.TxCache.Model
import SV.Immunity.Model
namespace SV.GenProofs
open SV

/-- a validator is a chain of rejections: it accepts iff every test on the way fails -/
private theorem ite_false_eq_true {c : Prop} [Decidable c] {b : Bool} : (if c then false else b) = true ↔ ¬ c ∧ b = true := by
  by_cases hc : c <;> simp [hc]

theorem config_leaves :
    Gen.txConfigAccepted_leaves = ["config.CountPerSenderThreshold : Int", "config.CountThreshold : Int", "config.NumBytesPerSenderThreshold : Int", "config.NumBytesThreshold : Int", "config.NumChunks : Int", "config.NumItemsToPreemptivelyEvict : Int", "len(config.Name) : Int", "maxNumBytesLowerBound : Int", "maxNumBytesPerSenderLowerBound : Int", "maxNumBytesPerSenderUpperBound : Int", "maxNumBytesUpperBound : Int", "maxNumItemsLowerBound : Int", "maxNumItemsPerSenderLowerBound : Int", "numChunksLowerBound : Int", "numChunksUpperBound : Int", "numItemsToPreemptivelyEvictLowerBound : Int"] ∧
    Gen.immunityConfigAccepted_leaves = ["config.MaxNumBytes : Int", "config.MaxNumItems : Int", "config.NumChunks : Int", "config.NumItemsToPreemptivelyEvict : Int", "len(config.Name) : Int", "maxNumBytesLowerBound : Int", "maxNumBytesUpperBound : Int", "maxNumItemsLowerBound : Int", "numChunksLowerBound : Int", "numChunksUpperBound : Int", "numItemsToPreemptivelyEvictLowerBound : Int"] ∧
    Gen.crossConfigAccepted_leaves = Gen.immunityConfigAccepted_leaves ∧
    Gen.unitConfRejected_leaves = ["cacheConf.Capacity : Int", "dbConf.MaxBatchSize : Int"] := ⟨rfl, rfl, rfl, rfl⟩

/-- `NewTxCache` accepts the configuration (name of length `nameLen`, `numChunks` chunks, thresholds as in the model's `Config`) -/
def txAccepted (cfg : TxCache.Config) (nameLen numChunks : Nat) : Bool :=
  Gen.txConfigAccepted (len_config_Name := nameLen) (config_NumChunks := numChunks) (numChunksLowerBound := Facts.txNumChunksLowerBound) (numChunksUpperBound := Facts.txNumChunksUpperBound) (config_NumBytesPerSenderThreshold := cfg.numBytesPerSender) (maxNumBytesPerSenderLowerBound := Facts.txMaxNumBytesPerSenderLowerBound) (maxNumBytesPerSenderUpperBound := Facts.txMaxNumBytesPerSenderUpperBound) (config_CountPerSenderThreshold := cfg.countPerSender) (maxNumItemsPerSenderLowerBound := Facts.txMaxNumItemsPerSenderLowerBound) (config_NumBytesThreshold := cfg.numBytesThreshold) (maxNumBytesLowerBound := Facts.txMaxNumBytesLowerBound) (maxNumBytesUpperBound := Facts.txMaxNumBytesUpperBound) (config_CountThreshold := cfg.countThreshold) (maxNumItemsLowerBound := Facts.txMaxNumItemsLowerBound) (config_NumItemsToPreemptivelyEvict := cfg.numItemsToEvict) (numItemsToPreemptivelyEvictLowerBound := Facts.txNumItemsToPreemptivelyEvictLowerBound)

/-- `NewTxCache` accepts exactly the configurations within the bounds of txcache/config.go -/
theorem txAccepted_iff (cfg : TxCache.Config) (nameLen numChunks : Nat) :
    txAccepted cfg nameLen numChunks = true ↔
    1 ≤ nameLen ∧ 1 ≤ numChunks ∧ numChunks ≤ 128 ∧
    1 ≤ cfg.numBytesPerSender ∧ cfg.numBytesPerSender ≤ 33554432 ∧ 1 ≤ cfg.countPerSender ∧
    4 ≤ cfg.numBytesThreshold ∧ cfg.numBytesThreshold ≤ 1073741824 ∧ 4 ≤ cfg.countThreshold ∧ 1 ≤ cfg.numItemsToEvict := by
  simp only [txAccepted, Gen.txConfigAccepted, ite_false_eq_true, Bool.or_eq_true, decide_eq_true_eq, not_or,
    Int.not_lt, gt_iff_lt, Int.ofNat_le, Int.natCast_eq_zero, ← Nat.pos_iff_ne_zero, and_true, and_assoc]
  -- what is left differs only in the bounds of SV/Generated/Facts.lean being named on the left and written out on the right
  exact Iff.rfl

theorem txAccepted_bounds (cfg : TxCache.Config) (nameLen numChunks : Nat) (h : txAccepted cfg nameLen numChunks = true) :
    1 ≤ nameLen ∧ 1 ≤ numChunks ∧ numChunks ≤ 128 ∧
    1 ≤ cfg.numBytesPerSender ∧ cfg.numBytesPerSender ≤ 33554432 ∧ 1 ≤ cfg.countPerSender ∧
    4 ≤ cfg.numBytesThreshold ∧ cfg.numBytesThreshold ≤ 1073741824 ∧ 4 ≤ cfg.countThreshold ∧ 1 ≤ cfg.numItemsToEvict :=
  (txAccepted_iff cfg nameLen numChunks).1 h

-- the acceptance test is satisfiable (smallest accepted configuration) and does reject
example : txAccepted ⟨true, 4, 1, 4, 1, 1⟩ 1 1 = true := by decide +kernel
example : txAccepted ⟨true, 4, 1, 4, 1, 0⟩ 1 1 = false := by decide +kernel
example : txAccepted ⟨true, 4, 1, 3, 1, 1⟩ 1 1 = false := by decide +kernel

/-- `NewImmunityCache` (and `NewCrossTxCache`, whose validator is the same test) accepts the configuration -/
def immunityAccepted (cfg : Immunity.Config) (nameLen : Nat) : Bool :=
  Gen.immunityConfigAccepted (len_config_Name := nameLen) (config_NumChunks := cfg.numChunks) (numChunksLowerBound := Facts.imNumChunksLowerBound) (numChunksUpperBound := Facts.imNumChunksUpperBound) (config_MaxNumItems := cfg.maxNumItems) (maxNumItemsLowerBound := Facts.imMaxNumItemsLowerBound) (config_MaxNumBytes := cfg.maxNumBytes) (maxNumBytesLowerBound := Facts.imMaxNumBytesLowerBound) (maxNumBytesUpperBound := Facts.imMaxNumBytesUpperBound) (config_NumItemsToPreemptivelyEvict := cfg.numItemsToEvict) (numItemsToPreemptivelyEvictLowerBound := Facts.imNumItemsToPreemptivelyEvictLowerBound)

theorem immunityAccepted_iff (cfg : Immunity.Config) (nameLen : Nat) :
    immunityAccepted cfg nameLen = true ↔
    1 ≤ nameLen ∧ 1 ≤ cfg.numChunks ∧ cfg.numChunks ≤ 128 ∧ 4 ≤ cfg.maxNumItems ∧
    4 ≤ cfg.maxNumBytes ∧ cfg.maxNumBytes ≤ 1073741824 ∧ 1 ≤ cfg.numItemsToEvict := by
  simp only [immunityAccepted, Gen.immunityConfigAccepted, ite_false_eq_true, Bool.or_eq_true, decide_eq_true_eq, not_or,
    Int.not_lt, gt_iff_lt, Int.ofNat_le, Int.natCast_eq_zero, ← Nat.pos_iff_ne_zero, and_true, and_assoc]
  exact Iff.rfl

theorem immunityAccepted_bounds (cfg : Immunity.Config) (nameLen : Nat) (h : immunityAccepted cfg nameLen = true) :
    1 ≤ nameLen ∧ 1 ≤ cfg.numChunks ∧ cfg.numChunks ≤ 128 ∧ 4 ≤ cfg.maxNumItems ∧
    4 ≤ cfg.maxNumBytes ∧ cfg.maxNumBytes ≤ 1073741824 ∧ 1 ≤ cfg.numItemsToEvict :=
  (immunityAccepted_iff cfg nameLen).1 h

theorem crossAccepted_eq : @Gen.crossConfigAccepted = @Gen.immunityConfigAccepted := rfl

example : immunityAccepted ⟨1, 4, 4, 1⟩ 1 = true := by decide +kernel
example : immunityAccepted ⟨129, 4, 4, 1⟩ 1 = false := by decide +kernel

/-- the factory refuses a storage unit whose persister batch is larger than its cache: accepted ⇒ MaxBatchSize ≤ Capacity -/
theorem unitConf_accepted (maxBatch capacity : Nat) (h : Gen.unitConfRejected (dbConf_MaxBatchSize := maxBatch) (cacheConf_Capacity := capacity) = false) : maxBatch ≤ capacity :=
  Int.ofNat_le.1 (Int.not_lt.1 (of_decide_eq_false h))

end SV.GenProofs
