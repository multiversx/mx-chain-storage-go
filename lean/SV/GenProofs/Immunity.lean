/-
  SV.GenProofs.Immunity — the immunity cache's capacity test, its per-chunk limits and the two statements that move a
  chunk's byte counter (immunitycache/chunk.go, config.go), translated from the source on every run, are the model's
  (C12, C13).  Integers are mathematical here (conversions are identities): wrap-around is covered by the
  correspondence runs.
-/
import SV.Generated.Funcs
import SV.Immunity.Model
namespace SV.GenProofs
open SV

private theorem dec_natCast_lt (a b : Nat) : decide ((a : Int) < (b : Int)) = decide (a < b) :=
  decide_eq_decide.2 Int.ofNat_lt
private theorem dec_natCast_le (a b : Nat) : decide ((a : Int) ≤ (b : Int)) = decide (a ≤ b) :=
  decide_eq_decide.2 Int.ofNat_le

private theorem natCast_max (a b : Nat) : ((max a b : Nat) : Int) = max (a : Int) b := by omega

theorem chunk_leaves :
    Gen.chunkExceeded_leaves = ["chunk.config.maxNumBytes : Int", "chunk.config.maxNumItems : Int", "chunk.numBytes : Int", "len(chunk.items) : Int"] ∧
    Gen.chunkMaxNumItems_leaves = ["config.MaxNumItems : Int", "config.NumChunks : Int"] ∧
    Gen.chunkMaxNumBytes_leaves = ["config.MaxNumBytes : Int", "config.NumChunks : Int"] ∧
    Gen.chunkNumItemsToEvict_leaves = ["config.NumChunks : Int", "config.NumItemsToPreemptivelyEvict : Int"] := ⟨rfl, rfl, rfl, rfl⟩

/-- `immunityChunk.isCapacityExceededNoLock` is the model's `Chunk.exceeded` (capacity REACHED, not exceeded: `≥`) -/
theorem chunkExceeded_eq (cfg : Immunity.ChunkCfg) (c : Immunity.Chunk) :
    c.exceeded cfg = Gen.chunkExceeded (len_chunk_items := c.items.length) (chunk_config_maxNumItems := cfg.maxNumItems) (chunk_numBytes := c.numBytes) (chunk_config_maxNumBytes := cfg.maxNumBytes) := by
  simp only [Immunity.Chunk.exceeded, Gen.chunkExceeded, ge_iff_le, dec_natCast_le]

/-- `CacheConfig.getChunkConfig`: every per-chunk limit is the cache limit divided (rounding down) by max(NumChunks, 1) -/
theorem chunkCfg_eq (c : Immunity.Config) :
    ((c.chunkCfg.maxNumItems : Nat) : Int) = Gen.chunkMaxNumItems (config_NumChunks := c.numChunks) (config_MaxNumItems := c.maxNumItems) ∧
    ((c.chunkCfg.maxNumBytes : Nat) : Int) = Gen.chunkMaxNumBytes (config_NumChunks := c.numChunks) (config_MaxNumBytes := c.maxNumBytes) ∧
    ((c.chunkCfg.numToEvict : Nat) : Int) = Gen.chunkNumItemsToEvict (config_NumChunks := c.numChunks) (config_NumItemsToPreemptivelyEvict := c.numItemsToEvict) := by
  simp only [Immunity.Config.chunkCfg, Gen.chunkMaxNumItems, Gen.chunkMaxNumBytes, Gen.chunkNumItemsToEvict, Int.natCast_ediv,
    natCast_max, Int.natCast_one, and_self]

/-! ### the byte counter of an immunity chunk (`numBytes`) -/

theorem chunkBytes_leaves :
    Gen.chunkBytesAfterAdd_leaves = ["chunk.numBytes : Int", "item.size : Int"] ∧
    Gen.chunkBytesAfterRemove_leaves = ["chunk.numBytes : Int", "item.size : Int"] := ⟨rfl, rfl⟩

/-- `trackNumBytesOnRemoveNoLock`, folded over the items an eviction removes, is the model's `subBytes` (clamped at 0 after
    EACH item, as in the source) -/
theorem subBytes_eq_source (b : Int) (removed : List Immunity.Item) :
    Immunity.subBytes b removed =
      removed.foldl (fun b it => Gen.chunkBytesAfterRemove (chunk_numBytes := b) (item_size := it.size)) b := rfl

theorem chunkBytes_removeItem (c : Immunity.Chunk) (k : Bytes) (it : Immunity.Item) (h : c.get k = some it) :
    (c.removeItem k).1.numBytes = Gen.chunkBytesAfterRemove (chunk_numBytes := c.numBytes) (item_size := it.size) := by
  simp only [Immunity.Chunk.removeItem, h, Gen.chunkBytesAfterRemove]

/-- `trackNumBytesOnAddNoLock`: an insertion adds the declared size (the expression the model's `addItem` uses) -/
theorem chunkBytes_add (b size : Int) : b + size = Gen.chunkBytesAfterAdd (chunk_numBytes := b) (item_size := size) := rfl

end SV.GenProofs
