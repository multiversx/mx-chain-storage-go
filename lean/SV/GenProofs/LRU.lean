/-
  SV.GenProofs.LRU — `capacityLRU.shouldEvict` and the statements that move `currentCapacityInBytes`
  (lrucache/capacity/capacityLRUCache.go), translated from the source on every run, are the model's (C15, C17).
  Integers are mathematical here (conversions are identities): wrap-around is covered by the correspondence runs.
-/
import SV.Generated.Funcs
import SV.LRU.Model
namespace SV.GenProofs
open SV

private theorem dec_natCast_lt (a b : Nat) : decide ((a : Int) < (b : Int)) = decide (a < b) :=
  decide_eq_decide.2 Int.ofNat_lt
private theorem dec_natCast_le (a b : Nat) : decide ((a : Int) ≤ (b : Int)) = decide (a ≤ b) :=
  decide_eq_decide.2 Int.ofNat_le

theorem lruShouldEvict_leaves :
    Gen.lruShouldEvict_leaves = ["c.currentCapacityInBytes : Int", "c.evictList.Len() : Int", "c.maxCapacityInBytes : Int", "c.size : Int"] := rfl

theorem lruShouldEvict_eq (c : LRU.Cap) :
    c.shouldEvict = Gen.lruShouldEvict (c_evictList_Len := c.entries.length) (c_size := c.cap) (c_currentCapacityInBytes := c.bytes) (c_maxCapacityInBytes := c.maxBytes) := by
  have h1 : ((c.entries.length : Int) = 1) = (c.entries.length = 1) := propext (Int.natCast_inj (n := 1))
  simp only [LRU.Cap.shouldEvict, Gen.lruShouldEvict, gt_iff_lt, dec_natCast_lt, decide_eq_true_eq, h1]

/-! ### the byte counter of the size-bounded LRU (`currentCapacityInBytes`): every statement of the source that changes it is
    translated (mode `effect`) and is the model's update -/

theorem lruBytes_leaves :
    Gen.lruBytesAfterAdd_leaves = ["c.currentCapacityInBytes : Int", "sizeInBytes : Int"] ∧
    Gen.lruBytesAfterRemove_leaves = ["c.currentCapacityInBytes : Int", "kv.size : Int"] ∧
    Gen.lruBytesAfterResize_leaves = ["c.currentCapacityInBytes : Int", "sizeInBytes : Int", "v.size : Int"] := ⟨rfl, rfl, rfl⟩

theorem lruBytes_addNew (c : LRU.Cap) (k v : Bytes) (size : Int) :
    (c.addNew k v size).bytes = Gen.lruBytesAfterAdd (c_currentCapacityInBytes := c.bytes) (sizeInBytes := size) := rfl

/-- `removeElement` (eviction of the oldest entry and `Remove`): the counter shrinks by the size stored with the entry -/
theorem lruBytes_removeOldest (c : LRU.Cap) (e : LRU.Entry) (h : c.entries.getLast? = some e) :
    c.removeOldest.1.bytes = Gen.lruBytesAfterRemove (c_currentCapacityInBytes := c.bytes) (kv_size := e.size) := by
  simp only [LRU.Cap.removeOldest, h, Gen.lruBytesAfterRemove]
theorem lruBytes_remove (c : LRU.Cap) (k : Bytes) (e : LRU.Entry) (h : c.find k = some e) :
    (c.remove k).1.bytes = Gen.lruBytesAfterRemove (c_currentCapacityInBytes := c.bytes) (kv_size := e.size) := by
  simp only [LRU.Cap.remove, h, Gen.lruBytesAfterRemove]

/-- `adjustSize` run on an entry whose stored size is `stored`: the counter loses the stored size and gains the new one.  In
    `update` the source first adds `size − old` and stores `size`, then runs `adjustSize` (stored = size, a net zero): together
    the model's `bytes + (size − old.size)` -/
theorem lruBytes_update_eq_source (bytes size old : Int) :
    bytes + (size - old) =
      Gen.lruBytesAfterResize (c_currentCapacityInBytes := bytes + (size - old)) (v_size := size) (sizeInBytes := size) ∧
    bytes + (size - old) = Gen.lruBytesAfterResize (c_currentCapacityInBytes := bytes) (v_size := old) (sizeInBytes := size) :=
  ⟨(Int.sub_add_cancel _ _).symm, by unfold Gen.lruBytesAfterResize; omega⟩

end SV.GenProofs
