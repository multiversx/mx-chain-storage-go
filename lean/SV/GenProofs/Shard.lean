/-
  SV.GenProofs.Shard — the two tests of `shardIDProvider.ComputeId` (sharded/shardIDProvider.go), translated from the
  source on every run, are the tests of the model `SV.Shard.computeId` (C19).  The byte accumulation and the masking
  themselves are bit operations the translator leaves to the correspondence runs (every shard count of the domain through
  the mask segments, random and canonical keys); what is pinned here is WHICH suffix is read and WHEN the low mask is used.
-/
import SV.Generated.Funcs
import SV.Shard
namespace SV.GenProofs
open SV SV.Shard

theorem shardKeepsWholeKey_leaves : Gen.shardKeepsWholeKey_leaves = ["len(key) : Int", "sp.bytesNeeded : Int"] := rfl
theorem shardFallsBackToLowMask_leaves : Gen.shardFallsBackToLowMask_leaves = ["shardIndex : Int", "sp.numOfShards : Int"] := rfl

/-- the suffix the model reads is the one the source reads: the key is cut exactly when it is strictly longer than the
    bytes needed, and then to its last `bytesNeeded` bytes -/
theorem suffixOf_eq_source (n : Nat) (key : Bytes) :
    suffixOf n key =
      (if Gen.shardKeepsWholeKey (len_key := key.length) (sp_bytesNeeded := bytesNeeded n)
       then key.drop (key.length - bytesNeeded n) else key) := by
  simp only [suffixOf, Gen.shardKeepsWholeKey, gt_iff_lt, Int.ofNat_lt, decide_eq_true_eq]

/-- the model falls back to the low mask exactly when the source does (`shardIndex > numOfShards − 1`, in the source an
    unsigned subtraction that cannot wrap because the constructor refuses counts below 2) -/
theorem computeId_eq_source (n : Nat) (key : Bytes) (hn : 1 ≤ n) :
    computeId n key =
      (let addr := foldAddr (suffixOf n key)
       if Gen.shardFallsBackToLowMask (shardIndex := ((addr &&& maskHigh n : Nat) : Int)) (sp_numOfShards := n)
       then addr &&& maskLow n else addr &&& maskHigh n) := by
  have h : (n : Int) - 1 = ((n - 1 : Nat) : Int) := (Int.natCast_sub hn).symm
  simp only [computeId, Gen.shardFallsBackToLowMask, gt_iff_lt, decide_eq_true_eq, h, Int.ofNat_lt]

end SV.GenProofs
