/-
  SV.GenProofs.TxSenderBytes — the per-sender byte counter (`txListForSender.totalBytes`, an atomic counter): the two statements
  of the source that change it (`onAddedTransaction`, `onRemovedListElement`) are translated on every run (mode `effect`).
  For the addition it is shown that the insertion of the transcribed per-sender list (SV/TxCache/GoList.lean) moves its
  counter by the translated update; for the removal only that the translated update is the subtraction `b - sz` which the
  transcribed removals spell out (their coherence with the list content, `SWF`: totalBytes = Σ sizes, is proved there).
-/
import SV.Generated.Funcs
import SV.TxCache.GoList
namespace SV.GenProofs
open SV SV.TxCache SV.TxCache.GoList

theorem senderBytes_leaves :
    Gen.senderBytesAfterAdd_leaves = ["listForSender.totalBytes : Int", "tx.Size : Int"] ∧
    Gen.senderBytesAfterRemove_leaves = ["listForSender.totalBytes : Int", "tx.Size : Int"] := ⟨rfl, rfl⟩

theorem insert_totalBytes (s : SenderList) (t : Tx) :
    (s.insert t).1.totalBytes = if (s.insert t).2 then s.totalBytes + t.size else s.totalBytes := by
  unfold SenderList.insert
  cases s.findInsertionPlace t with
  | err => rfl
  | at_ o => cases o <;> rfl

/-- a successful insertion (`AddTx` up to `onAddedTransaction`) moves the counter exactly as the source does -/
theorem senderBytes_insert (s s' : SenderList) (t : Tx) (h : s.insert t = (s', true)) :
    s'.totalBytes = Gen.senderBytesAfterAdd (listForSender_totalBytes := s.totalBytes) (tx_Size := (t.size : Int)) := by
  have := insert_totalBytes s t
  rwa [h] at this

theorem senderBytes_insert_rejected (s s' : SenderList) (t : Tx) (h : s.insert t = (s', false)) : s'.totalBytes = s.totalBytes := by
  have := insert_totalBytes s t
  rwa [h] at this

/-- the translated update of `onRemovedListElement` is the subtraction of the size (no transcribed removal is mentioned) -/
theorem senderBytes_remove (b sz : Int) : b - sz = Gen.senderBytesAfterRemove (listForSender_totalBytes := b) (tx_Size := sz) := rfl

end SV.GenProofs
