/-
  SV.GenProofs.TxLists — tie BY TRANSLATION for the per-sender list walks of the mempool (C04, C07):
  one iteration of `findInsertionPlace` (translated as a decision: 0 = go on with the previous element, 1 = insert right
  after this element, 2 = errItemAlreadyInCache) and the loop exits of the two nonce-directed removals are proved to be the
  model's (`insertRev`, `dropLowerOrEqual`, `dropHigherRev`) for all arguments.  `SV/Generated/Funcs.lean` is regenerated
  from /repo's current source on every run.
-/
import SV.Generated.Funcs
import SV.TxCache.Model
import SV.CommonProofs
namespace SV.GenProofs
open SV SV.TxCache

theorem insertionStep_leaves :
    Gen.insertionStep_leaves = ["currentTx.Tx.GetGasPrice() : Int", "currentTx.Tx.GetNonce() : Int", "currentTx.TxHash : Bytes", "incomingTx.Tx.GetGasPrice() : Int", "incomingTx.Tx.GetNonce() : Int", "incomingTx.TxHash : Bytes"] := rfl

/-- the ways one iteration ends other than going on: found the place (code 1), duplicate (code 2) -/
theorem insertionStep_outcomes :
    Gen.insertionStep_outcomes = ["return element, nil", "return nil, errItemAlreadyInCache"] := rfl

theorem cmpBytes_eq_zero (a b : Bytes) : Gen.cmpBytes a b = 0 ↔ a = b := by
  unfold Gen.cmpBytes
  constructor
  · intro h
    cases h1 : bytesLt a b with
    | true => simp [h1] at h
    | false =>
      cases h2 : bytesLt b a with
      | true => simp [h1, h2] at h
      | false =>
        apply Classical.byContradiction
        intro hne
        rcases bytesLt_total a b hne with h3 | h3
        · rw [h1] at h3; exact Bool.noConfusion h3
        · rw [h2] at h3; exact Bool.noConfusion h3
  · intro h
    subst h
    simp [bytesLt_irrefl]

theorem cmpBytes_neg (a b : Bytes) : Gen.cmpBytes a b < 0 ↔ bytesLt a b = true := by
  unfold Gen.cmpBytes
  cases h1 : bytesLt a b with
  | true => simp
  | false => cases h2 : bytesLt b a <;> simp

/-- the model's sorted insertion (`insertRev`, the list reversed: the code walks from the back) takes, at each element,
    exactly the decision the source takes there -/
theorem insertRev_cons_eq_source (t c : Tx) (rest : List Tx) :
    insertRev t (c :: rest) =
      (if Gen.insertionStep (incomingTx_Tx_GetNonce := t.nonce) (incomingTx_Tx_GetGasPrice := t.gasPrice) (currentTx_Tx_GetNonce := c.nonce) (currentTx_Tx_GetGasPrice := c.gasPrice) (currentTx_TxHash := c.hash) (incomingTx_TxHash := t.hash) = 1 then some (t :: c :: rest)
       else if Gen.insertionStep (incomingTx_Tx_GetNonce := t.nonce) (incomingTx_Tx_GetGasPrice := t.gasPrice) (currentTx_Tx_GetNonce := c.nonce) (currentTx_Tx_GetGasPrice := c.gasPrice) (currentTx_TxHash := c.hash) (incomingTx_TxHash := t.hash) = 2 then none
       else (insertRev t rest).map (c :: ·)) := by
  -- the source's step is the model's chain of tests with the outcome given as a code: decode the code at the leaves
  let f : Int → Option (List Tx) := fun x =>
    if x = 1 then some (t :: c :: rest) else if x = 2 then none else (insertRev t rest).map (c :: ·)
  show _ = f _
  simp only [Gen.insertionStep, apply_ite f]
  simp only [f, insertRev, gt_iff_lt, Int.natCast_inj, Int.ofNat_lt, decide_eq_true_eq, cmpBytes_eq_zero, cmpBytes_neg,
    ↓reduceIte, Int.reduceEq]

theorem removeLowerStops_leaves : Gen.removeLowerStops_leaves = ["targetNonce : Int", "txNonce : Int"] := rfl
theorem removeHigherStops_leaves : Gen.removeHigherStops_leaves = ["givenNonce : Int", "txNonce : Int"] := rfl

/-- `removeTransactionsWithLowerOrEqualNonceReturnHashes` stops at the first nonce strictly above the target — the model's
    `dropLowerOrEqual` keeps the list from exactly that element on -/
theorem dropLowerOrEqual_cons_eq_source (n : Nat) (c : Tx) (rest : List Tx) :
    dropLowerOrEqual n (c :: rest) =
      (if Gen.removeLowerStops (txNonce := c.nonce) (targetNonce := n) = [true] then c :: rest else dropLowerOrEqual n rest) := by
  simp only [dropLowerOrEqual, Gen.removeLowerStops, gt_iff_lt, Int.ofNat_lt, List.cons.injEq, and_true, decide_eq_true_eq]

/-- `removeTransactionsWithHigherOrEqualNonce` (eviction of a sender's suffix, walking from the back) stops at the first
    nonce strictly below the given one -/
theorem dropHigherRev_cons_eq_source (n : Nat) (c : Tx) (rest : List Tx) :
    dropHigherRev n (c :: rest) =
      (if Gen.removeHigherStops (txNonce := c.nonce) (givenNonce := n) = [true] then c :: rest else dropHigherRev n rest) := by
  simp only [dropHigherRev, Gen.removeHigherStops, Int.ofNat_lt, List.cons.injEq, and_true, decide_eq_true_eq]

end SV.GenProofs
