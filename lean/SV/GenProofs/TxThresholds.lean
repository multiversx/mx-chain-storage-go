/-
  SV.GenProofs.TxThresholds — the capacity tests of the mempool and of a sender's list (txcache/eviction.go,
  txListForSender.go), translated from the source on every run, are the model's (C06, C07).  Integers are mathematical
  here (conversions are identities): wrap-around is covered by the correspondence runs.
-/
import SV.Generated.Funcs
import SV.TxCache.Model
namespace SV.GenProofs
open SV

private theorem dec_natCast_lt (a b : Nat) : decide ((a : Int) < (b : Int)) = decide (a < b) :=
  decide_eq_decide.2 Int.ofNat_lt
private theorem dec_natCast_le (a b : Nat) : decide ((a : Int) ≤ (b : Int)) = decide (a ≤ b) :=
  decide_eq_decide.2 Int.ofNat_le

theorem poolExceeded_leaves :
    Gen.poolExceeded_leaves = ["cache.areThereTooManyBytes() : Bool", "cache.areThereTooManySenders() : Bool", "cache.areThereTooManyTxs() : Bool"] ∧
    Gen.tooManyBytes_leaves = ["cache.NumBytes() : Int", "cache.config.NumBytesThreshold : Int"] ∧
    Gen.tooManySenders_leaves = ["cache.CountSenders() : Int", "cache.config.CountThreshold : Int"] ∧
    Gen.tooManyTxs_leaves = ["cache.CountTx() : Int", "cache.config.CountThreshold : Int"] := ⟨rfl, rfl, rfl, rfl⟩

/-- `TxCache.isCapacityExceeded` is the model's `Pool.exceeded` (counters read through their clamped getters) -/
theorem poolExceeded_eq (p : TxCache.Pool) :
    p.exceeded =
      Gen.poolExceeded (cache_areThereTooManyBytes := (Gen.tooManyBytes (cache_NumBytes := (TxCache.clampNat p.numBytes)) (cache_config_NumBytesThreshold := p.cfg.numBytesThreshold))) (cache_areThereTooManySenders := (Gen.tooManySenders (cache_CountSenders := (TxCache.clampNat p.cntSenders)) (cache_config_CountThreshold := p.cfg.countThreshold))) (cache_areThereTooManyTxs := (Gen.tooManyTxs (cache_CountTx := (TxCache.clampNat p.cntTx)) (cache_config_CountThreshold := p.cfg.countThreshold))) := by
  simp only [TxCache.Pool.exceeded, Gen.poolExceeded, Gen.tooManyBytes, Gen.tooManySenders, Gen.tooManyTxs, gt_iff_lt,
    dec_natCast_lt]

theorem senderExceeded_leaves :
    Gen.senderExceeded_leaves = ["listForSender.constraints.maxNumBytes : Int", "listForSender.constraints.maxNumTxs : Int", "listForSender.countTx() : Int", "listForSender.totalBytes.Get() : Int"] := rfl

/-- `txListForSender.isCapacityExceeded` is the model's `senderExceeded` -/
theorem senderExceeded_eq (cfg : TxCache.Config) (l : List TxCache.Tx) :
    TxCache.senderExceeded cfg l =
      Gen.senderExceeded (listForSender_constraints_maxNumBytes := cfg.numBytesPerSender) (listForSender_constraints_maxNumTxs := cfg.countPerSender) (listForSender_totalBytes_Get := (TxCache.listBytes l)) (listForSender_countTx := l.length) := by
  simp only [TxCache.senderExceeded, Gen.senderExceeded, gt_iff_lt, dec_natCast_lt]

end SV.GenProofs
