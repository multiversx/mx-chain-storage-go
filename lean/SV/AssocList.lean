/-
  SV.AssocList — Go maps as association lists (`alookup`, `aset`, `aerase` of SV.Common): the lemmas every model
  built on them needs.  Keys are written `l.map (·.1)`.  `aset` overwrites in place or appends, `aerase` removes
  every binding of the key, `alookup` returns the first one; with `LawfulBEq` keys all three are characterised by
  what a later lookup returns (`alookup_aset`, `alookup_aerase`).
-/
import SV.Common
namespace SV

/-- found once here: the search for `LawfulBEq (List UInt8)` is long, and every use of a lemma below at `Bytes` keys
    would repeat it -/
instance : LawfulBEq Bytes := inferInstance

/-! ### facts that need no lawfulness of `==` -/

section
variable {α : Type u} {β : Type v} [BEq α]

theorem alookup_cons (k : α) (a : α × β) (l : List (α × β)) :
    alookup k (a :: l) = if a.1 == k then some a.2 else alookup k l := rfl

theorem alookup_append (k : α) (a b : List (α × β)) :
    alookup k (a ++ b) = (alookup k a).orElse fun _ => alookup k b := by
  induction a with
  | nil => rfl
  | cons x r ih =>
    rw [List.cons_append, alookup_cons, alookup_cons]
    split
    · rfl
    · exact ih

theorem aerase_eq_filter (k : α) (l : List (α × β)) : aerase k l = l.filter (fun e => !(e.1 == k)) := by
  induction l with
  | nil => rfl
  | cons a r ih => by_cases hk : a.1 == k <;> simp [aerase, hk, ih]

theorem alookup_aerase_self (k : α) (l : List (α × β)) : alookup k (aerase k l) = none := by
  induction l with
  | nil => rfl
  | cons a r ih => by_cases hk : a.1 == k <;> simp [aerase, alookup_cons, hk, ih]

theorem keys_aerase_sublist (k : α) (l : List (α × β)) : ((aerase k l).map (·.1)).Sublist (l.map (·.1)) := by
  rw [aerase_eq_filter]
  exact List.filter_sublist.map _

theorem mem_keys_aerase {k x : α} {l : List (α × β)} (h : x ∈ (aerase k l).map (·.1)) : x ∈ l.map (·.1) :=
  (keys_aerase_sublist k l).subset h

theorem nodup_keys_aerase (k : α) {l : List (α × β)} (h : (l.map (·.1)).Nodup) : ((aerase k l).map (·.1)).Nodup :=
  h.sublist (keys_aerase_sublist k l)

theorem aset_of_absent {k : α} (v : β) {l : List (α × β)} (h : alookup k l = none) : aset k v l = l ++ [(k, v)] := by
  induction l with
  | nil => rfl
  | cons a r ih =>
    rw [alookup_cons] at h
    by_cases hk : a.1 == k
    · simp [hk] at h
    · simp only [hk] at h
      simp only [aset, hk, List.cons_append, ih (by simpa using h)]
      rfl

theorem alookup_eq_find (k : α) (l : List (α × β)) : alookup k l = (l.find? (fun e => e.1 == k)).map (·.2) := by
  induction l with
  | nil => rfl
  | cons a r ih =>
    rw [alookup_cons, List.find?_cons]
    by_cases h : a.1 == k
    · rw [if_pos h, h]; rfl
    · rw [if_neg h, (Bool.not_eq_true _).mp h]; exact ih

theorem alookup_of_prefix {k : α} {v : β} {p l : List (α × β)} (h : p <+: l) (hk : alookup k p = some v) :
    alookup k l = some v := by
  obtain ⟨q, rfl⟩ := h
  rw [alookup_append, hk]
  rfl

end

section
variable {α : Type u} {β : Type v} [BEq α] [LawfulBEq α]

/-! ### `alookup` and membership -/

theorem mem_of_alookup {k : α} {v : β} {l : List (α × β)} (h : alookup k l = some v) : (k, v) ∈ l := by
  induction l with
  | nil => cases h
  | cons a r ih =>
    rw [alookup_cons] at h
    split at h
    · next hk => cases eq_of_beq hk; cases h; exact List.mem_cons_self
    · exact List.mem_cons_of_mem _ (ih h)

theorem alookup_none_iff {k : α} {l : List (α × β)} : alookup k l = none ↔ k ∉ l.map (·.1) := by
  induction l with
  | nil => simp [alookup]
  | cons a r ih =>
    rw [alookup_cons]
    split
    · next hk => simp [eq_of_beq hk]
    · next hk =>
      have : ¬ k = a.1 := fun e => hk (by simp [e])
      simp [ih, this]

theorem not_mem_of_alookup_none {k : α} {l : List (α × β)} (h : alookup k l = none) (v : β) : (k, v) ∉ l :=
  fun hm => alookup_none_iff.mp h (List.mem_map.mpr ⟨(k, v), hm, rfl⟩)

theorem alookup_isSome_iff {k : α} {l : List (α × β)} : (alookup k l).isSome = true ↔ k ∈ l.map (·.1) := by
  rw [← Decidable.not_iff_not, ← alookup_none_iff]
  cases alookup k l <;> simp

theorem alookup_of_mem {k : α} {v : β} {l : List (α × β)} (hnd : (l.map (·.1)).Nodup) (h : (k, v) ∈ l) :
    alookup k l = some v := by
  induction l with
  | nil => cases h
  | cons a r ih =>
    rw [List.map_cons, List.nodup_cons] at hnd
    rw [alookup_cons]
    rcases List.mem_cons.mp h with rfl | h
    · simp
    · split
      · next hk => exact absurd (List.mem_map.mpr ⟨_, h, (eq_of_beq hk).symm⟩) hnd.1
      · exact ih hnd.2 h

theorem alookup_iff_mem {k : α} {v : β} {l : List (α × β)} (hnd : (l.map (·.1)).Nodup) :
    alookup k l = some v ↔ (k, v) ∈ l := ⟨mem_of_alookup, alookup_of_mem hnd⟩

theorem alookup_aerase_ne {k k' : α} (l : List (α × β)) (hne : k' ≠ k) :
    alookup k' (aerase k l) = alookup k' l := by
  induction l with
  | nil => rfl
  | cons a r ih =>
    by_cases hk : a.1 == k
    · have : (a.1 == k') = false := by rw [eq_of_beq hk]; exact beq_false_of_ne hne.symm
      simp [aerase, alookup_cons, hk, ih, this]
    · simp [aerase, alookup_cons, hk, ih]

theorem alookup_aerase (k k' : α) (l : List (α × β)) :
    alookup k' (aerase k l) = if k' == k then none else alookup k' l := by
  by_cases h : k' == k
  · rw [if_pos h, eq_of_beq h, alookup_aerase_self]
  · rw [if_neg h, alookup_aerase_ne l (fun e => h (by simp [e]))]

theorem alookup_aerase_some {k k' : α} {v : β} {l : List (α × β)} (h : alookup k' (aerase k l) = some v) :
    k' ≠ k ∧ alookup k' l = some v := by
  rw [alookup_aerase] at h
  split at h
  · cases h
  · next hk => exact ⟨fun e => hk (beq_iff_eq.mpr e), h⟩

theorem mem_aerase {k : α} {p : α × β} {l : List (α × β)} : p ∈ aerase k l ↔ p ∈ l ∧ p.1 ≠ k := by
  simp [aerase_eq_filter]

theorem aerase_of_not_mem {k : α} {l : List (α × β)} (h : k ∉ l.map (·.1)) : aerase k l = l := by
  rw [aerase_eq_filter, List.filter_eq_self]
  intro p hp
  have : ¬ p.1 = k := fun e => h (e ▸ List.mem_map.mpr ⟨p, hp, rfl⟩)
  simpa using this

theorem length_aerase {k : α} {v : β} {l : List (α × β)} (hnd : (l.map (·.1)).Nodup) (h : alookup k l = some v) :
    (aerase k l).length + 1 = l.length := by
  induction l with
  | nil => cases h
  | cons a r ih =>
    rw [List.map_cons, List.nodup_cons] at hnd
    rw [alookup_cons] at h
    by_cases hk : a.1 == k
    · simp only [aerase, hk, if_true]
      rw [aerase_of_not_mem (eq_of_beq hk ▸ hnd.1), List.length_cons]
    · simp only [hk] at h
      have := ih hnd.2 (by simpa using h)
      simp [aerase, hk, this]

theorem alookup_aset_self (k : α) (v : β) (l : List (α × β)) : alookup k (aset k v l) = some v := by
  induction l with
  | nil => simp [aset, alookup]
  | cons a r ih => by_cases hk : a.1 == k <;> simp [aset, alookup_cons, hk, ih]

theorem alookup_aset_ne {k k' : α} (v : β) (l : List (α × β)) (hne : k' ≠ k) :
    alookup k' (aset k v l) = alookup k' l := by
  have hkk : (k == k') = false := beq_false_of_ne hne.symm
  induction l with
  | nil => simp [aset, alookup, hkk]
  | cons a r ih =>
    by_cases hk : a.1 == k
    · have : (a.1 == k') = false := by rw [eq_of_beq hk]; exact hkk
      simp [aset, alookup_cons, hk, hkk, this]
    · simp [aset, alookup_cons, hk, ih]

theorem alookup_aset (k k' : α) (v : β) (l : List (α × β)) :
    alookup k' (aset k v l) = if k' == k then some v else alookup k' l := by
  by_cases h : k' == k
  · rw [if_pos h, eq_of_beq h, alookup_aset_self]
  · rw [if_neg h, alookup_aset_ne v l (fun e => h (by simp [e]))]

theorem keys_aset_of_present {k : α} (v : β) {l : List (α × β)} (h : k ∈ l.map (·.1)) :
    (aset k v l).map (·.1) = l.map (·.1) := by
  induction l with
  | nil => cases h
  | cons a r ih =>
    by_cases hk : a.1 == k
    · simp [aset, eq_of_beq hk]
    · have : k ∈ r.map (·.1) := by
        rcases List.mem_cons.mp h with e | h
        · exact absurd (by simp [e]) hk
        · exact h
      simp [aset, hk, ih this]

theorem length_aset_of_present {k : α} (v : β) {l : List (α × β)} (h : k ∈ l.map (·.1)) :
    (aset k v l).length = l.length := by
  simpa using congrArg List.length (keys_aset_of_present v h)

theorem mem_keys_aset {k x : α} {v : β} {l : List (α × β)} (h : x ∈ (aset k v l).map (·.1)) :
    x = k ∨ x ∈ l.map (·.1) := by
  by_cases hx : x = k
  · exact Or.inl hx
  · have := alookup_isSome_iff.mpr h
    rw [alookup_aset_ne v l hx] at this
    exact Or.inr (alookup_isSome_iff.mp this)

theorem nodup_keys_aset (k : α) (v : β) {l : List (α × β)} (hnd : (l.map (·.1)).Nodup) :
    ((aset k v l).map (·.1)).Nodup := by
  by_cases h : k ∈ l.map (·.1)
  · rw [keys_aset_of_present v h]; exact hnd
  · rw [aset_of_absent v (alookup_none_iff.mpr h), List.map_append]
    refine List.nodup_append.mpr ⟨hnd, by simp, ?_⟩
    intro a ha b hb
    rw [List.map_singleton, List.mem_singleton] at hb
    subst hb
    exact fun e => h (e ▸ ha)

theorem mem_aset {k k' : α} {v v' : β} {l : List (α × β)} (hnd : (l.map (·.1)).Nodup) :
    (k', v') ∈ aset k v l ↔ ((k', v') ∈ l ∧ k' ≠ k) ∨ (k' = k ∧ v' = v) := by
  rw [← alookup_iff_mem (nodup_keys_aset k v hnd), ← alookup_iff_mem hnd]
  by_cases e : k' = k
  · simp [e, alookup_aset_self, eq_comm]
  · simp [e, alookup_aset_ne v l e]

theorem aset_aset (k : α) (v v' : β) (l : List (α × β)) : aset k v' (aset k v l) = aset k v' l := by
  induction l with
  | nil => simp [aset]
  | cons a r ih => by_cases hk : a.1 == k <;> simp [aset, hk, ih]

end

/-! ### `alookup`, `aset`, `aerase` commute with a map over the values -/

section
variable {α : Type u} {β : Type v} {γ : Type w} [BEq α] (f : β → γ)

theorem alookup_map_val (k : α) (l : List (α × β)) :
    alookup k (l.map fun p => (p.1, f p.2)) = (alookup k l).map f := by
  induction l with
  | nil => rfl
  | cons a r ih =>
    simp only [List.map_cons, alookup]
    split
    · rfl
    · exact ih

theorem aset_map_val (k : α) (v : β) (l : List (α × β)) :
    (aset k v l).map (fun p => (p.1, f p.2)) = aset k (f v) (l.map fun p => (p.1, f p.2)) := by
  induction l with
  | nil => rfl
  | cons a r ih =>
    simp only [List.map_cons, aset]
    split
    · rfl
    · rw [List.map_cons, ih]

theorem aerase_map_val (k : α) (l : List (α × β)) :
    (aerase k l).map (fun p => (p.1, f p.2)) = aerase k (l.map fun p => (p.1, f p.2)) := by
  induction l with
  | nil => rfl
  | cons a r ih =>
    simp only [List.map_cons, aerase]
    split
    · exact ih
    · rw [List.map_cons, ih]

end

theorem keys_map_val {α : Type u} {β : Type v} {γ : Type w} (f : β → γ) (l : List (α × β)) :
    (l.map fun p => (p.1, f p.2)).map (·.1) = l.map (·.1) := by
  rw [List.map_map]; rfl

section
variable {α : Type u} {β : Type v} [BEq α] [LawfulBEq α]

theorem alookup_filter_key (p : α → Bool) (k : α) (l : List (α × β)) :
    alookup k (l.filter (fun e => p e.1)) = if p k then alookup k l else none := by
  induction l with
  | nil => exact (ite_self _).symm
  | cons a r ih =>
    rw [List.filter_cons, alookup_cons]
    by_cases hk : a.1 == k
    · rw [if_pos hk, eq_of_beq hk]
      split
      · rw [alookup_cons, if_pos hk]
      · rw [ih, if_neg (by assumption)]
    · rw [if_neg hk, ← ih]
      split
      · rw [alookup_cons, if_neg hk]
      · rfl

/-- a filter that looks at the values: the first binding decides, so the keys have to be distinct -/
theorem alookup_filter {l : List (α × β)} (p : α × β → Bool) (k : α) (hnd : (l.map (·.1)).Nodup) :
    alookup k (l.filter p) = (alookup k l).filter fun v => p (k, v) := by
  apply Option.ext
  intro v
  rw [alookup_iff_mem (hnd.sublist (List.filter_sublist.map _)), List.mem_filter, Option.filter_eq_some_iff,
    alookup_iff_mem hnd]

theorem alookup_filter_of_none {l : List (α × β)} (p : α × β → Bool) {k : α} (h : alookup k l = none) :
    alookup k (l.filter p) = none := by
  rw [alookup_none_iff] at h ⊢
  exact fun hm => h ((List.filter_sublist.map _).subset hm)

end

/-! ### the lookup equations with `=` on the keys, for statements that compare keys by `=` -/

section
variable {α : Type u} {β : Type v} [BEq α] [LawfulBEq α] [DecidableEq α]

theorem alookup_cons_eq (k' k : α) (v : β) (l : List (α × β)) :
    alookup k' ((k, v) :: l) = if k' = k then some v else alookup k' l :=
  ite_congr (propext (beq_iff_eq.trans eq_comm)) (fun _ => rfl) (fun _ => rfl)

theorem alookup_aset_eq (k k' : α) (v : β) (l : List (α × β)) :
    alookup k' (aset k v l) = if k' = k then some v else alookup k' l :=
  (alookup_aset k k' v l).trans (ite_congr (propext beq_iff_eq) (fun _ => rfl) (fun _ => rfl))

theorem alookup_aerase_eq (k k' : α) (l : List (α × β)) :
    alookup k' (aerase k l) = if k' = k then none else alookup k' l :=
  (alookup_aerase k k' l).trans (ite_congr (propext beq_iff_eq) (fun _ => rfl) (fun _ => rfl))

end

theorem foldl_aerase_nil {α : Type u} {β : Type v} [BEq α] [LawfulBEq α] (ks : List α) :
    ∀ (l : List (α × β)), (∀ p ∈ l, p.1 ∈ ks) → ks.foldl (fun l k => aerase k l) l = [] := by
  induction ks with
  | nil =>
    intro l h
    cases l with
    | nil => rfl
    | cons a t => exact absurd (h a List.mem_cons_self) List.not_mem_nil
  | cons k ks ih =>
    intro l h
    refine ih _ fun p hp => ?_
    obtain ⟨h1, h2⟩ := mem_aerase.mp hp
    exact (List.mem_cons.mp (h p h1)).resolve_left h2

theorem aset_of_alookup {α : Type u} {β : Type v} [BEq α] [LawfulBEq α] {k : α} {v : β} {l : List (α × β)}
    (h : alookup k l = some v) : aset k v l = l := by
  induction l with
  | nil => cases h
  | cons e rest ih =>
    rw [alookup_cons] at h
    rw [aset]
    by_cases hk : (e.1 == k) = true
    · rw [if_pos hk] at h
      rw [if_pos hk, ← eq_of_beq hk, ← Option.some.inj h]
    · rw [if_neg hk] at h
      rw [if_neg hk, ih h]

theorem perm_of_lookup_eq {α : Type u} {β : Type v} [BEq α] [LawfulBEq α] {l l' : List (α × β)}
    (hn : (l.map (·.1)).Nodup) (hn' : (l'.map (·.1)).Nodup) (h : ∀ k, alookup k l = alookup k l') : l.Perm l' := by
  have nd : ∀ {l : List (α × β)}, (l.map (·.1)).Nodup → l.Nodup := fun hn =>
    List.Pairwise.of_map (·.1) (fun _ _ h e => h (by rw [e])) hn
  refine (List.perm_ext_iff_of_nodup (nd hn) (nd hn')).mpr ?_
  intro ⟨k, v⟩
  rw [← alookup_iff_mem hn, ← alookup_iff_mem hn', h]

end SV
