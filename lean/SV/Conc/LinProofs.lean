/-
  SV.Conc.LinProofs — C11: under any interleaving of the critical sections of the LevelDB persister every operation
  appears to take effect atomically at one instant between its call and its return.

  (A) facts about the blocks (invariant `CInv`, effect of every block on the logical map `P.abs` and on `db`);
      then one scheduling step by cases (`Step`, `step_spec`), the invariant `Inv` of reachable configurations, and
      runs indexed by step number (`cfgAt`, `evsAt`, `CallRet`)
  (B) the window theorem for reads (`get_window`) and its corollaries
  (C) linearization points and the sequential replay (`linearizable`)
-/
import SV.Conc.PersistConc
import SV.Persist.Proofs
namespace SV.Conc
open SV SV.Persist

/-! ## (A) the blocks -/

/-- the invariant of the shared state between blocks: `BInv` without its two clauses on `sizeBatch`, which may lag or lead
    the number of batched ops (and reach `maxBatch`) because a put's two blocks can be separated by other threads' blocks -/
structure CInv (p : P) : Prop where
  disjoint : ∀ k, k ∈ p.removed → alookup k p.cached = none
  replay : ∀ k, alookup k (applyBatch p.db p.ops) = p.abs k
  dbNodup : (p.db.map (·.1)).Nodup

theorem CInv.init (maxBatch : Nat) : CInv (P.init maxBatch []) where
  disjoint := fun _ hk => nomatch hk
  replay := fun _ => rfl
  dbNodup := List.nodup_nil

theorem CInv.setSize (p : P) (n : Nat) (h : CInv p) : CInv { p with sizeBatch := n } :=
  ⟨h.disjoint, h.replay, h.dbNodup⟩

theorem CInv.batchPut (p : P) (k v : Bytes) (h : CInv p) : CInv (batchPut p k v) :=
  ⟨disjoint_putPre p k ⟨false, v⟩ h.disjoint, replay_putPre p k ⟨false, v⟩ h.replay, h.dbNodup⟩

theorem CInv.batchDelete (p : P) (k : Bytes) (h : CInv p) : CInv (batchDelete p k) :=
  ⟨disjoint_rmPre p k h.disjoint, replay_rmPre p k h.replay, h.dbNodup⟩

theorem CInv.flush (p : P) (h : CInv p) : CInv p.flush :=
  ⟨fun _ hk => (nomatch hk), fun _ => rfl, nodup_applyBatch p.ops p.db h.dbNodup⟩

theorem CInv.bump (p : P) (h : CInv p) : CInv p.bump := by
  rcases bump_cases p with ⟨_, e⟩ | ⟨_, e⟩ <;> rw [e]
  · exact CInv.setSize p _ h
  · exact CInv.flush _ (CInv.setSize p _ h)

theorem abs_batchPut (p : P) (k k' v : Bytes) :
    (batchPut p k v).abs k' = if k' = k then some v else p.abs k' :=
  abs_putPre p k k' ⟨false, v⟩

theorem abs_batchDelete (p : P) (k k' : Bytes) :
    (batchDelete p k).abs k' = if k' = k then none else p.abs k' :=
  abs_rmPre p k k'

theorem batchRead_some (p : P) (k : Bytes) (r : Option Bytes) (h : batchRead p k = some r) : r = p.abs k := by
  unfold batchRead at h
  by_cases hc : k ∈ p.removed
  · rw [if_pos (List.contains_iff_mem.mpr hc)] at h
    cases h
    exact (abs_of_removed hc).symm
  · rw [if_neg (fun e => hc (List.contains_iff_mem.mp e))] at h
    cases hv : alookup k p.cached with
    | none => rw [hv] at h; cases h
    | some v => rw [hv] at h; cases h; exact (abs_of_cached hc hv).symm

theorem batchRead_none (p : P) (k : Bytes) (h : batchRead p k = none) : p.abs k = alookup k p.db := by
  unfold batchRead at h
  unfold P.abs
  by_cases hc : p.removed.contains k = true
  · rw [if_pos hc] at h; cases h
  · rw [if_neg hc] at h ⊢
    cases hv : alookup k p.cached with
    | none => rfl
    | some v => rw [hv] at h; cases h

theorem db_after_bump (p : P) (k : Bytes) (h : CInv p) :
    alookup k p.bump.db = alookup k p.db ∨ alookup k p.bump.db = p.abs k := by
  rcases bump_cases p with ⟨_, e⟩ | ⟨_, e⟩ <;> rw [e]
  · exact Or.inl rfl
  · exact Or.inr (h.replay k)

/-! ## one scheduling step, by cases (`Step`, `step_spec`); first the vocabulary of its statements: writes, events,
    the sequential specification, well-formed configurations -/

def Op.isWrite : Op → Bool
  | .get _ => false
  | _ => true

def Ev.thread : Ev → Nat
  | .call t _ => t
  | .ret t _ _ => t
  | .tau t => t

/-- the event is the call of a put or a remove on key `k` -/
def Ev.writesKey (k : Bytes) : Ev → Prop
  | .call _ (.put k' _) => k' = k
  | .call _ (.rm k') => k' = k
  | _ => False

/-- the sequential specification: a plain map -/
def specApply (m : Bytes → Option Bytes) : Op → (Bytes → Option Bytes)
  | .put k v => fun x => if x = k then some v else m x
  | .rm k => fun x => if x = k then none else m x
  | .get _ => m

def specRes (m : Bytes → Option Bytes) : Op → Option Bytes
  | .get k => m k
  | _ => none

/-- program counter and current operation of a thread agree -/
def Good (th : Thread) (cur : Option Op) : Prop :=
  (th.pc = .idle ∧ cur = none) ∨ (th.pc = .putBump ∧ ∃ op, cur = some op ∧ op.isWrite = true) ∨
  (∃ k, th.pc = .getDb k ∧ cur = some (.get k))

def WF (c : Cfg) : Prop :=
  ∀ (t : Nat) (th : Thread) (cur : Option Op), c.threads[t]? = some th → c.cur[t]? = some cur → Good th cur

/-- `Cfg.step` by cases (for well-formed configurations) -/
inductive Step (c : Cfg) (s : Nat) : Cfg → List Ev → Prop
  | timer (h : s = c.threads.length) : Step c s { c with p := c.p.flush } [.tau s]
  | skip : Step c s c []
  | bump (th : Thread) (op : Op) (h1 : c.threads[s]? = some th) (h2 : c.cur[s]? = some (some op))
      (hpc : th.pc = .putBump) (hw : op.isWrite = true) :
      Step c s ⟨c.p.bump, c.threads.set s { th with pc := .idle }, c.cur.set s none⟩ [.ret s op none]
  | retDb (th : Thread) (k : Bytes) (h1 : c.threads[s]? = some th) (h2 : c.cur[s]? = some (some (.get k)))
      (hpc : th.pc = .getDb k) :
      Step c s ⟨c.p, c.threads.set s { th with pc := .idle }, c.cur.set s none⟩ [.ret s (.get k) (alookup k c.p.db)]
  | put (th : Thread) (k v : Bytes) (rest : List Op) (h1 : c.threads[s]? = some th) (h2 : c.cur[s]? = some none)
      (hpc : th.pc = .idle) (htodo : th.todo = .put k v :: rest) :
      Step c s ⟨batchPut c.p k v, c.threads.set s ⟨rest, .putBump⟩, c.cur.set s (some (.put k v))⟩ [.call s (.put k v)]
  | rm (th : Thread) (k : Bytes) (rest : List Op) (h1 : c.threads[s]? = some th) (h2 : c.cur[s]? = some none)
      (hpc : th.pc = .idle) (htodo : th.todo = .rm k :: rest) :
      Step c s ⟨batchDelete c.p k, c.threads.set s ⟨rest, .putBump⟩, c.cur.set s (some (.rm k))⟩ [.call s (.rm k)]
  | getHit (th : Thread) (k : Bytes) (rest : List Op) (r : Option Bytes) (h1 : c.threads[s]? = some th)
      (h2 : c.cur[s]? = some none) (hpc : th.pc = .idle) (htodo : th.todo = .get k :: rest)
      (hr : batchRead c.p k = some r) :
      Step c s ⟨c.p, c.threads.set s ⟨rest, .idle⟩, c.cur.set s none⟩ [.call s (.get k), .ret s (.get k) r]
  | getMiss (th : Thread) (k : Bytes) (rest : List Op) (h1 : c.threads[s]? = some th)
      (h2 : c.cur[s]? = some none) (hpc : th.pc = .idle) (htodo : th.todo = .get k :: rest)
      (hr : batchRead c.p k = none) :
      Step c s ⟨c.p, c.threads.set s ⟨rest, .getDb k⟩, c.cur.set s (some (.get k))⟩ [.call s (.get k)]

theorem set_eq_self {α : Type} (l : List α) (i : Nat) (a : α) (h : l[i]? = some a) : l.set i a = l := by
  obtain ⟨hlt, rfl⟩ := List.getElem?_eq_some_iff.mp h
  exact List.set_getElem_self hlt

theorem eq_of_getElem?_set_self {α : Type} {l : List α} {i : Nat} {a b : α} (h : (l.set i a)[i]? = some b) :
    a = b := by
  have hlt := (List.getElem?_eq_some_iff.mp h).1
  rw [List.length_set] at hlt
  rw [List.getElem?_set_self hlt] at h
  exact Option.some.inj h

theorem step_spec (c : Cfg) (s : Nat) (hwf : WF c) : Step c s (c.step s).1 (c.step s).2 := by
  unfold Cfg.step
  by_cases ht : s = c.threads.length
  · rw [if_pos ht]
    exact Step.timer ht
  rw [if_neg ht]
  cases h1 : c.threads[s]? with
  | none => exact Step.skip
  | some th =>
    cases h2 : c.cur[s]? with
    | none => exact Step.skip
    | some cur =>
      rcases hwf s th cur h1 h2 with ⟨hpc, rfl⟩ | ⟨hpc, op, rfl, hw⟩ | ⟨k, hpc, rfl⟩
      · cases htodo : th.todo with
        | nil =>
          simp only [stepThread, hpc, htodo]
          rw [set_eq_self _ _ _ h1, set_eq_self _ _ _ h2]
          exact Step.skip
        | cons op rest =>
          cases op with
          | put k v =>
            simp only [stepThread, hpc, htodo]
            exact Step.put th k v rest h1 h2 hpc htodo
          | rm k =>
            simp only [stepThread, hpc, htodo]
            exact Step.rm th k rest h1 h2 hpc htodo
          | get k =>
            cases hr : batchRead c.p k with
            | none =>
              simp only [stepThread, hpc, htodo, hr]
              exact Step.getMiss th k rest h1 h2 hpc htodo hr
            | some r =>
              simp only [stepThread, hpc, htodo, hr]
              exact Step.getHit th k rest r h1 h2 hpc htodo hr
      · simp only [stepThread, hpc]
        exact Step.bump th op h1 h2 hpc hw
      · simp only [stepThread, hpc]
        exact Step.retDb th k h1 h2 hpc

/-! ## the invariant of reachable configurations -/

structure Inv (c : Cfg) : Prop where
  cinv : CInv c.p
  wf : WF c

theorem WF.set (c : Cfg) (p' : P) (s : Nat) (th' : Thread) (cur' : Option Op) (hwf : WF c) (hg : Good th' cur') :
    WF ⟨p', c.threads.set s th', c.cur.set s cur'⟩ := by
  intro t th cur h1 h2
  dsimp only at h1 h2
  by_cases hts : s = t
  · subst hts
    cases eq_of_getElem?_set_self h1
    cases eq_of_getElem?_set_self h2
    exact hg
  · rw [List.getElem?_set_ne hts] at h1 h2
    exact hwf t th cur h1 h2

theorem Step.inv {c c' : Cfg} {s : Nat} {evs : List Ev} (h : Step c s c' evs) (hi : Inv c) : Inv c' := by
  cases h with
  | timer _ => exact ⟨CInv.flush _ hi.cinv, fun t th cur h1 h2 => hi.wf t th cur h1 h2⟩
  | skip => exact hi
  | bump th op h1 h2 hpc hw => exact ⟨CInv.bump _ hi.cinv, WF.set c _ s _ _ hi.wf (Or.inl ⟨rfl, rfl⟩)⟩
  | retDb th k h1 h2 hpc => exact ⟨hi.cinv, WF.set c _ s _ _ hi.wf (Or.inl ⟨rfl, rfl⟩)⟩
  | put th k v rest h1 h2 hpc htodo =>
    exact ⟨CInv.batchPut _ k v hi.cinv, WF.set c _ s _ _ hi.wf (Or.inr (Or.inl ⟨rfl, _, rfl, rfl⟩))⟩
  | rm th k rest h1 h2 hpc htodo =>
    exact ⟨CInv.batchDelete _ k hi.cinv, WF.set c _ s _ _ hi.wf (Or.inr (Or.inl ⟨rfl, _, rfl, rfl⟩))⟩
  | getHit th k rest r h1 h2 hpc htodo hr => exact ⟨hi.cinv, WF.set c _ s _ _ hi.wf (Or.inl ⟨rfl, rfl⟩)⟩
  | getMiss th k rest h1 h2 hpc htodo hr => exact ⟨hi.cinv, WF.set c _ s _ _ hi.wf (Or.inr (Or.inr ⟨k, rfl, rfl⟩))⟩

theorem init_pc {maxBatch : Nat} {progs : List (List Op)} {t : Nat} {th : Thread}
    (h : (Cfg.init maxBatch progs).threads[t]? = some th) : th.pc = .idle := by
  obtain ⟨a, _, rfl⟩ := Option.map_eq_some_iff.mp (List.getElem?_map.symm.trans h)
  rfl

theorem Inv.init (maxBatch : Nat) (progs : List (List Op)) : Inv (Cfg.init maxBatch progs) := by
  refine ⟨CInv.init maxBatch, fun t th cur h1 h2 => Or.inl ⟨init_pc h1, ?_⟩⟩
  obtain ⟨a, _, rfl⟩ := Option.map_eq_some_iff.mp (List.getElem?_map.symm.trans h2)
  rfl

theorem Inv.step {c : Cfg} (s : Nat) (hi : Inv c) : Inv (c.step s).1 := (step_spec c s hi.wf).inv hi

/-! ### what one step can do -/

theorem Step.thread_of_ev {c c' : Cfg} {s : Nat} {evs : List Ev} (h : Step c s c' evs) (e : Ev) (he : e ∈ evs) :
    e.thread = s := by
  cases h with
  | skip => simp at he
  | getHit th k rest r h1 h2 hpc htodo hr =>
    simp only [List.mem_cons, List.mem_nil_iff, or_false] at he
    rcases he with he | he <;> subst he <;> rfl
  | _ => simp only [List.mem_singleton] at he; subst he; rfl

theorem Step.db {c c' : Cfg} {s : Nat} {evs : List Ev} (h : Step c s c' evs) (hc : CInv c.p) (k : Bytes) :
    alookup k c'.p.db = alookup k c.p.db ∨ alookup k c'.p.db = c.p.abs k := by
  cases h with
  | timer _ => exact Or.inr (hc.replay k)
  | bump th op h1 h2 hpc hw => exact db_after_bump _ k hc
  | _ => exact Or.inl rfl

theorem Step.ret_get {c c' : Cfg} {s : Nat} {evs : List Ev} (h : Step c s c' evs) {t : Nat} {k : Bytes}
    {r : Option Bytes} (he : Ev.ret t (.get k) r ∈ evs) :
    t = s ∧ ((evs = [.call t (.get k), .ret t (.get k) r] ∧ r = c.p.abs k) ∨
             (evs = [.ret t (.get k) r] ∧ ∃ th, c.threads[t]? = some th ∧ th.pc = .getDb k ∧ r = alookup k c.p.db)) := by
  cases h with
  | timer _ => simp at he
  | skip => simp at he
  | bump th op h1 h2 hpc hw =>
    simp only [List.mem_singleton, Ev.ret.injEq] at he
    obtain ⟨_, hop, _⟩ := he
    subst hop
    simp [Op.isWrite] at hw
  | retDb th k' h1 h2 hpc =>
    simp only [List.mem_singleton, Ev.ret.injEq, Op.get.injEq] at he
    obtain ⟨hts, hk, hr⟩ := he
    subst hts hk hr
    exact ⟨rfl, Or.inr ⟨rfl, th, h1, hpc, rfl⟩⟩
  | put th k' v rest h1 h2 hpc htodo => simp at he
  | rm th k' rest h1 h2 hpc htodo => simp at he
  | getHit th k' rest r' h1 h2 hpc htodo hr =>
    simp only [List.mem_cons, List.mem_nil_iff, or_false, Ev.ret.injEq, Op.get.injEq, reduceCtorEq, false_or] at he
    obtain ⟨hts, hk, hr'⟩ := he
    subst hts hk hr'
    exact ⟨rfl, Or.inl ⟨rfl, batchRead_some _ _ _ hr⟩⟩
  | getMiss th k' rest h1 h2 hpc htodo hr => simp at he

theorem Step.threads_ne {c c' : Cfg} {s : Nat} {evs : List Ev} (h : Step c s c' evs) {t : Nat} (hts : s ≠ t) :
    c'.threads[t]? = c.threads[t]? := by
  cases h with
  | timer _ => rfl
  | skip => rfl
  | _ => exact List.getElem?_set_ne hts

theorem Step.at_getDb {c c' : Cfg} {s : Nat} {evs : List Ev} (h : Step c s c' evs) {t : Nat} {th' : Thread}
    {k : Bytes} (h1' : c'.threads[t]? = some th') (hpc' : th'.pc = .getDb k) :
    (t = s ∧ evs = [.call t (.get k)] ∧ c'.p = c.p ∧ c.p.abs k = alookup k c.p.db) ∨
    (c.threads[t]? = some th' ∧ ∀ e ∈ evs, e.thread ≠ t) := by
  by_cases hts : s = t
  · subst hts
    cases h with
    | timer hs => exact absurd ((List.getElem?_eq_some_iff.mp h1').1) (hs ▸ Nat.lt_irrefl _)
    | skip => exact Or.inr ⟨h1', fun _ he => nomatch he⟩
    | getMiss th k' rest h1 h2 hpc htodo hr =>
      cases eq_of_getElem?_set_self h1'
      cases hpc'
      exact Or.inl ⟨rfl, rfl, rfl, batchRead_none _ _ hr⟩
    | bump th op h1 h2 hpc hw => cases eq_of_getElem?_set_self h1'; cases hpc'
    | retDb th k' h1 h2 hpc => cases eq_of_getElem?_set_self h1'; cases hpc'
    | put th k' v rest h1 h2 hpc htodo => cases eq_of_getElem?_set_self h1'; cases hpc'
    | rm th k' rest h1 h2 hpc htodo => cases eq_of_getElem?_set_self h1'; cases hpc'
    | getHit th k' rest r' h1 h2 hpc htodo hr => cases eq_of_getElem?_set_self h1'; cases hpc'
  · exact Or.inr ⟨h.threads_ne hts ▸ h1', fun e he => h.thread_of_ev e he ▸ hts⟩

theorem Step.abs_cases {c c' : Cfg} {s : Nat} {evs : List Ev} (h : Step c s c' evs) (hc : CInv c.p) :
    (c'.abs = c.abs ∧ ∀ t op, Ev.call t op ∈ evs → op.isWrite = false) ∨
    (∃ op, op.isWrite = true ∧ evs = [.call s op] ∧ c'.abs = specApply c.abs op) := by
  cases h with
  | timer _ => exact Or.inl ⟨funext fun k => abs_flush _ k (hc.replay k), fun t op he => by simp at he⟩
  | skip => exact Or.inl ⟨rfl, fun t op he => by simp at he⟩
  | bump th op h1 h2 hpc hw => exact Or.inl ⟨funext fun k => abs_bump _ k (hc.replay k), fun t op he => by simp at he⟩
  | retDb th k h1 h2 hpc => exact Or.inl ⟨rfl, fun t op he => by simp at he⟩
  | put th k v rest h1 h2 hpc htodo =>
    exact Or.inr ⟨.put k v, rfl, rfl, funext fun x => abs_batchPut _ k x v⟩
  | rm th k rest h1 h2 hpc htodo =>
    exact Or.inr ⟨.rm k, rfl, rfl, funext fun x => abs_batchDelete _ k x⟩
  | getHit th k rest r h1 h2 hpc htodo hr =>
    refine Or.inl ⟨rfl, fun t op he => ?_⟩
    simp only [List.mem_cons, List.not_mem_nil, or_false, reduceCtorEq, Ev.call.injEq] at he
    rw [he.2]; rfl
  | getMiss th k rest h1 h2 hpc htodo hr =>
    refine Or.inl ⟨rfl, fun t op he => ?_⟩
    simp only [List.mem_singleton, Ev.call.injEq] at he
    rw [he.2]; rfl

theorem Step.abs_write {c c' : Cfg} {s : Nat} {evs : List Ev} (h : Step c s c' evs) (hc : CInv c.p) {t : Nat}
    {op : Op} (hw : op.isWrite = true) (he : Ev.call t op ∈ evs) : c'.abs = specApply c.abs op := by
  rcases h.abs_cases hc with ⟨_, hno⟩ | ⟨op', _, hevs, habs⟩
  · rw [hno _ _ he] at hw; cases hw
  · rw [hevs, List.mem_singleton] at he
    cases he
    exact habs

theorem Step.abs_same {c c' : Cfg} {s : Nat} {evs : List Ev} (h : Step c s c' evs) (hc : CInv c.p) {k : Bytes}
    (hno : ∀ e ∈ evs, ¬ e.writesKey k) : c'.abs k = c.abs k := by
  rcases h.abs_cases hc with ⟨habs, _⟩ | ⟨op, _, hevs, habs⟩
  · rw [habs]
  · have hk := hno _ (hevs ▸ List.mem_singleton.mpr rfl)
    rw [habs]
    cases op with
    | put k' v => exact if_neg fun e => hk e.symm
    | rm k' => exact if_neg fun e => hk e.symm
    | get k' => rfl

/-! ## runs, indexed by step number

  `cfgAt c sched m` is the configuration reached from `c` after the first `m` scheduling choices of `sched`
  (the final configuration when `m ≥ sched.length`); `evsAt c sched j` is the list of events emitted by step number `j`,
  i.e. by the block that leads from `cfgAt c sched j` to `cfgAt c sched (j+1)`.  `runSched_cfgs` / `runSched_hist` show that
  these are exactly the configurations and the history returned by `runSched`. -/

def cfgAt (c : Cfg) : List Nat → Nat → Cfg
  | [], _ => c
  | _ :: _, 0 => c
  | t :: rest, m + 1 => cfgAt (c.step t).1 rest m

def evsAt (c : Cfg) : List Nat → Nat → List Ev
  | [], _ => []
  | t :: _, 0 => (c.step t).2
  | t :: rest, j + 1 => evsAt (c.step t).1 rest j

theorem cfgAt_zero (c : Cfg) (sched : List Nat) : cfgAt c sched 0 = c := by
  cases sched <;> rfl

theorem runSched_cfgs (sched : List Nat) : ∀ c : Cfg,
    (runSched c sched).2 = (List.range (sched.length + 1)).map (cfgAt c sched) := by
  induction sched with
  | nil => intro c; simp [runSched, cfgAt]
  | cons t rest ih =>
    intro c
    simp only [runSched, List.length_cons]
    rw [ih, List.range_succ_eq_map (n := rest.length + 1)]
    simp [cfgAt, Function.comp_def]

theorem runSched_cfgs_get (c : Cfg) (sched : List Nat) (m : Nat) (h : m ≤ sched.length) :
    (runSched c sched).2[m]? = some (cfgAt c sched m) := by
  rw [runSched_cfgs, List.getElem?_map, List.getElem?_range (by omega)]
  rfl

theorem runSched_hist (sched : List Nat) : ∀ c : Cfg,
    (runSched c sched).1 = (List.range sched.length).flatMap (evsAt c sched) := by
  induction sched with
  | nil => intro c; simp [runSched]
  | cons t rest ih =>
    intro c
    simp only [runSched, List.length_cons]
    rw [ih, List.range_succ_eq_map (n := rest.length)]
    simp [evsAt, List.flatMap_map]

theorem cfgAt_succ (sched : List Nat) : ∀ (c : Cfg) (m : Nat) (s : Nat), sched[m]? = some s →
    cfgAt c sched (m + 1) = ((cfgAt c sched m).step s).1 ∧ evsAt c sched m = ((cfgAt c sched m).step s).2 := by
  induction sched with
  | nil => intro c m s h; simp at h
  | cons t rest ih =>
    intro c m s h
    cases m with
    | zero =>
      simp only [List.getElem?_cons_zero, Option.some.injEq] at h
      subst h
      simp [cfgAt, evsAt, cfgAt_zero]
    | succ m =>
      simp only [List.getElem?_cons_succ] at h
      simpa [cfgAt, evsAt] using ih (c.step t).1 m s h

theorem evsAt_of_le (sched : List Nat) : ∀ (c : Cfg) (j : Nat), sched.length ≤ j → evsAt c sched j = [] := by
  induction sched with
  | nil => intro c j _; rfl
  | cons t rest ih =>
    intro c j h
    cases j with
    | zero => simp at h
    | succ j => simp only [evsAt]; exact ih _ j (by simpa using h)

theorem Inv.cfgAt {c : Cfg} (hi : Inv c) (sched : List Nat) (m : Nat) : Inv (cfgAt c sched m) := by
  induction sched generalizing c m with
  | nil => exact hi
  | cons t rest ih =>
    cases m with
    | zero => exact hi
    | succ m => exact ih (hi.step t) m

/-- every step of a run from a reachable configuration is one of the cases of `Step` (past the end of the schedule: `skip`) -/
theorem step_at (sched : List Nat) : ∀ (c : Cfg) (m : Nat), Inv c →
    ∃ s, Step (cfgAt c sched m) s (cfgAt c sched (m + 1)) (evsAt c sched m) := by
  induction sched with
  | nil => intro c m _; exact ⟨0, Step.skip⟩
  | cons t rest ih =>
    intro c m hi
    cases m with
    | zero =>
      refine ⟨t, ?_⟩
      simp only [cfgAt, evsAt, cfgAt_zero]
      exact step_spec c t hi.wf
    | succ m =>
      simp only [cfgAt, evsAt]
      exact ih _ m (hi.step t)

/-- **call and return of one `get`.**  Step `i` emitted the call and step `j` the return (with result `r`) of one and
    the same `get k` of thread `t`: either the get was answered by the batch, in which case one block emitted both events
    (`i = j`), or step `i` emitted just the call (the batch read missed), step `j > i` just the return (the db read), and
    thread `t` emitted nothing in between. -/
def CallRet (c : Cfg) (sched : List Nat) (t : Nat) (k : Bytes) (r : Option Bytes) (i j : Nat) : Prop :=
  (i = j ∧ evsAt c sched j = [.call t (.get k), .ret t (.get k) r]) ∨
  (i < j ∧ evsAt c sched i = [.call t (.get k)] ∧ evsAt c sched j = [.ret t (.get k) r] ∧
    ∀ j', i < j' → j' < j → ∀ e ∈ evsAt c sched j', e.thread ≠ t)

theorem CallRet.le {c : Cfg} {sched : List Nat} {t : Nat} {k : Bytes} {r : Option Bytes} {i j : Nat}
    (h : CallRet c sched t k r i j) : i ≤ j :=
  h.elim (fun h => Nat.le_of_eq h.1) (fun h => Nat.le_of_lt h.1)

theorem CallRet.call_mem {c : Cfg} {sched : List Nat} {t : Nat} {k : Bytes} {r : Option Bytes} {i j : Nat}
    (h : CallRet c sched t k r i j) : Ev.call t (.get k) ∈ evsAt c sched i := by
  rcases h with ⟨rfl, h⟩ | ⟨_, h, _⟩ <;> rw [h] <;> simp

theorem CallRet.ret_mem {c : Cfg} {sched : List Nat} {t : Nat} {k : Bytes} {r : Option Bytes} {i j : Nat}
    (h : CallRet c sched t k r i j) : Ev.ret t (.get k) r ∈ evsAt c sched j := by
  rcases h with ⟨_, h⟩ | ⟨_, _, h, _⟩ <;> rw [h] <;> simp

/-! ## (B) the window theorem -/

/-- the induction behind `get_window`, backwards from the return: let a `get k` of thread `t` stand between its two
    blocks in configuration `n`, stay silent from there to step `j` and return at step `j` an `r` that is the db's value
    for `k` at `n` or the abstract value at some step of `[n, j]`. Then either the call lies at some step `i` before, and
    `r` is the abstract value at a step of `[i, j]`, or the thread was already between its two blocks in `c` -/
theorem window_back {c : Cfg} (hi : Inv c) (sched : List Nat) {t : Nat} {k : Bytes} {r : Option Bytes} {j : Nat}
    (hret : evsAt c sched j = [.ret t (.get k) r]) :
    ∀ n, n ≤ j → (∃ th, (cfgAt c sched n).threads[t]? = some th ∧ th.pc = .getDb k) →
      (∀ j', n ≤ j' → j' < j → ∀ e ∈ evsAt c sched j', e.thread ≠ t) →
      (r = alookup k (cfgAt c sched n).p.db ∨ ∃ m, n ≤ m ∧ m ≤ j ∧ r = (cfgAt c sched m).abs k) →
      (∃ i m, i ≤ m ∧ m ≤ j ∧ CallRet c sched t k r i j ∧ r = (cfgAt c sched m).abs k) ∨
      ∃ th, c.threads[t]? = some th ∧ th.pc = .getDb k := by
  intro n
  induction n with
  | zero => exact fun _ hth _ _ => Or.inr (cfgAt_zero c sched ▸ hth)
  | succ n ih =>
    intro hnj ⟨th, hth, hpc⟩ hq hr
    obtain ⟨s, hs⟩ := step_at sched c n hi
    rcases hs.at_getDb hth hpc with ⟨_, hcall, hp, habs⟩ | ⟨hth0, hev⟩
    · -- the batch read missed at step `n`
      have hcr : CallRet c sched t k r n j := Or.inr ⟨hnj, hcall, hret, hq⟩
      rcases hr with hr | ⟨m, hnm, hmj, hr⟩
      · exact Or.inl ⟨n, n, Nat.le_refl _, Nat.le_of_lt hnj, hcr, by rw [hr, hp]; exact habs.symm⟩
      · exact Or.inl ⟨n, m, Nat.le_of_succ_le hnm, hmj, hcr, hr⟩
    · -- the thread was already between its two blocks
      refine ih (Nat.le_of_succ_le hnj) ⟨th, hth0, hpc⟩ (fun j' h1 h2 => ?_) ?_
      · rcases Nat.eq_or_lt_of_le h1 with rfl | h1
        · exact hev
        · exact hq j' h1 h2
      · rcases hr with hr | ⟨m, hnm, hmj, hr⟩
        · rcases hs.db (hi.cfgAt sched n).cinv k with hdb | hdb
          · exact Or.inl (hr.trans hdb)
          · exact Or.inr ⟨n, Nat.le_refl _, Nat.le_of_lt hnj, hr.trans hdb⟩
        · exact Or.inr ⟨m, Nat.le_of_succ_le hnm, hmj, hr⟩

/-- **C11, reads.**  Run any programs under any schedule from the initial configuration; number the steps (blocks) of the
    schedule `0, 1, …`; `cfgAt … m` is the configuration before step `m`, `evsAt … j` the events emitted by step `j`
    (`runSched_cfgs`, `runSched_hist`: these are the configurations and the history `runSched` returns).

    If step `j` emits the return of a `get k` of thread `t` with result `r`, then there is a step `i ≤ j` that emitted
    the call of this very operation (`CallRet`) and a configuration number `m` with `i ≤ m ≤ j` — i.e. a configuration
    between the block that issued the call and the block that issued the return — whose logical value of `k` is exactly `r`.
    (No assumption on `maxBatch`: it also holds for `maxBatch = 0`, where every bump flushes.) -/
theorem get_window (maxBatch : Nat) (progs : List (List Op)) (sched : List Nat) (j t : Nat) (k : Bytes)
    (r : Option Bytes) (hret : Ev.ret t (.get k) r ∈ evsAt (Cfg.init maxBatch progs) sched j) :
    ∃ i m, i ≤ m ∧ m ≤ j ∧ CallRet (Cfg.init maxBatch progs) sched t k r i j ∧
      r = (cfgAt (Cfg.init maxBatch progs) sched m).abs k := by
  have hi := Inv.init maxBatch progs
  obtain ⟨s, hs⟩ := step_at sched _ j hi
  rcases hs.ret_get hret with ⟨_, ⟨hevs, hr⟩ | ⟨hevs, th, hth, hpc, hr⟩⟩
  · exact ⟨j, j, Nat.le_refl _, Nat.le_refl _, Or.inl ⟨rfl, hevs⟩, hr⟩
  · rcases window_back hi sched hevs j (Nat.le_refl _) ⟨th, hth, hpc⟩
      (fun j' h1 h2 => absurd h1 (Nat.not_le_of_lt h2)) (Or.inl hr) with h | ⟨th0, hth0, hpc0⟩
    · exact h
    · exact nomatch (init_pc hth0).symm.trans hpc0

/-! ### corollaries: stable windows, read-after-write, monotone reads -/

theorem abs_after_write {c : Cfg} (hi : Inv c) (sched : List Nat) {m t : Nat} {op : Op} (hw : op.isWrite = true)
    (he : Ev.call t op ∈ evsAt c sched m) : (cfgAt c sched (m + 1)).abs = specApply (cfgAt c sched m).abs op := by
  obtain ⟨s, hs⟩ := step_at sched c m hi
  exact hs.abs_write (hi.cfgAt sched m).cinv hw he

/-- no write to `k` takes effect at the steps `a ≤ · < b` -/
def NoWrite (c : Cfg) (sched : List Nat) (k : Bytes) (a b : Nat) : Prop :=
  ∀ m, a ≤ m → m < b → ∀ e ∈ evsAt c sched m, ¬ e.writesKey k

theorem abs_const {c : Cfg} (hi : Inv c) (sched : List Nat) (k : Bytes) (a b : Nat) (hab : a ≤ b)
    (hno : NoWrite c sched k a b) : (cfgAt c sched b).abs k = (cfgAt c sched a).abs k := by
  induction hab with
  | refl => rfl
  | @step b hab ih =>
    obtain ⟨s, hs⟩ := step_at sched c b hi
    rw [hs.abs_same (hi.cfgAt sched b).cinv (hno b hab (Nat.lt_succ_self b))]
    exact ih fun m h1 h2 => hno m h1 (Nat.lt_succ_of_lt h2)

/-- **corollary 1 (stable window).**  If the logical value of `k` is the same value `a` in every configuration of the
    window of a `get k`, the get returns `a`. -/
theorem get_stable (maxBatch : Nat) (progs : List (List Op)) (sched : List Nat) (j t : Nat) (k : Bytes)
    (r : Option Bytes) (hret : Ev.ret t (.get k) r ∈ evsAt (Cfg.init maxBatch progs) sched j) :
    ∃ i, CallRet (Cfg.init maxBatch progs) sched t k r i j ∧
      ∀ a, (∀ m, i ≤ m → m ≤ j → (cfgAt (Cfg.init maxBatch progs) sched m).abs k = a) → r = a := by
  obtain ⟨i, m, him, hmj, hcr, hr⟩ := get_window maxBatch progs sched j t k r hret
  exact ⟨i, hcr, fun a ha => by rw [hr]; exact ha m him hmj⟩

/-- **corollary 2 (no overlapping write).**  If no write to `k` takes effect between the call step and the return step of
    a `get k`, it returns the logical value at its call (= at its return). -/
theorem get_no_overlap (maxBatch : Nat) (progs : List (List Op)) (sched : List Nat) (j t : Nat) (k : Bytes)
    (r : Option Bytes) (hret : Ev.ret t (.get k) r ∈ evsAt (Cfg.init maxBatch progs) sched j) :
    ∃ i, CallRet (Cfg.init maxBatch progs) sched t k r i j ∧
      (NoWrite (Cfg.init maxBatch progs) sched k i j → r = (cfgAt (Cfg.init maxBatch progs) sched i).abs k) := by
  obtain ⟨i, m, him, hmj, hcr, hr⟩ := get_window maxBatch progs sched j t k r hret
  refine ⟨i, hcr, fun hno => ?_⟩
  rw [hr]
  exact abs_const (Inv.init maxBatch progs) sched k i m him fun x h1 h2 => hno x h1 (Nat.lt_of_lt_of_le h2 hmj)

/-- **corollary 3 (read-after-write).**  If a write to `k` took effect (first block at step `w`) before the call step `i`
    of a `get k` — in particular if the write returned before the get was called — and no other write to `k` takes effect
    from then until the get returns, the get returns the value written (`none` for a remove). -/
theorem read_after_write (maxBatch : Nat) (progs : List (List Op)) (sched : List Nat) (j t : Nat) (k : Bytes)
    (r : Option Bytes) (hret : Ev.ret t (.get k) r ∈ evsAt (Cfg.init maxBatch progs) sched j) :
    ∃ i, CallRet (Cfg.init maxBatch progs) sched t k r i j ∧
      (∀ w t' v, w < i → Ev.call t' (.put k v) ∈ evsAt (Cfg.init maxBatch progs) sched w →
          NoWrite (Cfg.init maxBatch progs) sched k (w + 1) j → r = some v) ∧
      (∀ w t', w < i → Ev.call t' (.rm k) ∈ evsAt (Cfg.init maxBatch progs) sched w →
          NoWrite (Cfg.init maxBatch progs) sched k (w + 1) j → r = none) := by
  obtain ⟨i, m, him, hmj, hcr, hr⟩ := get_window maxBatch progs sched j t k r hret
  have hi := Inv.init maxBatch progs
  refine ⟨i, hcr, ?_, ?_⟩
  · intro w t' v hw hput hno
    rw [hr, abs_const hi sched k (w + 1) m (Nat.le_trans hw him) fun x h1 h2 => hno x h1 (Nat.lt_of_lt_of_le h2 hmj),
      abs_after_write hi sched rfl hput]
    exact if_pos rfl
  · intro w t' hw hrm hno
    rw [hr, abs_const hi sched k (w + 1) m (Nat.le_trans hw him) fun x h1 h2 => hno x h1 (Nat.lt_of_lt_of_le h2 hmj),
      abs_after_write hi sched rfl hrm]
    exact if_pos rfl

/-- **corollary 4 (reads never go backwards).**  Two completed reads observe the logical map at configurations `m₁`, `m₂`
    inside their respective windows; if the first returned (step `j₁`) before the second was called (step `i₂`) then
    `m₁ < m₂`: the second read observes a later state of the logical map than the first. -/
theorem reads_monotone (maxBatch : Nat) (progs : List (List Op)) (sched : List Nat) (j₁ t₁ j₂ t₂ : Nat)
    (k₁ k₂ : Bytes) (r₁ r₂ : Option Bytes)
    (h₁ : Ev.ret t₁ (.get k₁) r₁ ∈ evsAt (Cfg.init maxBatch progs) sched j₁)
    (h₂ : Ev.ret t₂ (.get k₂) r₂ ∈ evsAt (Cfg.init maxBatch progs) sched j₂) :
    ∃ m₁ i₂ m₂, m₁ ≤ j₁ ∧ i₂ ≤ m₂ ∧ m₂ ≤ j₂ ∧ CallRet (Cfg.init maxBatch progs) sched t₂ k₂ r₂ i₂ j₂ ∧
      r₁ = (cfgAt (Cfg.init maxBatch progs) sched m₁).abs k₁ ∧
      r₂ = (cfgAt (Cfg.init maxBatch progs) sched m₂).abs k₂ ∧
      (j₁ < i₂ → m₁ < m₂) := by
  obtain ⟨i1, m1, _, hmj1, _, hr1⟩ := get_window maxBatch progs sched j₁ t₁ k₁ r₁ h₁
  obtain ⟨i2, m2, him2, hmj2, hcr2, hr2⟩ := get_window maxBatch progs sched j₂ t₂ k₂ r₂ h₂
  exact ⟨m1, i2, m2, hmj1, him2, hmj2, hcr2, hr1, hr2, fun h => Nat.lt_of_le_of_lt hmj1 (Nat.lt_of_lt_of_le h him2)⟩

/-! ## (C) linearization points and the sequential replay -/

/-- an operation placed at its linearization point -/
structure LinOp where
  pt : Nat                 -- number of the configuration at which (reads) / step at which (writes) it takes effect
  thread : Nat
  step : Nat               -- identifies the operation: the step that emitted its return (reads) / its call (writes)
  op : Op
  res : Option Bytes       -- the result it returned in the concurrent run (writes: none)

/-- executing the operations one after the other on the plain map `m` produces exactly the recorded results -/
def SeqOK : (Bytes → Option Bytes) → List LinOp → Prop
  | _, [] => True
  | m, e :: rest => e.res = specRes m e.op ∧ SeqOK (specApply m e.op) rest

def finalMap (m : Bytes → Option Bytes) (l : List LinOp) : Bytes → Option Bytes :=
  l.foldl (fun m e => specApply m e.op) m

theorem SeqOK_append (l1 l2 : List LinOp) : ∀ m, SeqOK m (l1 ++ l2) ↔ SeqOK m l1 ∧ SeqOK (finalMap m l1) l2 := by
  induction l1 with
  | nil => intro m; simp [SeqOK, finalMap]
  | cons e r ih =>
    intro m
    simp only [List.cons_append, SeqOK, ih, finalMap, List.foldl_cons, and_assoc]

theorem finalMap_append (l1 l2 : List LinOp) (m : Bytes → Option Bytes) :
    finalMap m (l1 ++ l2) = finalMap (finalMap m l1) l2 := by
  simp [finalMap, List.foldl_append]

theorem SeqOK_reads (m : Bytes → Option Bytes) (l : List LinOp)
    (h : ∀ e ∈ l, ∃ k, e.op = .get k ∧ e.res = m k) : SeqOK m l ∧ finalMap m l = m := by
  induction l with
  | nil => exact ⟨trivial, rfl⟩
  | cons e r ih =>
    obtain ⟨k, hop, hres⟩ := h e (List.mem_cons_self)
    have ih' := ih (fun e' he' => h e' (List.mem_cons_of_mem _ he'))
    have hap : specApply m e.op = m := by rw [hop]; rfl
    refine ⟨⟨by rw [hop]; exact hres, by rw [hap]; exact ih'.1⟩, ?_⟩
    show finalMap (specApply m e.op) r = m
    rw [hap]; exact ih'.2

theorem exists_largest (Q : Nat → Prop) (j : Nat) (h : ∃ m, m ≤ j ∧ Q m) :
    ∃ m, m ≤ j ∧ Q m ∧ ∀ m', m < m' → m' ≤ j → ¬ Q m' := by
  induction j with
  | zero =>
    obtain ⟨m, hm, hq⟩ := h
    exact ⟨m, hm, hq, fun m' h1 h2 => absurd (Nat.lt_of_lt_of_le h1 (Nat.le_trans h2 (Nat.zero_le m))) (Nat.lt_irrefl m)⟩
  | succ j ih =>
    by_cases hq : Q (j + 1)
    · exact ⟨j + 1, Nat.le_refl _, hq, fun m' h1 h2 => absurd (Nat.lt_of_lt_of_le h1 h2) (Nat.lt_irrefl _)⟩
    · obtain ⟨m0, hm0, hq0⟩ := h
      have hm0' : m0 ≤ j := by
        rcases Nat.lt_or_eq_of_le hm0 with h | h
        · exact Nat.le_of_lt_succ h
        · exact absurd (h ▸ hq0) hq
      obtain ⟨m, hm, hqm, hmax⟩ := ih ⟨m0, hm0', hq0⟩
      refine ⟨m, Nat.le_succ_of_le hm, hqm, fun m' h1 h2 => ?_⟩
      rcases Nat.lt_or_eq_of_le h2 with h | h
      · exact hmax m' h1 (Nat.le_of_lt_succ h)
      · exact h ▸ hq

/-- `m` is the linearization point of a `get k` that returned `r` at step `j`: the last configuration up to `j` whose
    logical value of `k` is `r` (by `get_window` it lies inside the window of the get) -/
def IsPt (c : Cfg) (sched : List Nat) (m j : Nat) (k : Bytes) (r : Option Bytes) : Prop :=
  m ≤ j ∧ (cfgAt c sched m).abs k = r ∧ ∀ m', m < m' → m' ≤ j → (cfgAt c sched m').abs k ≠ r

/-- writes are linearized at the step of their first block (the step that emits their call event) -/
def wEntry (m : Nat) : Ev → Option LinOp
  | .call t op => if op.isWrite then some ⟨m, t, m, op, none⟩ else none
  | _ => none

open Classical in
noncomputable def rEntry (c : Cfg) (sched : List Nat) (m j : Nat) : Ev → Option LinOp
  | .ret t (.get k) r => if IsPt c sched m j k r then some ⟨m, t, j, .get k, r⟩ else none
  | _ => none

def writesAt (c : Cfg) (sched : List Nat) (m : Nat) : List LinOp := (evsAt c sched m).filterMap (wEntry m)

noncomputable def readsAt (c : Cfg) (sched : List Nat) (m : Nat) : List LinOp :=
  (List.range sched.length).flatMap fun j => (evsAt c sched j).filterMap (rEntry c sched m j)

/-- the linearization: for every configuration number `m` in turn, first the reads that observe configuration `m`,
    then the write (if any) whose first block is step `m` -/
noncomputable def linOf (c : Cfg) (sched : List Nat) : List LinOp :=
  (List.range (sched.length + 1)).flatMap fun m => readsAt c sched m ++ writesAt c sched m

theorem mem_writesAt {c : Cfg} {sched : List Nat} {m : Nat} {e : LinOp} :
    e ∈ writesAt c sched m ↔
      ∃ t op, op.isWrite = true ∧ Ev.call t op ∈ evsAt c sched m ∧ e = ⟨m, t, m, op, none⟩ := by
  unfold writesAt
  rw [List.mem_filterMap]
  constructor
  · rintro ⟨ev, hev, hw⟩
    cases ev with
    | call t op =>
      simp only [wEntry] at hw
      split at hw
      · rename_i hop
        simp only [Option.some.injEq] at hw
        exact ⟨t, op, hop, hev, hw.symm⟩
      · simp at hw
    | ret t op r => simp [wEntry] at hw
    | tau t => simp [wEntry] at hw
  · rintro ⟨t, op, hop, hev, he⟩
    exact ⟨_, hev, by simp [wEntry, hop, he]⟩

theorem rEntry_some {c : Cfg} {sched : List Nat} {m j : Nat} {ev : Ev} {e : LinOp}
    (h : rEntry c sched m j ev = some e) :
    ∃ t k r, ev = .ret t (.get k) r ∧ IsPt c sched m j k r ∧ e = ⟨m, t, j, .get k, r⟩ := by
  cases ev with
  | call t op => simp [rEntry] at h
  | tau t => simp [rEntry] at h
  | ret t op r =>
    cases op with
    | put k v => simp [rEntry] at h
    | rm k => simp [rEntry] at h
    | get k =>
      simp only [rEntry] at h
      split at h
      · rename_i hpt
        simp only [Option.some.injEq] at h
        exact ⟨t, k, r, rfl, hpt, h.symm⟩
      · simp at h

theorem mem_readsAt {c : Cfg} {sched : List Nat} {m : Nat} {e : LinOp} :
    e ∈ readsAt c sched m ↔
      ∃ j t k r, j < sched.length ∧ Ev.ret t (.get k) r ∈ evsAt c sched j ∧ IsPt c sched m j k r ∧
        e = ⟨m, t, j, .get k, r⟩ := by
  unfold readsAt
  simp only [List.mem_flatMap, List.mem_range, List.mem_filterMap]
  constructor
  · rintro ⟨j, hj, ev, hev, hr⟩
    obtain ⟨t, k, r, rfl, hpt, he⟩ := rEntry_some hr
    exact ⟨j, t, k, r, hj, hev, hpt, he⟩
  · rintro ⟨j, t, k, r, hj, hev, hpt, he⟩
    exact ⟨j, hj, _, hev, by simp [rEntry, hpt, he]⟩

theorem writesAt_cases {c : Cfg} (hi : Inv c) (sched : List Nat) (m : Nat) :
    (writesAt c sched m = [] ∧ (cfgAt c sched (m + 1)).abs = (cfgAt c sched m).abs) ∨
    (∃ t op, op.isWrite = true ∧ writesAt c sched m = [⟨m, t, m, op, none⟩] ∧
      (cfgAt c sched (m + 1)).abs = specApply (cfgAt c sched m).abs op) := by
  obtain ⟨s, hs⟩ := step_at sched c m hi
  unfold writesAt
  rcases hs.abs_cases (hi.cfgAt sched m).cinv with ⟨habs, hno⟩ | ⟨op, hw, hevs, habs⟩
  · refine Or.inl ⟨List.filterMap_eq_nil_iff.mpr fun e he => ?_, habs⟩
    cases e with
    | call t op => simp [wEntry, hno t op he]
    | ret t op r => rfl
    | tau t => rfl
  · refine Or.inr ⟨s, op, hw, ?_, habs⟩
    rw [hevs]
    simp [wEntry, hw]

theorem writesAt_spec {c : Cfg} (hi : Inv c) (sched : List Nat) (m : Nat) :
    SeqOK (cfgAt c sched m).abs (writesAt c sched m) ∧
    finalMap (cfgAt c sched m).abs (writesAt c sched m) = (cfgAt c sched (m + 1)).abs := by
  rcases writesAt_cases hi sched m with ⟨hw, habs⟩ | ⟨t, op, hop, hw, habs⟩ <;> rw [hw, habs]
  · exact ⟨trivial, rfl⟩
  · refine ⟨⟨?_, trivial⟩, rfl⟩
    cases op with
    | get k => cases hop
    | put k v => rfl
    | rm k => rfl

theorem readsAt_spec (c : Cfg) (sched : List Nat) (m : Nat) :
    SeqOK (cfgAt c sched m).abs (readsAt c sched m) ∧
    finalMap (cfgAt c sched m).abs (readsAt c sched m) = (cfgAt c sched m).abs := by
  apply SeqOK_reads
  intro e he
  obtain ⟨j, t, k, r, _, _, hpt, rfl⟩ := mem_readsAt.mp he
  exact ⟨k, rfl, hpt.2.1.symm⟩

theorem lin_prefix {c : Cfg} (hi : Inv c) (sched : List Nat) (N : Nat) :
    SeqOK c.abs ((List.range N).flatMap fun m => readsAt c sched m ++ writesAt c sched m) ∧
    finalMap c.abs ((List.range N).flatMap fun m => readsAt c sched m ++ writesAt c sched m) =
      (cfgAt c sched N).abs := by
  induction N with
  | zero => simp [SeqOK, finalMap, cfgAt_zero]
  | succ N ih =>
    rw [List.range_succ, List.flatMap_append]
    simp only [List.flatMap_cons, List.flatMap_nil, List.append_nil]
    have hr := readsAt_spec c sched N
    have hw := writesAt_spec hi sched N
    refine ⟨?_, ?_⟩
    · rw [SeqOK_append, ih.2, SeqOK_append, hr.2]
      exact ⟨ih.1, hr.1, hw.1⟩
    · rw [finalMap_append, ih.2, finalMap_append, hr.2, hw.2]

theorem init_abs (maxBatch : Nat) (progs : List (List Op)) : (Cfg.init maxBatch progs).abs = fun _ => none :=
  funext fun _ => rfl

theorem evsAt_lt {c : Cfg} {sched : List Nat} {j : Nat} {e : Ev} (h : e ∈ evsAt c sched j) : j < sched.length := by
  rcases Nat.lt_or_ge j sched.length with hlt | hge
  · exact hlt
  · rw [evsAt_of_le sched c j hge] at h
    simp at h

theorem mem_linOf {c : Cfg} {sched : List Nat} {e : LinOp} :
    e ∈ linOf c sched ↔ ∃ m, m < sched.length + 1 ∧ (e ∈ readsAt c sched m ∨ e ∈ writesAt c sched m) := by
  unfold linOf
  simp only [List.mem_flatMap, List.mem_range, List.mem_append]

theorem linOf_sorted (c : Cfg) (sched : List Nat) : (linOf c sched).Pairwise (fun a b => a.pt ≤ b.pt) := by
  have hpt : ∀ m e, e ∈ readsAt c sched m ++ writesAt c sched m → e.pt = m := by
    intro m e he
    rcases List.mem_append.mp he with he | he
    · obtain ⟨j, t, k, r, _, _, _, rfl⟩ := mem_readsAt.mp he; rfl
    · obtain ⟨t, op, _, _, rfl⟩ := mem_writesAt.mp he; rfl
  unfold linOf
  rw [List.pairwise_flatMap]
  constructor
  · intro m _
    rw [List.pairwise_iff_forall_sublist]
    intro a b hab
    exact Nat.le_of_eq ((hpt m a (hab.subset (by simp))).trans (hpt m b (hab.subset (by simp))).symm)
  · refine List.Pairwise.imp ?_ (List.pairwise_lt_range (n := sched.length + 1))
    intro a b hab x hx y hy
    rw [hpt a x hx, hpt b y hy]
    exact Nat.le_of_lt hab

/-! ### every operation is linearized once -/

theorem Step.shape {c c' : Cfg} {s : Nat} {evs : List Ev} (h : Step c s c' evs) :
    evs = [] ∨ (∃ e, evs = [e]) ∨ ∃ t k r, evs = [.call t (.get k), .ret t (.get k) r] := by
  cases h with
  | skip => exact Or.inl rfl
  | getHit th k rest r h1 h2 hpc htodo hr => exact Or.inr (Or.inr ⟨_, _, _, rfl⟩)
  | _ => exact Or.inr (Or.inl ⟨_, rfl⟩)

theorem shape_at {c : Cfg} (hi : Inv c) (sched : List Nat) (j : Nat) :
    evsAt c sched j = [] ∨ (∃ e, evsAt c sched j = [e]) ∨
      ∃ t k r, evsAt c sched j = [.call t (.get k), .ret t (.get k) r] := by
  obtain ⟨s, hs⟩ := step_at sched c j hi
  exact hs.shape

/-- a step that returns from a get emits nothing else, except the call of that same get -/
theorem evs_of_ret_mem {c : Cfg} (hi : Inv c) (sched : List Nat) {j t : Nat} {k : Bytes} {r : Option Bytes}
    (h : Ev.ret t (.get k) r ∈ evsAt c sched j) :
    ∀ e ∈ evsAt c sched j, e = .ret t (.get k) r ∨ e = .call t (.get k) := by
  rcases shape_at hi sched j with he | ⟨e0, he⟩ | ⟨t0, k0, r0, he⟩ <;> rw [he] at h ⊢
  · simp at h
  · rw [List.mem_singleton] at h
    exact fun e he' => Or.inl ((List.mem_singleton.mp he').trans h.symm)
  · simp only [List.mem_cons, List.mem_nil_iff, or_false, reduceCtorEq, false_or, Ev.ret.injEq, Op.get.injEq] at h
    obtain ⟨rfl, rfl, rfl⟩ := h
    intro e he'
    simp only [List.mem_cons, List.mem_nil_iff, or_false] at he'
    exact he'.symm

theorem ret_unique {c : Cfg} (hi : Inv c) (sched : List Nat) {j t t' : Nat} {k k' : Bytes} {r r' : Option Bytes}
    (h : Ev.ret t (.get k) r ∈ evsAt c sched j) (h' : Ev.ret t' (.get k') r' ∈ evsAt c sched j) :
    t = t' ∧ k = k' ∧ r = r' := by
  rcases evs_of_ret_mem hi sched h _ h' with e | e
  · injection e with e1 e2 e3
    injection e2 with e2
    exact ⟨e1.symm, e2.symm, e3.symm⟩
  · cases e

theorem read_write_step_ne {c : Cfg} (hi : Inv c) (sched : List Nat) {m m' : Nat} {x y : LinOp}
    (hx : x ∈ readsAt c sched m) (hy : y ∈ writesAt c sched m') : x.step ≠ y.step := by
  obtain ⟨j, t, k, r, _, h', _, rfl⟩ := mem_readsAt.mp hx
  obtain ⟨t', op, hop, h, rfl⟩ := mem_writesAt.mp hy
  rintro rfl
  rcases evs_of_ret_mem hi sched h' _ h with e | e
  · cases e
  · injection e with _ e
    subst e
    simp [Op.isWrite] at hop

theorem pairwise_of_length_le_one {α : Type} (R : α → α → Prop) (l : List α) (h : l.length ≤ 1) : l.Pairwise R := by
  match l, h with
  | [], _ => exact List.Pairwise.nil
  | [a], _ => exact List.pairwise_singleton R a
  | _ :: _ :: _, h => simp at h

theorem writesAt_length {c : Cfg} (hi : Inv c) (sched : List Nat) (m : Nat) : (writesAt c sched m).length ≤ 1 := by
  rcases writesAt_cases hi sched m with ⟨hw, _⟩ | ⟨t, op, _, hw, _⟩ <;> rw [hw]
  · exact Nat.zero_le _
  · exact Nat.le_refl _

theorem readsAt_inner_length {c : Cfg} (hi : Inv c) (sched : List Nat) (m j : Nat) :
    ((evsAt c sched j).filterMap (rEntry c sched m j)).length ≤ 1 := by
  rcases shape_at hi sched j with he | ⟨e, he⟩ | ⟨t0, k0, r0, he⟩ <;> rw [he]
  · simp
  · exact Nat.le_trans (List.length_filterMap_le _ _) (by simp)
  · have : [Ev.call t0 (.get k0), Ev.ret t0 (.get k0) r0].filterMap (rEntry c sched m j) =
        [Ev.ret t0 (.get k0) r0].filterMap (rEntry c sched m j) := by
      simp [List.filterMap_cons, rEntry]
    rw [this]
    exact Nat.le_trans (List.length_filterMap_le _ _) (by simp)

theorem IsPt.unique {c : Cfg} {sched : List Nat} {m m' j : Nat} {k : Bytes} {r : Option Bytes}
    (h : IsPt c sched m j k r) (h' : IsPt c sched m' j k r) : m = m' := by
  rcases Nat.lt_trichotomy m m' with hlt | heq | hgt
  · exact absurd h'.2.1 (h.2.2 m' hlt h'.1)
  · exact heq
  · exact absurd h.2.1 (h'.2.2 m hgt h.1)

theorem linOf_distinct {c : Cfg} (hi : Inv c) (sched : List Nat) :
    (linOf c sched).Pairwise (fun a b => a.step ≠ b.step) := by
  unfold linOf
  rw [List.pairwise_flatMap]
  constructor
  · intro m _
    rw [List.pairwise_append]
    refine ⟨?_, pairwise_of_length_le_one _ _ (writesAt_length hi sched m), ?_⟩
    · unfold readsAt
      rw [List.pairwise_flatMap]
      refine ⟨fun j _ => pairwise_of_length_le_one _ _ (readsAt_inner_length hi sched m j), ?_⟩
      refine List.Pairwise.imp ?_ (List.pairwise_lt_range (n := sched.length))
      intro j j' hjj x hx y hy
      obtain ⟨ev, _, hev⟩ := List.mem_filterMap.mp hx
      obtain ⟨ev', _, hev'⟩ := List.mem_filterMap.mp hy
      obtain ⟨_, _, _, _, _, rfl⟩ := rEntry_some hev
      obtain ⟨_, _, _, _, _, rfl⟩ := rEntry_some hev'
      exact Nat.ne_of_lt hjj
    · exact fun a ha b hb => read_write_step_ne hi sched ha hb
  · refine List.Pairwise.imp ?_ (List.pairwise_lt_range (n := sched.length + 1))
    intro m m' hmm x hx y hy hxy
    rcases List.mem_append.mp hx with hx | hx <;> rcases List.mem_append.mp hy with hy | hy
    · obtain ⟨j, t, k, r, _, hret, hpt, rfl⟩ := mem_readsAt.mp hx
      obtain ⟨j', t', k', r', _, hret', hpt', rfl⟩ := mem_readsAt.mp hy
      dsimp only at hxy
      subst hxy
      obtain ⟨_, hk, hr⟩ := ret_unique hi sched hret hret'
      subst hk hr
      exact Nat.ne_of_lt hmm (hpt.unique hpt')
    · exact read_write_step_ne hi sched hx hy hxy
    · exact read_write_step_ne hi sched hy hx hxy.symm
    · obtain ⟨t, op, _, _, rfl⟩ := mem_writesAt.mp hx
      obtain ⟨t', op', _, _, rfl⟩ := mem_writesAt.mp hy
      exact Nat.ne_of_lt hmm hxy

/-- **C11, linearizability.**  For every run of any programs under any schedule there is a list `lin` of operations, each
    tagged with a linearization point, such that

    1. `lin` is ordered by linearization point;
    2. executing `lin` sequentially on a plain map, starting from the empty map, reproduces every recorded result;
    3. every completed `get` (return event at step `j`, call event at step `i`) is in `lin` with its returned value, at a
       point `m` with `i ≤ m ≤ j` (reads answered by the batch: `m = i = j`, their only block; reads that missed: the last
       configuration of the window whose logical value is the value returned);
    4. every write whose first block was executed — completed or still pending at the end of the schedule — is in `lin` at the
       step `i` of its first block, the step that emitted its call event (its return comes at a later step);
    5. `lin` contains nothing else: every entry is such a write or such a completed read (`e.step` is the step that emitted
       the write's call resp. the read's return);
    6. no operation is linearized twice: the entries have pairwise different `step`s (a step emits events of one operation
       only, so `step` identifies the operation).

    Because points lie between call and return and `lin` is sorted by point, an operation that returned before another one was
    called precedes it in `lin` (real-time order).  Among operations with the same point `m` the reads (which observe
    configuration `m`) come before the write (which is step `m` and produces configuration `m+1`). -/
theorem linearizable (maxBatch : Nat) (progs : List (List Op)) (sched : List Nat) :
    ∃ lin : List LinOp,
      lin.Pairwise (fun a b => a.pt ≤ b.pt) ∧
      SeqOK (fun _ => none) lin ∧
      (∀ j t k r, Ev.ret t (.get k) r ∈ evsAt (Cfg.init maxBatch progs) sched j →
        ∃ i m, i ≤ m ∧ m ≤ j ∧ CallRet (Cfg.init maxBatch progs) sched t k r i j ∧
          (⟨m, t, j, .get k, r⟩ : LinOp) ∈ lin) ∧
      (∀ i t op, op.isWrite = true → Ev.call t op ∈ evsAt (Cfg.init maxBatch progs) sched i →
        (⟨i, t, i, op, none⟩ : LinOp) ∈ lin) ∧
      (∀ e ∈ lin,
        (e.op.isWrite = true ∧ e.res = none ∧ e.step = e.pt ∧
          Ev.call e.thread e.op ∈ evsAt (Cfg.init maxBatch progs) sched e.step) ∨
        (∃ k, e.op = .get k ∧ e.pt ≤ e.step ∧
          Ev.ret e.thread (.get k) e.res ∈ evsAt (Cfg.init maxBatch progs) sched e.step)) ∧
      lin.Pairwise (fun a b => a.step ≠ b.step) := by
  have hi := Inv.init maxBatch progs
  refine ⟨linOf (Cfg.init maxBatch progs) sched, linOf_sorted _ _, ?_, ?_, ?_, ?_, linOf_distinct hi sched⟩
  · have := (lin_prefix hi sched (sched.length + 1)).1
    rw [init_abs] at this
    exact this
  · intro j t k r hret
    obtain ⟨i, m0, him, hmj, hcr, hr⟩ := get_window maxBatch progs sched j t k r hret
    obtain ⟨m, hm, hqm, hmax⟩ := exists_largest
      (fun m => (cfgAt (Cfg.init maxBatch progs) sched m).abs k = r) j ⟨m0, hmj, hr.symm⟩
    have hm0 : m0 ≤ m := Nat.le_of_not_lt fun hlt => hmax m0 hlt hmj hr.symm
    have hj := evsAt_lt hret
    refine ⟨i, m, Nat.le_trans him hm0, hm, hcr,
      mem_linOf.mpr ⟨m, Nat.lt_succ_of_le (Nat.le_trans hm (Nat.le_of_lt hj)), Or.inl ?_⟩⟩
    exact mem_readsAt.mpr ⟨j, t, k, r, hj, hret, ⟨hm, hqm, hmax⟩, rfl⟩
  · intro i t op hop hcall
    have hlt := evsAt_lt hcall
    exact mem_linOf.mpr ⟨i, Nat.lt_succ_of_lt hlt, Or.inr (mem_writesAt.mpr ⟨t, op, hop, hcall, rfl⟩)⟩
  · intro e he
    obtain ⟨m, _, he | he⟩ := mem_linOf.mp he
    · obtain ⟨j, t, k, r, _, hret, hpt, rfl⟩ := mem_readsAt.mp he
      exact Or.inr ⟨k, rfl, hpt.1, hret⟩
    · obtain ⟨t, op, hop, hcall, rfl⟩ := mem_writesAt.mp he
      exact Or.inl ⟨hop, rfl, rfl, hcall⟩

end SV.Conc
