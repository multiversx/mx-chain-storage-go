/-
  SV.TxCache.EvictInv — property C05, part 2: eviction keeps the pool invariant `Inv`, hence insertion with
  eviction does, hence every reachable pool satisfies it; the pre-repair variants do not (concrete counter-examples).
  Histories are defined here: `Op`, `applyOp`, `run`; the later files take the one-step facts `applyOp_inv` and
  `run_snoc` and the results of the history induction, `reachable_listsInv_anyConfig`, `Inv.reachable` and
  `ListsSorted.reachable`.
-/
import SV.TxCache.PoolInv
import SV.TxCache.OrderProofs
namespace SV.TxCache
open C5

def Pooled (p : Pool) (x : Tx) : Prop := ∃ s l, (s, l) ∈ p.lists ∧ x ∈ l

/-! ### thresholds applied: the invariant is kept, and no transaction at or above a threshold stays pooled -/

namespace C5

theorem applyThreshold_all (U : Bytes → Tx) (p : Pool) (sn : Bytes × Nat) (h : Inv U p) :
    Inv U (applyThreshold Variant.current p sn) ∧
    (∀ x, Pooled (applyThreshold Variant.current p sn) x → Pooled p x ∧ ¬ (x.sender = sn.1 ∧ sn.2 ≤ x.nonce)) := by
  cases hl : alookup sn.1 p.lists with
  | none =>
    rw [applyThreshold_none hl]
    refine ⟨h, ?_⟩
    rintro x ⟨s, l, hm, hx⟩
    refine ⟨⟨s, l, hm, hx⟩, ?_⟩
    rintro ⟨hs, -⟩
    rw [(h.wfLists s l hm x hx).2] at hs
    subst hs
    exact not_mem_of_alookup_none hl l hm
  | some l =>
    rw [applyThreshold_some hl, if_neg (by decide)]
    have hml : (sn.1, l) ∈ p.lists := mem_of_alookup hl
    obtain ⟨hsuf, hge⟩ := keepLower_prefix_all sn.2 l
    generalize l.drop (keepLower sn.2 l).length = suf at hsuf hge ⊢
    have hlt := keepLower_lt (n := sn.2) (h.nonceSorted _ _ hml)
    have hsub := keepLower_sublist sn.2 l
    refine ⟨Inv.shrink_split (q0 := { p with lists := aset sn.1 (keepLower sn.2 l) p.lists })
        h hl hsub ?_ ?_ rfl rfl rfl rfl rfl, ?_⟩
    · intro x hx
      rw [hsuf] at hx
      exact List.mem_append.mp hx
    · intro x hx
      refine ⟨by rw [hsuf]; exact List.mem_append_right _ hx, ?_⟩
      intro hk
      exact hge x hx (hlt x hk)
    · obtain ⟨-, hchar⟩ := shrink_lists (q0 := { p with lists := aset sn.1 (keepLower sn.2 l) p.lists })
        (listsOk_of_inv h) hl hsub rfl rfl (suf.map (·.hash))
      intro x hx
      rcases (listed_iff_of_char h hchar x).mp hx with ⟨hx', hne⟩ | hx'
      · exact ⟨(h.same x).mp hx', fun hs => hne hs.1⟩
      · exact ⟨⟨_, l, hml, hsub.subset hx'⟩, fun hs => Nat.not_lt.mpr hs.2 (hlt x hx')⟩

theorem foldThreshold_all (U : Bytes → Tx) (ths : List (Bytes × Nat)) : ∀ (p : Pool), Inv U p →
    Inv U (ths.foldl (applyThreshold Variant.current) p) ∧
    (∀ x, Pooled (ths.foldl (applyThreshold Variant.current) p) x →
      Pooled p x ∧ ∀ sn ∈ ths, ¬ (x.sender = sn.1 ∧ sn.2 ≤ x.nonce)) := by
  induction ths with
  | nil =>
    intro p h
    exact ⟨h, fun x hx => ⟨hx, by simp⟩⟩
  | cons sn ths ih =>
    intro p h
    obtain ⟨h1, hp1⟩ := applyThreshold_all U p sn h
    obtain ⟨h2, hp2⟩ := ih _ h1
    refine ⟨h2, ?_⟩
    intro x hx
    obtain ⟨hx1, hrest⟩ := hp2 x hx
    obtain ⟨hx0, hsn⟩ := hp1 x hx1
    refine ⟨hx0, ?_⟩
    intro sn' hsn'
    rcases List.mem_cons.mp hsn' with rfl | hsn'
    · exact hsn
    · exact hrest sn' hsn'

end C5

theorem Inv.applyThreshold (U : Bytes → Tx) (p : Pool) (sn : Bytes × Nat) (h : Inv U p) :
    Inv U (applyThreshold Variant.current p sn) := (applyThreshold_all U p sn h).1

/-! ### the eviction heap -/

namespace C5

/-- an item walks one sender's list backwards: its transactions are well-formed, of one sender, nonce non-increasing -/
def ItemOk (U : Bytes → Tx) (it : HItem) : Prop :=
  (∀ x ∈ it.cur :: it.rest, WfTx U x ∧ x.sender = it.cur.sender) ∧
  (it.cur :: it.rest).Pairwise (fun a b => b.nonce ≤ a.nonce)

/-- the heap invariant: every item is fine, different items belong to different senders.
    (Items may be stale — nothing is claimed about their transactions still being pooled.) -/
def HeapOk (U : Bytes → Tx) (heap : List HItem) : Prop :=
  (∀ it ∈ heap, ItemOk U it) ∧ heap.Pairwise (fun a b => a.cur.sender ≠ b.cur.sender)

theorem HeapOk.perm {U : Bytes → Tx} {l₁ l₂ : List HItem} (hp : l₁.Perm l₂) (h : HeapOk U l₁) : HeapOk U l₂ := by
  refine ⟨fun it hit => h.1 it (hp.mem_iff.mpr hit), ?_⟩
  exact (hp.pairwise_iff (fun {x y} (hxy : x.cur.sender ≠ y.cur.sender) => fun e => hxy e.symm)).mp h.2

/-- state of one collecting pass: the victims so far (`acc`) and the heap -/
structure CV (U : Bytes → Tx) (acc : List Tx) (heap : List HItem) : Prop where
  heapOk : HeapOk U heap
  wf : ∀ t ∈ acc, WfTx U t
  ord : acc.Pairwise (fun a b => a.sender = b.sender → b.nonce ≤ a.nonce)
  link : ∀ a ∈ acc, ∀ it ∈ heap, a.sender = it.cur.sender → ∀ x ∈ it.cur :: it.rest, x.nonce ≤ a.nonce

theorem CV.perm {U : Bytes → Tx} {acc : List Tx} {l₁ l₂ : List HItem} (hp : l₁.Perm l₂) (h : CV U acc l₁) :
    CV U acc l₂ :=
  ⟨h.heapOk.perm hp, h.wf, h.ord, fun a ha it hit => h.link a ha it (hp.mem_iff.mpr hit)⟩

theorem CV.start {U : Bytes → Tx} {heap : List HItem} (h : HeapOk U heap) : CV U [] heap :=
  ⟨h, nofun, .nil, nofun⟩

theorem advance_some {it j : HItem} (h : it.advance = some j) : j.cur :: j.rest = it.rest := by
  unfold HItem.advance at h
  cases hr : it.rest with
  | nil => rw [hr] at h; cases h
  | cons t ts => rw [hr] at h; cases h; rfl

theorem CV.step {U : Bytes → Tx} {acc : List Tx} {it : HItem} {heap : List HItem} (h : CV U acc (it :: heap)) :
    CV U (acc ++ [it.cur]) (it.advance.toList ++ heap) := by
  obtain ⟨⟨hitems, hdist⟩, hwf, hord, hlink⟩ := h
  obtain ⟨hdistIt, hdistHeap⟩ := List.pairwise_cons.mp hdist
  obtain ⟨hitWf, hitPw⟩ := hitems it (List.mem_cons_self ..)
  obtain ⟨hle, hpw⟩ := List.pairwise_cons.mp hitPw
  -- the advanced item, if any, walks `it.rest` for the same sender
  have hadv : ∀ j ∈ it.advance.toList, j.cur :: j.rest = it.rest ∧ j.cur.sender = it.cur.sender := by
    intro j hj
    have e := advance_some (Option.mem_toList.mp hj)
    exact ⟨e, (hitWf j.cur (List.mem_cons_of_mem _ (e ▸ List.mem_cons_self ..))).2⟩
  refine ⟨⟨?_, ?_⟩, ?_, ?_, ?_⟩
  · intro j hj
    rcases List.mem_append.mp hj with hj | hj
    · obtain ⟨e, hs⟩ := hadv j hj
      refine ⟨fun x hx => ?_, e ▸ hpw⟩
      rw [hs]
      exact hitWf x (List.mem_cons_of_mem _ (e ▸ hx))
    · exact hitems j (List.mem_cons_of_mem _ hj)
  · refine List.pairwise_append.mpr ⟨by cases it.advance <;> simp, hdistHeap, fun j hj k hk => ?_⟩
    rw [(hadv j hj).2]
    exact hdistIt k hk
  · exact List.forall_mem_append.mpr ⟨hwf, List.forall_mem_singleton.mpr (hitWf it.cur (List.mem_cons_self ..)).1⟩
  · refine List.pairwise_append.mpr ⟨hord, by simp, fun a ha b hb e => ?_⟩
    rw [List.mem_singleton.mp hb] at e ⊢
    exact hlink a ha it (List.mem_cons_self ..) e it.cur (List.mem_cons_self ..)
  · intro a ha j hj e x hx
    rcases List.mem_append.mp hj with hj | hj
    · obtain ⟨e', hs⟩ := hadv j hj
      rw [e'] at hx
      rcases List.mem_append.mp ha with ha | ha
      · exact hlink a ha it (List.mem_cons_self ..) (e.trans hs) x (List.mem_cons_of_mem _ hx)
      · rw [List.mem_singleton.mp ha]
        exact hle x hx
    · rcases List.mem_append.mp ha with ha | ha
      · exact hlink a ha j (List.mem_cons_of_mem _ hj) e x hx
      · rw [List.mem_singleton.mp ha] at e
        exact absurd e (hdistIt j hj)

theorem collectVictims_succ (v : Variant) (n : Nat) (heap : List HItem) (acc : List Tx) :
    collectVictims v (n + 1) heap acc =
      match popWorst v heap with
      | none => (acc, heap)
      | some (it, heap') => collectVictims v n (it.advance.toList ++ heap') (acc ++ [it.cur]) := by
  rw [collectVictims]
  cases popWorst v heap with
  | none => rfl
  | some r => dsimp only; cases r.1.advance <;> rfl

theorem collectVictims_ok {U : Bytes → Tx} : ∀ (n : Nat) (heap : List HItem) (acc : List Tx), CV U acc heap →
    CV U (collectVictims Variant.current n heap acc).1 (collectVictims Variant.current n heap acc).2 := by
  intro n
  induction n with
  | zero => exact fun heap acc h => h
  | succ n ih =>
    intro heap acc h
    rw [collectVictims_succ]
    cases hpop : popWorst Variant.current heap with
    | none => exact h
    | some r => exact ih _ _ (h.perm (popBy_perm _ _ _ _ hpop).symm).step

/-! ### the thresholds computed from the victims -/

theorem thresholds_lookup_absent (s : Bytes) : ∀ (vs : List Tx) (m : List (Bytes × Nat)),
    (∀ r ∈ vs, r.sender ≠ s) →
    alookup s (vs.foldl (fun m t => aset t.sender t.nonce m) m) = alookup s m := by
  intro vs
  induction vs with
  | nil => intro m _; rfl
  | cons v vs ih =>
    intro m h
    rw [List.foldl_cons, ih _ (fun r hr => h r (List.mem_cons_of_mem _ hr))]
    exact alookup_aset_ne _ _ (fun e => h v (List.mem_cons_self ..) e.symm)

/-- each victim's nonce is at least the threshold recorded for its sender (the nonce of that sender's LAST victim) -/
theorem thresholds_le : ∀ (vs : List Tx) (m : List (Bytes × Nat)),
    vs.Pairwise (fun a b => a.sender = b.sender → b.nonce ≤ a.nonce) →
    ∀ t ∈ vs, ∃ n, alookup t.sender (vs.foldl (fun m t => aset t.sender t.nonce m) m) = some n ∧ n ≤ t.nonce := by
  intro vs
  induction vs with
  | nil => intro m _ t ht; simp at ht
  | cons v vs ih =>
    intro m hpw t ht
    rw [List.pairwise_cons] at hpw
    rw [List.foldl_cons]
    rcases List.mem_cons.mp ht with rfl | ht
    · by_cases hex : ∃ r ∈ vs, r.sender = t.sender
      · obtain ⟨r, hr, hrs⟩ := hex
        obtain ⟨n, hn, hle⟩ := ih (aset t.sender t.nonce m) hpw.2 r hr
        refine ⟨n, by rw [← hn, hrs], ?_⟩
        have := hpw.1 r hr hrs.symm
        omega
      · refine ⟨t.nonce, ?_, Nat.le_refl _⟩
        rw [thresholds_lookup_absent t.sender vs _ (fun r hr e => hex ⟨r, hr, e⟩)]
        exact alookup_aset_self ..
    · exact ih _ hpw.2 t ht

/-! ### one eviction pass, the loop -/

theorem applyVictims_all (U : Bytes → Tx) (p : Pool) (victims : List Tx) (h : Inv U p)
    (hwf : ∀ t ∈ victims, WfTx U t)
    (hord : victims.Pairwise (fun a b => a.sender = b.sender → b.nonce ≤ a.nonce)) :
    Inv U (applyVictims Variant.current p victims) := by
  unfold applyVictims
  dsimp only
  obtain ⟨h1, hp1⟩ := foldThreshold_all U (thresholds victims) p h
  have habs : ∀ k ∈ victims.map (·.hash),
      alookup k ((thresholds victims).foldl (applyThreshold Variant.current) p).byHash = none := by
    intro k hk
    obtain ⟨t, ht, rfl⟩ := List.mem_map.mp hk
    cases hlk : alookup t.hash ((thresholds victims).foldl (applyThreshold Variant.current) p).byHash with
    | none => rfl
    | some x =>
      exfalso
      obtain ⟨hh, hw, l, hl, hxl⟩ := hashed_listed h1 hlk
      have hxt : x = t := wf_inj hw (hwf t ht) hh
      subst hxt
      obtain ⟨-, hno⟩ := hp1 x ⟨_, l, mem_of_alookup hl, hxl⟩
      obtain ⟨n, hn, hle⟩ := thresholds_le victims [] hord x ht
      exact hno (x.sender, n) (mem_of_alookup hn) ⟨rfl, hle⟩
  rw [removeBulk_absent habs]
  exact h1

theorem evictLoop_all (U : Bytes → Tx) (fuel : Nat) (p : Pool) (heap : List HItem) (h : Inv U p) (hh : HeapOk U heap) :
    Inv U (evictLoop Variant.current fuel p heap) := by
  fun_induction evictLoop Variant.current fuel p heap with
  | case3 _ p heap _ victims heap' hc _ ih =>
    have hres := collectVictims_ok p.cfg.numItemsToEvict heap [] (CV.start hh)
    rw [hc] at hres
    exact ih (applyVictims_all U p victims h hres.wf hres.ord) hres.heapOk
  | _ => exact h

theorem ofBunch_some {b : List Tx} {it : HItem} (h : HItem.ofBunch b = some it) : it.cur :: it.rest = b := by
  cases b with
  | nil => cases h
  | cons t ts => cases h; rfl

theorem initHeap_cons (b : List Tx) (bs : List (List Tx)) :
    initHeap (b :: bs) = (HItem.ofBunch b).toList ++ initHeap bs := by
  unfold initHeap
  rw [List.filterMap_cons]
  cases HItem.ofBunch b <;> rfl

theorem initHeap_mem {L : List (Bytes × List Tx)} {j : HItem} (hj : j ∈ initHeap (L.map (·.2.reverse))) :
    ∃ s l, (s, l) ∈ L ∧ j.cur :: j.rest = l.reverse ∧ j.cur ∈ l := by
  unfold initHeap at hj
  obtain ⟨b, hb, hof⟩ := List.mem_filterMap.mp hj
  obtain ⟨⟨s, l⟩, hm, rfl⟩ := List.mem_map.mp hb
  have e := ofBunch_some hof
  exact ⟨s, l, hm, e, List.mem_reverse.mp (e ▸ List.mem_cons_self ..)⟩

theorem initHeap_ok {U : Bytes → Tx} : ∀ (L : List (Bytes × List Tx)),
    (∀ s l, (s, l) ∈ L → ∀ t ∈ l, WfTx U t ∧ t.sender = s) →
    (∀ s l, (s, l) ∈ L → l.Pairwise (fun a b => a.nonce ≤ b.nonce)) →
    (keys L).Nodup → HeapOk U (initHeap (L.map (·.2.reverse))) := by
  intro L hwf hso hnd
  constructor
  · intro j hj
    obtain ⟨s, l, hm, hjl, hcur⟩ := initHeap_mem hj
    unfold ItemOk
    rw [hjl]
    refine ⟨?_, ?_⟩
    · intro x hx
      have hx' := hwf s l hm x (List.mem_reverse.mp hx)
      exact ⟨hx'.1, by rw [hx'.2, (hwf s l hm _ hcur).2]⟩
    · rw [List.pairwise_reverse]
      exact hso s l hm
  · induction L with
    | nil => exact List.Pairwise.nil
    | cons a L ih =>
      obtain ⟨s, l⟩ := a
      simp only [keys_cons, List.nodup_cons] at hnd
      have ih' := ih (fun s' l' hm => hwf s' l' (List.mem_cons_of_mem _ hm))
        (fun s' l' hm => hso s' l' (List.mem_cons_of_mem _ hm)) hnd.2
      rw [List.map_cons, initHeap_cons]
      refine List.pairwise_append.mpr ⟨?_, ih', fun it hit j hj => ?_⟩
      · cases HItem.ofBunch l.reverse <;> simp
      · obtain ⟨s', l', hm', -, hjl⟩ := initHeap_mem (L := L) hj
        have hitl : it.cur ∈ l := List.mem_reverse.mp (ofBunch_some (Option.mem_toList.mp hit) ▸ List.mem_cons_self ..)
        rw [(hwf s l (List.mem_cons_self ..) _ hitl).2, (hwf s' l' (List.mem_cons_of_mem _ hm') _ hjl).2]
        intro e
        subst e
        exact hnd.1 (mem_keys_of_mem hm')

end C5

theorem Inv.evict (U : Bytes → Tx) (p : Pool) (h : Inv U p) : Inv U (evict Variant.current p) := by
  unfold SV.TxCache.evict
  split
  · exact evictLoop_all U _ p _ h (initHeap_ok p.lists h.wfLists h.nonceSorted h.sendersNodup)
  · exact h

/-- (`h` is not used: a threshold leaves prefixes, `lists_applyThreshold`.) -/
theorem ListsSorted.applyThreshold (U : Bytes → Tx) (p : Pool) (sn : Bytes × Nat) (h : Inv U p) (hso : ListsSorted p) :
    ListsSorted (SV.TxCache.applyThreshold Variant.current p sn) := by
  have _ := h
  exact hso.of_sub (lists_applyThreshold _ p sn hso).toSub

/-- insertion, with or without eviction.
    NOTE the extra hypothesis `hso` (strict sortedness of the sender lists), see `Inv.addTx_noEvict` and the
    counter-example `addTx_noEvict_needs_sorted` in `PoolInv.lean`; reachable pools satisfy it. -/
theorem Inv.addTx (U : Bytes → Tx) (p : Pool) (t : Tx) (h : Inv U p) (hso : ListsSorted p) (ht : WfTx U t) :
    Inv U (addTx Variant.current p t).1 := by
  rw [addTx_eq_core]
  split
  · exact Inv.addTxCore U _ t (Inv.evict U p h) (hso.evict _ p) ht
  · exact Inv.addTxCore U p t h hso ht

theorem ListsSorted.addTx (v : Variant) (p : Pool) (t : Tx) (hso : ListsSorted p) :
    ListsSorted (SV.TxCache.addTx v p t).1 := by
  rw [addTx_eq_core]
  split
  · exact (hso.evict v p).addTxCore v _ t
  · exact hso.addTxCore v p t

/-! ### histories -/

inductive Op where
  | add (t : Tx) | rm (h : Bytes) | clear

def applyOp (p : Pool) : Op → Pool
  | .add t => (addTx Variant.current p t).1
  | .rm h => (removeTxByHash p h).1
  | .clear => SV.TxCache.clear Variant.current p

/-- the pool after the history `ops`, starting from the empty pool created with configuration `cfg` -/
def run (cfg : Config) (ops : List Op) : Pool := ops.foldl applyOp (Pool.init cfg)

theorem run_nil (cfg : Config) : run cfg [] = Pool.init cfg := rfl

theorem run_snoc (cfg : Config) (ops : List Op) (op : Op) : run cfg (ops ++ [op]) = applyOp (run cfg ops) op := by
  unfold run
  rw [List.foldl_append]
  rfl

theorem listsInv_applyOp (p : Pool) (op : Op) (hi : ListsInv p) : ListsInv (applyOp p op) := by
  cases op with
  | add t => rw [applyOp]; exact hi.addTx Variant.current p t
  | rm h => rw [applyOp]; exact hi.removeTxByHash p h
  | clear => exact ListsInv.clear Variant.current p

/-- `ListsInv` holds on every reachable pool of EVERY configuration (accepted or not) and for every history
    (well-formed or not) -/
theorem reachable_listsInv_anyConfig (cfg : Config) (ops : List Op) : ListsInv (run cfg ops) :=
  List.foldlRecOn ops applyOp (ListsInv.init cfg) fun p hi op _ => listsInv_applyOp p op hi

theorem applyOp_inv (U : Bytes → Tx) (p : Pool) (op : Op) (hw : ∀ t, op = Op.add t → WfTx U t) (h : Inv U p)
    (hso : ListsSorted p) : Inv U (applyOp p op) ∧ ListsSorted (applyOp p op) := by
  cases op with
  | add t => rw [applyOp]; exact ⟨Inv.addTx U p t h hso (hw t rfl), ListsSorted.addTx _ p t hso⟩
  | rm k => rw [applyOp]; exact ⟨Inv.removeTxByHash U p k h, hso.of_sub (lists_removeTxByHash p k)⟩
  | clear => exact ⟨Inv.clear U p, ListsSorted.clear _ p⟩

/-- every reachable pool satisfies the invariant (selection does not modify the pool, it is a pure function of it) -/
theorem Inv.reachable (U : Bytes → Tx) (cfg : Config) (ops : List Op) (hw : ∀ t, Op.add t ∈ ops → WfTx U t) :
    Inv U (ops.foldl applyOp (Pool.init cfg)) :=
  (List.foldlRecOn (motive := fun p => Inv U p ∧ ListsSorted p) ops applyOp ⟨Inv.init U cfg, ListsSorted.init cfg⟩
    fun p hp op hop => applyOp_inv U p op (fun t e => hw t (e ▸ hop)) hp.1 hp.2).1

/-- (`hw` is not used: `reachable_listsInv_anyConfig`.) -/
theorem ListsSorted.reachable (U : Bytes → Tx) (cfg : Config) (ops : List Op) (hw : ∀ t, Op.add t ∈ ops → WfTx U t) :
    ListsSorted (ops.foldl applyOp (Pool.init cfg)) := by
  have _ := hw
  exact (reachable_listsInv_anyConfig cfg ops).sorted

/-! ### the pre-repair variants break the invariant -/

/-- F4: `Clear` keeps `numBytes` -/
theorem legacy_clear_counterexample : ∃ (cfg : Config) (t : Tx),
    let p := SV.TxCache.clear Variant.legacy (addTx Variant.legacy (Pool.init cfg) t).1
    p.byHash = [] ∧ p.numBytes ≠ 0 :=
  ⟨⟨false, 1000, 1000, 10, 10, 1⟩, ⟨[1], [0xa0], 1, 2, 1, 10, 10, 0, []⟩, by decide⟩

/-- F5: a sender list emptied by trimming stays registered -/
theorem legacy_empty_sender_counterexample : ∃ (cfg : Config) (t : Tx),
    let p := (addTx Variant.legacy (Pool.init cfg) t).1
    p.byHash = [] ∧ p.cntSenders ≠ 0 :=
  ⟨⟨false, 1000, 1000, 10, 0, 1⟩, ⟨[1], [0xa0], 1, 2, 1, 10, 10, 0, []⟩, by decide⟩

/-- F6: eviction leaves a same-nonce sibling of a victim in the hash index -/
theorem legacy_ghost_counterexample : ∃ (cfg : Config) (ts : List Tx) (g : Tx),
    let p := ts.foldl (fun p t => (addTx Variant.legacy p t).1) (Pool.init cfg)
    alookup g.hash p.byHash = some g ∧ ∀ s l, (s, l) ∈ p.lists → g ∉ l := by
  refine ⟨⟨true, 100000, 100000, 2, 100, 1⟩,
    [⟨[1], [0xa0], 1, 2, 1, 10, 10, 0, []⟩, ⟨[2], [0xa0], 1, 1, 1, 10, 0, 0, []⟩,
     ⟨[3], [0xb0], 1, 1, 1, 10, 100, 0, []⟩, ⟨[4], [0xc0], 1, 1, 1, 10, 100, 0, []⟩],
    ⟨[1], [0xa0], 1, 2, 1, 10, 10, 0, []⟩, ?_⟩
  dsimp only
  refine ⟨by decide, ?_⟩
  have key : ∀ e ∈ ([⟨[1], [0xa0], 1, 2, 1, 10, 10, 0, []⟩, ⟨[2], [0xa0], 1, 1, 1, 10, 0, 0, []⟩,
     ⟨[3], [0xb0], 1, 1, 1, 10, 100, 0, []⟩, ⟨[4], [0xc0], 1, 1, 1, 10, 100, 0, []⟩] : List Tx).foldl
       (fun p t => (addTx Variant.legacy p t).1) (Pool.init ⟨true, 100000, 100000, 2, 100, 1⟩) |>.lists,
      (⟨[1], [0xa0], 1, 2, 1, 10, 10, 0, []⟩ : Tx) ∉ e.2 := by decide
  exact fun s l hm => key (s, l) hm

end SV.TxCache
