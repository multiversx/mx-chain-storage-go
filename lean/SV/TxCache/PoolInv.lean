/-
  SV.TxCache.PoolInv — property C05, part 1: the pool invariant `Inv` (the two indexes hold the same transactions,
  the three counters are truthful) is established by `Pool.init` and kept by `clear`, `removeTxByHash` and by
  `addTx` without the eviction step.  Eviction is in `EvictInv.lean`.

  The namespace `SV.TxCache.C5` holds the machinery of C05: the two halves `HashOk`/`ListsOk` of `Inv`, what
  `byHashRemove`, `removeBulk`, `removeSenderIfEmpty` do to them, the general shrinking step `Inv.shrink`, the
  insertion of a fresh transaction (and, in `EvictInv.lean`, the eviction heap).  The namespace is opened in
  `ListsInvProofs.lean`, with the lemmas saying which fields these three functions leave alone.
-/
import SV.TxCache.ListsInvProofs
namespace SV.TxCache
namespace C5

/-! ### the keys of an association list (the library `SV/AssocList.lean` writes them `l.map (·.1)`) -/

section alist
set_option linter.unusedSectionVars false
variable {α β : Type} [BEq α] [LawfulBEq α]

def keys (l : List (α × β)) : List α := l.map (·.1)

@[simp] theorem keys_nil : keys ([] : List (α × β)) = [] := rfl
@[simp] theorem keys_cons (a : α × β) (l : List (α × β)) : keys (a :: l) = a.1 :: keys l := rfl

theorem mem_keys_of_mem {k : α} {v : β} {l : List (α × β)} (h : (k, v) ∈ l) : k ∈ keys l :=
  List.mem_map.mpr ⟨(k, v), h, rfl⟩

theorem alookup_isSome_of_mem {k : α} {v : β} {l : List (α × β)} (h : (k, v) ∈ l) : ∃ v', alookup k l = some v' :=
  Option.isSome_iff_exists.mp (alookup_isSome_iff.mpr (mem_keys_of_mem h))

end alist

/-! ### the two halves of the invariant -/

/-- the hash index and its two counters -/
structure HashOk (U : Bytes → Tx) (p : Pool) : Prop where
  wfHash : ∀ h t, (h, t) ∈ p.byHash → t.hash = h ∧ WfTx U t
  keysNodup : (keys p.byHash).Nodup
  cntTx : p.cntTx = (p.byHash.length : Int)
  numBytes : p.numBytes = (sumSizes p.byHash : Int)

/-- the sender index and its counter -/
structure ListsOk (U : Bytes → Tx) (p : Pool) : Prop where
  wfLists : ∀ s l, (s, l) ∈ p.lists → ∀ t ∈ l, WfTx U t ∧ t.sender = s
  sendersNodup : (keys p.lists).Nodup
  nonceSorted : ∀ s l, (s, l) ∈ p.lists → l.Pairwise (fun a b => a.nonce ≤ b.nonce)
  nonEmpty : ∀ s l, (s, l) ∈ p.lists → l ≠ []
  cntSenders : p.cntSenders = (p.lists.length : Int)

theorem hashOk_of_inv {U : Bytes → Tx} {p : Pool} (h : Inv U p) : HashOk U p :=
  ⟨h.wfHash, h.keysNodup, h.cntTx, h.numBytes⟩

theorem listsOk_of_inv {U : Bytes → Tx} {p : Pool} (h : Inv U p) : ListsOk U p :=
  ⟨h.wfLists, h.sendersNodup, h.nonceSorted, h.nonEmpty, h.cntSenders⟩

theorem inv_of_parts {U : Bytes → Tx} {p : Pool} (hH : HashOk U p) (hL : ListsOk U p)
    (hs : ∀ t, (t.hash, t) ∈ p.byHash ↔ ∃ s l, (s, l) ∈ p.lists ∧ t ∈ l) : Inv U p :=
  ⟨hL.wfLists, hH.wfHash, hH.keysNodup, hL.sendersNodup, hL.nonceSorted, hL.nonEmpty, hs, hH.cntTx, hH.numBytes,
    hL.cntSenders⟩

theorem HashOk.of_eq {U : Bytes → Tx} {p q : Pool} (h : HashOk U p) (e1 : q.byHash = p.byHash)
    (e2 : q.cntTx = p.cntTx) (e3 : q.numBytes = p.numBytes) : HashOk U q := by
  refine ⟨?_, ?_, ?_, ?_⟩
  · rw [e1]; exact h.wfHash
  · rw [e1]; exact h.keysNodup
  · rw [e1, e2]; exact h.cntTx
  · rw [e1, e3]; exact h.numBytes

theorem ListsOk.of_eq {U : Bytes → Tx} {p q : Pool} (h : ListsOk U p) (e1 : q.lists = p.lists)
    (e2 : q.cntSenders = p.cntSenders) : ListsOk U q := by
  refine ⟨?_, ?_, ?_, ?_, ?_⟩
  · rw [e1]; exact h.wfLists
  · rw [e1]; exact h.sendersNodup
  · rw [e1]; exact h.nonceSorted
  · rw [e1]; exact h.nonEmpty
  · rw [e1, e2]; exact h.cntSenders

theorem wf_inj {U : Bytes → Tx} {a b : Tx} (ha : WfTx U a) (hb : WfTx U b) (e : a.hash = b.hash) : a = b := by
  unfold WfTx at ha hb
  rw [← ha, ← hb, e]

theorem hashed_listed {U : Bytes → Tx} {p : Pool} (h : Inv U p) {hsh : Bytes} {t : Tx}
    (hm : alookup hsh p.byHash = some t) :
    t.hash = hsh ∧ WfTx U t ∧ ∃ l, alookup t.sender p.lists = some l ∧ t ∈ l := by
  have hmem := mem_of_alookup hm
  obtain ⟨hh, hw⟩ := h.wfHash hsh t hmem
  refine ⟨hh, hw, ?_⟩
  rw [← hh] at hmem
  obtain ⟨s, l, hml, htl⟩ := (h.same t).mp hmem
  have hs := (h.wfLists s l hml t htl).2
  rw [hs]
  exact ⟨l, alookup_of_mem h.sendersNodup hml, htl⟩

/-! ### `byHashRemove` and `removeBulk` keep `HashOk`; which entries they leave in the hash index -/

theorem sumSizes_cons (a : Bytes × Tx) (l : List (Bytes × Tx)) : sumSizes (a :: l) = a.2.size + sumSizes l := by
  simp [sumSizes]

theorem sumSizes_append (l₁ l₂ : List (Bytes × Tx)) : sumSizes (l₁ ++ l₂) = sumSizes l₁ + sumSizes l₂ := by
  simp [sumSizes, List.sum_append]

theorem sumSizes_aerase {k : Bytes} {v : Tx} {l : List (Bytes × Tx)} (hnd : (keys l).Nodup)
    (h : alookup k l = some v) : sumSizes (aerase k l) + v.size = sumSizes l := by
  induction l with
  | nil => simp [alookup] at h
  | cons a r ih =>
    obtain ⟨k', v'⟩ := a
    simp only [keys_cons, List.nodup_cons] at hnd
    simp only [alookup] at h
    simp only [aerase]
    split
    · next hk =>
      have e := eq_of_beq hk
      subst e
      simp only [hk, if_true, Option.some.injEq] at h
      subst h
      rw [aerase_of_not_mem hnd.1, sumSizes_cons]
      dsimp only
      omega
    · next hk =>
      simp only [hk] at h
      have := ih hnd.2 (by simpa using h)
      rw [sumSizes_cons, sumSizes_cons]
      dsimp only
      omega

theorem HashOk.byHashRemove {U : Bytes → Tx} {p : Pool} (hp : HashOk U p) (h : Bytes) :
    HashOk U (byHashRemove p h) := by
  unfold SV.TxCache.byHashRemove
  split
  · exact hp
  · next t ht =>
    refine ⟨?_, ?_, ?_, ?_⟩
    · intro k x hx
      exact hp.wfHash k x (mem_aerase.mp hx).1
    · exact nodup_keys_aerase _ hp.keysNodup
    · have := length_aerase hp.keysNodup ht
      have := hp.cntTx
      simp only
      omega
    · have := sumSizes_aerase hp.keysNodup ht
      have := hp.numBytes
      simp only
      omega

theorem mem_byHashRemove {p : Pool} {h k : Bytes} {t : Tx} :
    (k, t) ∈ (byHashRemove p h).byHash ↔ (k, t) ∈ p.byHash ∧ k ≠ h := by
  unfold byHashRemove
  split
  · next hn =>
    constructor
    · intro hm
      refine ⟨hm, ?_⟩
      intro e
      subst e
      exact not_mem_of_alookup_none hn t hm
    · exact fun hm => hm.1
  · exact mem_aerase

theorem HashOk.removeBulk {U : Bytes → Tx} {p : Pool} (hp : HashOk U p) (hs : List Bytes) :
    HashOk U (removeBulk p hs) := by
  induction hs generalizing p with
  | nil => exact hp
  | cons h hs ih => rw [removeBulk_cons]; exact ih (hp.byHashRemove h)

theorem mem_removeBulk {p : Pool} {hs : List Bytes} {k : Bytes} {t : Tx} :
    (k, t) ∈ (removeBulk p hs).byHash ↔ (k, t) ∈ p.byHash ∧ k ∉ hs := by
  induction hs generalizing p with
  | nil => simp
  | cons h hs ih =>
    rw [removeBulk_cons, ih, mem_byHashRemove]
    simp only [List.mem_cons, not_or]
    constructor
    · rintro ⟨⟨a, b⟩, c⟩; exact ⟨a, b, c⟩
    · rintro ⟨a, b, c⟩; exact ⟨⟨a, b⟩, c⟩

theorem removeBulk_absent {p : Pool} {hs : List Bytes} (h : ∀ k ∈ hs, alookup k p.byHash = none) :
    removeBulk p hs = p := by
  induction hs with
  | nil => rfl
  | cons k hs ih =>
    rw [removeBulk_cons]
    have hk : byHashRemove p k = p := by
      unfold byHashRemove
      rw [h k (List.mem_cons_self ..)]
    rw [hk]
    exact ih (fun k' hk' => h k' (List.mem_cons_of_mem _ hk'))

/-! ### setting one sender's list -/

theorem removeSenderIfEmpty_of_nonempty {p : Pool} {s : Bytes} {m : List Tx} (h : alookup s p.lists = some m)
    (hm : m ≠ []) : removeSenderIfEmpty p s = p := by
  unfold removeSenderIfEmpty
  split
  · next h' => rw [h] at h'; simp only [Option.some.injEq] at h'; exact absurd h' hm
  · rfl

theorem listsOk_of_char {U : Bytes → Tx} {p r : Pool} {s : Bytes} {m : List Tx} (hp : ListsOk U p)
    (hwf : ∀ t ∈ m, WfTx U t ∧ t.sender = s) (hso : m.Pairwise (fun a b => a.nonce ≤ b.nonce))
    (hchar : ∀ s0 l0, (s0, l0) ∈ r.lists ↔ ((s0, l0) ∈ p.lists ∧ s0 ≠ s) ∨ (s0 = s ∧ l0 = m ∧ m ≠ []))
    (hnd : (keys r.lists).Nodup) (hc : r.cntSenders = (r.lists.length : Int)) : ListsOk U r := by
  refine ⟨?_, hnd, ?_, ?_, hc⟩
  · intro s0 l0 hm
    rcases (hchar s0 l0).mp hm with ⟨h, -⟩ | ⟨rfl, rfl, -⟩
    · exact hp.wfLists s0 l0 h
    · exact hwf
  · intro s0 l0 hm
    rcases (hchar s0 l0).mp hm with ⟨h, -⟩ | ⟨rfl, rfl, -⟩
    · exact hp.nonceSorted s0 l0 h
    · exact hso
  · intro s0 l0 hm
    rcases (hchar s0 l0).mp hm with ⟨h, -⟩ | ⟨rfl, rfl, h⟩
    · exact hp.nonEmpty s0 l0 h
    · exact h

/-- with `hchar` as `lists_set` yields it, the transactions listed afterwards: the other senders' and those of `m` -/
theorem listed_iff_of_char {U : Bytes → Tx} {p r : Pool} {s : Bytes} {m : List Tx} (h : Inv U p)
    (hchar : ∀ s0 l0, (s0, l0) ∈ r.lists ↔ ((s0, l0) ∈ p.lists ∧ s0 ≠ s) ∨ (s0 = s ∧ l0 = m ∧ m ≠ [])) (x : Tx) :
    (∃ s0 l0, (s0, l0) ∈ r.lists ∧ x ∈ l0) ↔ ((x.hash, x) ∈ p.byHash ∧ x.sender ≠ s) ∨ x ∈ m := by
  constructor
  · rintro ⟨s0, l0, hm, hx⟩
    rcases (hchar s0 l0).mp hm with ⟨hm', hne⟩ | ⟨-, rfl, -⟩
    · exact Or.inl ⟨(h.same x).mpr ⟨s0, l0, hm', hx⟩, (h.wfLists s0 l0 hm' x hx).2 ▸ hne⟩
    · exact Or.inr hx
  · rintro (⟨hx, hne⟩ | hx)
    · obtain ⟨s0, l0, hm, hx0⟩ := (h.same x).mp hx
      exact ⟨s0, l0, (hchar s0 l0).mpr (Or.inl ⟨hm, (h.wfLists s0 l0 hm x hx0).2 ▸ hne⟩), hx0⟩
    · exact ⟨s, m, (hchar s m).mpr (Or.inr ⟨rfl, rfl, List.ne_nil_of_mem hx⟩), hx⟩

/-- sender `s`'s list is set to `m` (created if absent), then the sender is dropped if `m` is empty -/
theorem lists_set {U : Bytes → Tx} {p q0 : Pool} {s : Bytes} {m : List Tx} (hp : ListsOk U p)
    (hwf : ∀ t ∈ m, WfTx U t ∧ t.sender = s) (hso : m.Pairwise (fun a b => a.nonce ≤ b.nonce))
    (e1 : q0.lists = aset s m p.lists) (e2 : q0.cntSenders = ((aset s m p.lists).length : Int)) :
    ListsOk U (removeSenderIfEmpty q0 s) ∧
    ∀ s0 l0, (s0, l0) ∈ (removeSenderIfEmpty q0 s).lists ↔
      ((s0, l0) ∈ p.lists ∧ s0 ≠ s) ∨ (s0 = s ∧ l0 = m ∧ m ≠ []) := by
  have hlk : alookup s q0.lists = some m := by rw [e1]; exact alookup_aset_self ..
  have hndA : (keys (aset s m p.lists)).Nodup := nodup_keys_aset _ m hp.sendersNodup
  cases m with
  | nil =>
    have hr : removeSenderIfEmpty q0 s =
        { q0 with lists := aerase s q0.lists, cntSenders := q0.cntSenders - 1 } := by
      unfold removeSenderIfEmpty; rw [hlk]
    have hchar : ∀ s0 l0, (s0, l0) ∈ (removeSenderIfEmpty q0 s).lists ↔
        ((s0, l0) ∈ p.lists ∧ s0 ≠ s) ∨ (s0 = s ∧ l0 = [] ∧ ([] : List Tx) ≠ []) := by
      intro s0 l0
      rw [hr]
      simp only [e1, mem_aerase, mem_aset hp.sendersNodup]
      constructor
      · rintro ⟨⟨h, hn⟩ | ⟨h, -⟩, hne⟩
        · exact Or.inl ⟨h, hn⟩
        · exact absurd h hne
      · rintro (⟨h, hn⟩ | ⟨-, -, h⟩)
        · exact ⟨Or.inl ⟨h, hn⟩, hn⟩
        · exact absurd rfl h
    refine ⟨listsOk_of_char hp hwf hso hchar ?_ ?_, hchar⟩
    · rw [hr]; simp only [e1]; exact nodup_keys_aerase _ hndA
    · rw [hr]
      simp only [e1]
      have := length_aerase hndA (alookup_aset_self s ([] : List Tx) p.lists)
      omega
  | cons x xs =>
    have hr : removeSenderIfEmpty q0 s = q0 := removeSenderIfEmpty_of_nonempty hlk (by simp)
    have hchar : ∀ s0 l0, (s0, l0) ∈ (removeSenderIfEmpty q0 s).lists ↔
        ((s0, l0) ∈ p.lists ∧ s0 ≠ s) ∨ (s0 = s ∧ l0 = x :: xs ∧ x :: xs ≠ []) := by
      intro s0 l0
      rw [hr, e1, mem_aset hp.sendersNodup]
      simp
    refine ⟨listsOk_of_char hp hwf hso hchar ?_ ?_, hchar⟩
    · rw [hr, e1]; exact hndA
    · rw [hr, e1]; exact e2

/-! ### the general shrinking step

  Sender `s`'s list `l` is replaced by a sub-list `l'` (the sender is dropped when `l'` is empty) and the hashes
  `hs0 ++ hs` are removed from the hash index (`hs0` before, `hs` after).  If the removed hashes cover the removed
  transactions (`H1`) and concern nothing else (`H2`), the invariant is kept. -/

theorem shrink_lists {U : Bytes → Tx} {p q0 : Pool} {s : Bytes} {l l' : List Tx} (h : ListsOk U p)
    (hl : alookup s p.lists = some l) (hsub : l'.Sublist l)
    (e1 : q0.lists = aset s l' p.lists) (e2 : q0.cntSenders = p.cntSenders) (hs : List Bytes) :
    ListsOk U (removeBulk (removeSenderIfEmpty q0 s) hs) ∧
    ∀ s0 l0, (s0, l0) ∈ (removeBulk (removeSenderIfEmpty q0 s) hs).lists ↔
      ((s0, l0) ∈ p.lists ∧ s0 ≠ s) ∨ (s0 = s ∧ l0 = l' ∧ l' ≠ []) := by
  have hml : (s, l) ∈ p.lists := mem_of_alookup hl
  have hwf : ∀ t ∈ l', WfTx U t ∧ t.sender = s := fun t ht => h.wfLists s l hml t (hsub.subset ht)
  have hso : l'.Pairwise (fun a b => a.nonce ≤ b.nonce) := List.Pairwise.sublist hsub (h.nonceSorted s l hml)
  have e2' : q0.cntSenders = ((aset s l' p.lists).length : Int) := by
    rw [e2, length_aset_of_present l' (mem_keys_of_mem hml)]; exact h.cntSenders
  obtain ⟨hok, hchar⟩ := lists_set h hwf hso e1 e2'
  refine ⟨hok.of_eq (removeBulk_lists ..) (removeBulk_cntSenders ..), ?_⟩
  rw [removeBulk_lists]
  exact hchar

theorem Inv.shrink {U : Bytes → Tx} {p q0 : Pool} {s : Bytes} {l l' : List Tx} (h : Inv U p)
    (hl : alookup s p.lists = some l) (hsub : l'.Sublist l) (hs0 hs : List Bytes)
    (H1 : ∀ t ∈ l, t ∉ l' → t.hash ∈ hs0 ∨ t.hash ∈ hs)
    (H2 : ∀ k, k ∈ hs0 ∨ k ∈ hs → (∃ x ∈ l, x ∉ l' ∧ x.hash = k) ∨ ∀ t, (k, t) ∉ p.byHash)
    (e1 : q0.lists = aset s l' p.lists) (e2 : q0.cntSenders = p.cntSenders)
    (hH : HashOk U q0) (hB : ∀ k t, (k, t) ∈ q0.byHash ↔ (k, t) ∈ p.byHash ∧ k ∉ hs0) :
    Inv U (removeBulk (removeSenderIfEmpty q0 s) hs) := by
  have hml : (s, l) ∈ p.lists := mem_of_alookup hl
  obtain ⟨hok, hchar⟩ := shrink_lists (listsOk_of_inv h) hl hsub e1 e2 hs
  have hH' : HashOk U (removeBulk (removeSenderIfEmpty q0 s) hs) :=
    (hH.of_eq (q := removeSenderIfEmpty q0 s) (by simp) (by simp) (by simp)).removeBulk hs
  refine inv_of_parts hH' hok ?_
  intro x
  rw [mem_removeBulk, removeSenderIfEmpty_byHash, hB, listed_iff_of_char h hchar]
  constructor
  · rintro ⟨⟨hx, hn0⟩, hn⟩
    by_cases hxl : x ∈ l'
    · exact Or.inr hxl
    · refine Or.inl ⟨hx, fun hxs => ?_⟩
      obtain ⟨-, -, l1, hl1, hx1⟩ := hashed_listed h (alookup_of_mem h.keysNodup hx)
      obtain rfl : l1 = l := Option.some.inj (hl1.symm.trans (hxs ▸ hl))
      exact (H1 x hx1 hxl).elim hn0 hn
  · intro hr
    have hxp : (x.hash, x) ∈ p.byHash ∧ (x ∈ l → x ∈ l') := by
      rcases hr with ⟨hx, hne⟩ | hx
      · exact ⟨hx, fun hxl => absurd (h.wfLists s l hml x hxl).2 hne⟩
      · exact ⟨(h.same x).mpr ⟨s, l, hml, hsub.subset hx⟩, fun _ => hx⟩
    have hnot : ¬ (x.hash ∈ hs0 ∨ x.hash ∈ hs) := by
      intro hin
      rcases H2 x.hash hin with ⟨y, hy, hyn, hyh⟩ | hno
      · cases wf_inj (h.wfLists s l hml y hy).1 (h.wfHash _ _ hxp.1).2 hyh
        exact hyn (hxp.2 hy)
      · exact hno x hxp.1
    exact ⟨⟨hxp.1, fun hh => hnot (Or.inl hh)⟩, fun hh => hnot (Or.inr hh)⟩

/-- the special case used by trimming and by eviction: `l` splits into the kept part `l'` and the removed part `rm`,
    which are disjoint, and exactly the hashes of `rm` are removed -/
theorem Inv.shrink_split {U : Bytes → Tx} {p q0 : Pool} {s : Bytes} {l l' rm : List Tx} (h : Inv U p)
    (hl : alookup s p.lists = some l) (hsub : l'.Sublist l)
    (hmem : ∀ x ∈ l, x ∈ l' ∨ x ∈ rm) (hrm : ∀ x ∈ rm, x ∈ l ∧ x ∉ l')
    (e1 : q0.lists = aset s l' p.lists) (e2 : q0.cntSenders = p.cntSenders)
    (e3 : q0.byHash = p.byHash) (e4 : q0.cntTx = p.cntTx) (e5 : q0.numBytes = p.numBytes) :
    Inv U (removeBulk (removeSenderIfEmpty q0 s) (rm.map (·.hash))) := by
  refine Inv.shrink h hl hsub [] (rm.map (·.hash)) ?_ ?_ e1 e2 ((hashOk_of_inv h).of_eq e3 e4 e5) ?_
  · intro t ht hn
    rcases hmem t ht with h' | h'
    · exact absurd h' hn
    · exact Or.inr (List.mem_map.mpr ⟨t, h', rfl⟩)
  · intro k hk
    rcases hk with hk | hk
    · simp at hk
    · obtain ⟨x, hx, rfl⟩ := List.mem_map.mp hk
      exact Or.inl ⟨x, (hrm x hx).1, (hrm x hx).2, rfl⟩
  · intro k t
    rw [e3]
    simp

end C5

open C5
open Sections (hashAdd fetchList)

/-! ### the operations -/

theorem Inv.init (U : Bytes → Tx) (cfg : Config) : Inv U (Pool.init cfg) := by
  refine ⟨?_, ?_, ?_, ?_, ?_, ?_, ?_, ?_, ?_, ?_⟩ <;> simp [Pool.init, sumSizes]

theorem Inv.clear (U : Bytes → Tx) (p : Pool) : Inv U (clear Variant.current p) := by
  refine ⟨?_, ?_, ?_, ?_, ?_, ?_, ?_, ?_, ?_, ?_⟩ <;> simp [SV.TxCache.clear, Variant.current, sumSizes]

theorem Inv.removeTxByHash (U : Bytes → Tx) (p : Pool) (hsh : Bytes) (h : Inv U p) :
    Inv U (removeTxByHash p hsh).1 := by
  cases hm : alookup hsh p.byHash with
  | none => rw [removeTxByHash_none hm]; exact h
  | some t =>
    obtain ⟨hh, hw, l, hl, htl⟩ := hashed_listed h hm
    rw [removeTxByHash_some hm hl]
    dsimp only
    obtain ⟨hpre, hle⟩ := dropLowerOrEqual_suffix t.nonce l
    generalize l.take (l.length - (dropLowerOrEqual t.nonce l).length) = pre at hpre hle ⊢
    have hgt := dropLowerOrEqual_gt (n := t.nonce) (h.nonceSorted _ _ (mem_of_alookup hl))
    have hsub := dropLowerOrEqual_sublist t.nonce l
    have hnotkept : ∀ x ∈ l, x.nonce ≤ t.nonce → x ∉ dropLowerOrEqual t.nonce l :=
      fun x _ hx hk => Nat.not_lt.mpr hx (hgt x hk)
    refine Inv.shrink
      (q0 := { byHashRemove p hsh with lists := aset t.sender (dropLowerOrEqual t.nonce l) p.lists })
      h hl hsub [hsh] (pre.map (·.hash)) ?_ ?_ rfl (by simp)
      (((hashOk_of_inv h).byHashRemove hsh).of_eq rfl rfl rfl) ?_
    · intro x hx hn
      rw [hpre] at hx
      rcases List.mem_append.mp hx with hx | hx
      · exact Or.inr (List.mem_map.mpr ⟨x, hx, rfl⟩)
      · exact absurd hx hn
    · intro k hk
      rcases hk with hk | hk
      · simp only [List.mem_singleton] at hk
        subst hk
        exact Or.inl ⟨t, htl, hnotkept t htl (Nat.le_refl _), hh⟩
      · obtain ⟨x, hx, rfl⟩ := List.mem_map.mp hk
        have hxl : x ∈ l := by rw [hpre]; exact List.mem_append_left _ hx
        exact Or.inl ⟨x, hxl, hnotkept x hxl (hle x hx), rfl⟩
    · intro k x
      show (k, x) ∈ (byHashRemove p hsh).byHash ↔ _
      rw [mem_byHashRemove]
      simp

/-- (`h` is not used: removal leaves sublists, `lists_removeTxByHash`.) -/
theorem ListsSorted.removeTxByHash (U : Bytes → Tx) (p : Pool) (hsh : Bytes) (h : Inv U p) (hso : ListsSorted p) :
    ListsSorted (removeTxByHash p hsh).1 := by
  have _ := h
  exact hso.of_sub (lists_removeTxByHash p hsh)

/-! ### insertion -/

namespace C5

theorem hashOk_append {U : Bytes → Tx} {p q : Pool} {t : Tx} (hp : HashOk U p) (ht : WfTx U t)
    (hb : alookup t.hash p.byHash = none) (e3 : q.byHash = p.byHash ++ [(t.hash, t)])
    (e4 : q.cntTx = p.cntTx + 1) (e5 : q.numBytes = p.numBytes + t.size) : HashOk U q := by
  refine ⟨?_, ?_, ?_, ?_⟩
  · intro k x hx
    rw [e3] at hx
    rcases List.mem_append.mp hx with hx | hx
    · exact hp.wfHash k x hx
    · simp only [List.mem_singleton, Prod.mk.injEq] at hx
      obtain ⟨rfl, rfl⟩ := hx
      exact ⟨rfl, ht⟩
  · rw [e3]
    simp only [keys, List.map_append, List.map_cons, List.map_nil]
    refine List.nodup_append.mpr ⟨hp.keysNodup, by simp, ?_⟩
    intro a ha b hb'
    simp only [List.mem_singleton] at hb'
    subst hb'
    intro e
    subst e
    exact (alookup_none_iff.mp hb) ha
  · rw [e3, e4, hp.cntTx]; simp
  · rw [e3, e5, hp.numBytes, sumSizes_append]; simp [sumSizes]

/-! A list `l` "fetched" for sender `s` is the registered one, or `[]` when `s` is not registered. -/

theorem mem_of_fetched {L : List (Bytes × List Tx)} {s : Bytes} {l : List Tx}
    (hl : alookup s L = some l ∨ (alookup s L = none ∧ l = [])) {x : Tx} (hx : x ∈ l) : (s, l) ∈ L := by
  rcases hl with hl | ⟨-, rfl⟩
  · exact mem_of_alookup hl
  · cases hx

theorem sorted_of_fetched {p : Pool} (hso : ListsSorted p) {s : Bytes} {l : List Tx}
    (hl : alookup s p.lists = some l ∨ (alookup s p.lists = none ∧ l = [])) : ListSorted l := by
  rcases hl with hl | ⟨-, rfl⟩
  · exact hso _ _ (mem_of_alookup hl)
  · exact List.Pairwise.nil

theorem fresh_no_dup {U : Bytes → Tx} {p : Pool} {t : Tx} {l : List Tx} (h : Inv U p) (ht : WfTx U t)
    (hb : alookup t.hash p.byHash = none)
    (hl : alookup t.sender p.lists = some l ∨ (alookup t.sender p.lists = none ∧ l = [])) :
    ¬ ∃ c ∈ l, c.nonce = t.nonce ∧ c.gasPrice = t.gasPrice ∧ c.hash = t.hash := by
  rintro ⟨c, hc, -, -, hch⟩
  have hml := mem_of_fetched hl hc
  cases wf_inj (h.wfLists _ _ hml c hc).1 ht hch
  exact not_mem_of_alookup_none hb t ((h.same t).mpr ⟨_, l, hml, hc⟩)

theorem fresh_insertTx {U : Bytes → Tx} {p : Pool} {t : Tx} {l : List Tx} (h : Inv U p) (hso : ListsSorted p)
    (ht : WfTx U t) (hb : alookup t.hash p.byHash = none)
    (hl : alookup t.sender p.lists = some l ∨ (alookup t.sender p.lists = none ∧ l = [])) :
    insertTx t l = some (orderedInsert t l) := by
  rw [insertTx_eq_orderedInsert t l (sorted_of_fetched hso hl), if_neg (fresh_no_dup h ht hb hl)]

/-- a transaction whose hash is not indexed is inserted into its sender's list (created if absent):
    the invariant holds for the pool BEFORE trimming -/
theorem insertFresh {U : Bytes → Tx} {p pI : Pool} {t : Tx} {l : List Tx} (h : Inv U p) (hso : ListsSorted p)
    (ht : WfTx U t) (hb : alookup t.hash p.byHash = none)
    (hl : alookup t.sender p.lists = some l ∨ (alookup t.sender p.lists = none ∧ l = []))
    (e1 : pI.lists = aset t.sender (orderedInsert t l) p.lists)
    (e2 : pI.cntSenders = ((aset t.sender (orderedInsert t l) p.lists).length : Int))
    (e3 : pI.byHash = p.byHash ++ [(t.hash, t)]) (e4 : pI.cntTx = p.cntTx + 1)
    (e5 : pI.numBytes = p.numBytes + t.size) :
    ListSorted (orderedInsert t l) ∧ Inv U pI := by
  have hmsorted : ListSorted (orderedInsert t l) := orderedInsert_sorted t l (sorted_of_fetched hso hl) (fresh_no_dup h ht hb hl)
  have hmne : orderedInsert t l ≠ [] :=
    List.ne_nil_of_mem ((mem_orderedInsert t t l).mpr (Or.inl rfl))
  have hwf : ∀ x ∈ orderedInsert t l, WfTx U x ∧ x.sender = t.sender := by
    intro x hx
    rcases (mem_orderedInsert t x l).mp hx with rfl | hx
    · exact ⟨ht, rfl⟩
    · exact h.wfLists _ _ (mem_of_fetched hl hx) x hx
  obtain ⟨hok, hchar⟩ := lists_set (listsOk_of_inv h) hwf hmsorted.nonceSorted e1 e2
  have hlk : alookup t.sender pI.lists = some (orderedInsert t l) := by rw [e1]; exact alookup_aset_self ..
  rw [removeSenderIfEmpty_of_nonempty hlk hmne] at hok hchar
  refine ⟨hmsorted, inv_of_parts (hashOk_append (hashOk_of_inv h) ht hb e3 e4 e5) hok fun x => ?_⟩
  rw [e3, listed_iff_of_char h hchar, mem_orderedInsert]
  constructor
  · intro hx
    rcases List.mem_append.mp hx with hx | hx
    · by_cases hxs : x.sender = t.sender
      · obtain ⟨-, -, l1, hl1, hx1⟩ := hashed_listed h (alookup_of_mem h.keysNodup hx)
        rcases hl with hl | ⟨hl, -⟩
        · obtain rfl : l1 = l := Option.some.inj (hl1.symm.trans (hxs ▸ hl))
          exact Or.inr (Or.inr hx1)
        · rw [hxs, hl] at hl1
          cases hl1
      · exact Or.inl ⟨hx, hxs⟩
    · simp only [List.mem_singleton, Prod.mk.injEq] at hx
      exact Or.inr (Or.inl hx.2)
  · rintro (⟨hx, -⟩ | rfl | hx)
    · exact List.mem_append_left _ hx
    · exact List.mem_append_right _ (List.mem_singleton.mpr rfl)
    · exact List.mem_append_left _ ((h.same x).mpr ⟨_, l, mem_of_fetched hl hx, hx⟩)

/-- …and after trimming: of the new list the front `m` is kept, the hashes of the rest `d` are removed -/
theorem fresh_trim {U : Bytes → Tx} {p : Pool} {t : Tx} {l m d : List Tx} (h : Inv U p) (hso : ListsSorted p)
    (ht : WfTx U t) (hb : alookup t.hash p.byHash = none)
    (hl : alookup t.sender p.lists = some l ∨ (alookup t.sender p.lists = none ∧ l = []))
    (happ : m ++ d = orderedInsert t l) (q0 : Pool) (e1 : q0.lists = aset t.sender m p.lists)
    (e2 : q0.cntSenders = ((aset t.sender (orderedInsert t l) p.lists).length : Int))
    (e3 : q0.byHash = p.byHash ++ [(t.hash, t)]) (e4 : q0.cntTx = p.cntTx + 1)
    (e5 : q0.numBytes = p.numBytes + t.size) :
    Inv U (removeBulk (removeSenderIfEmpty q0 t.sender) (d.map (·.hash))) := by
  let pI : Pool :=
    { cfg := p.cfg, lists := aset t.sender (orderedInsert t l) p.lists, byHash := p.byHash ++ [(t.hash, t)],
      cntTx := p.cntTx + 1, numBytes := p.numBytes + t.size,
      cntSenders := ((aset t.sender (orderedInsert t l) p.lists).length : Int) }
  obtain ⟨hms, hI⟩ := insertFresh (pI := pI) h hso ht hb hl rfl rfl rfl rfl rfl
  have hlk : alookup t.sender pI.lists = some (orderedInsert t l) := alookup_aset_self ..
  have hsub : m.Sublist (orderedInsert t l) := by rw [← happ]; exact List.sublist_append_left _ _
  have hnd : (m ++ d).Nodup := by rw [happ]; exact hms.nodup
  have e1' : q0.lists = aset t.sender m pI.lists := by
    rw [e1]; exact (aset_aset _ _ _ _).symm
  refine Inv.shrink_split hI hlk hsub ?_ ?_ e1' e2 e3 e4 e5
  · intro x hx
    rw [← happ] at hx
    exact List.mem_append.mp hx
  · intro x hx
    exact ⟨by rw [← happ]; exact List.mem_append_right _ hx, fun hx' => (List.nodup_append.mp hnd).2.2 x hx' x hx rfl⟩

/-- `getOrAddListForSender` hands out the sender's list `l` (absent: `[]`, registered on the spot).  Writing a list for
    `s` into the pool it returns is writing it into `p`, and the sender count it returns is the length of the result. -/
theorem fetchList_spec {U : Bytes → Tx} {p : Pool} (hL : ListsOk U p) (s : Bytes) :
    ∃ l, (alookup s p.lists = some l ∨ (alookup s p.lists = none ∧ l = [])) ∧ (fetchList p s).2 = l ∧
      (l ≠ [] → (fetchList p s).1 = p) ∧ (fetchList p s).1.cfg = p.cfg ∧
      ∀ m, aset s m (fetchList p s).1.lists = aset s m p.lists ∧
        (fetchList p s).1.cntSenders = ((aset s m p.lists).length : Int) := by
  unfold Sections.fetchList
  cases hlk : alookup s p.lists with
  | some l =>
    refine ⟨l, Or.inl rfl, rfl, fun _ => rfl, rfl, fun m => ⟨rfl, ?_⟩⟩
    rw [length_aset_of_present m (mem_keys_of_mem (mem_of_alookup hlk))]
    exact hL.cntSenders
  | none =>
    refine ⟨[], Or.inr ⟨rfl, rfl⟩, rfl, fun h => absurd rfl h, rfl, fun m => ⟨?_, ?_⟩⟩
    · show aset s m (p.lists ++ [(s, [])]) = aset s m p.lists
      rw [← aset_of_absent [] hlk, aset_aset]
    · show p.cntSenders + 1 = _
      rw [aset_of_absent m hlk, List.length_append, hL.cntSenders]
      rfl

end C5

/-- a known hash is a known transaction: its sender's list refuses it, and nothing changes -/
theorem addTxCore_known {U : Bytes → Tx} {p : Pool} {t x : Tx} (v : Variant) (h : Inv U p) (hso : ListsSorted p)
    (ht : WfTx U t) (hb : alookup t.hash p.byHash = some x) : addTxCore v p t = (p, false) := by
  obtain ⟨hh, hw, l, hl, hxl⟩ := hashed_listed h hb
  cases wf_inj hw ht hh
  have hins : insertTx t l = none := by
    rw [insertTx_eq_orderedInsert t l (hso _ _ (mem_of_alookup hl)), if_pos ⟨t, hxl, rfl, rfl, rfl⟩]
  rw [addTxCore_eq, hashAdd_some hb, fetchList_some hl, listAdd_none hins]

theorem Inv.addTxCore (U : Bytes → Tx) (p : Pool) (t : Tx) (h : Inv U p) (hso : ListsSorted p) (ht : WfTx U t) :
    Inv U (addTxCore Variant.current p t).1 := by
  cases hb : alookup t.hash p.byHash with
  | some x => rw [addTxCore_known _ h hso ht hb]; exact h
  | none =>
    rw [addTxCore_eq, hashAdd_none hb]
    obtain ⟨l, hl, rfl, -, hcfg, hset⟩ := fetchList_spec ((listsOk_of_inv h).of_eq
      (q := { p with byHash := p.byHash ++ [(t.hash, t)], cntTx := p.cntTx + 1, numBytes := p.numBytes + t.size })
      rfl rfl) t.sender
    obtain ⟨e3, e4, e5⟩ := fetchList_hashPart
      { p with byHash := p.byHash ++ [(t.hash, t)], cntTx := p.cntTx + 1, numBytes := p.numBytes + t.size } t.sender
    rw [listAdd_some (fresh_insertTx h hso ht hb hl), setTrimmed_current, hcfg]
    dsimp only   -- `(_, true).1` has to go first, or `exact` unfolds `removeBulk` to find it
    exact fresh_trim h hso ht hb hl (trim1_append p.cfg _) _ (hset _).1 (hset _).2 e3 e4 e5

/-- insertion without the eviction step.
    NOTE the extra hypothesis `hso` (strict sortedness of the sender lists, the `sorted` half of `ListsInv`): `Inv` alone
    allows a list to hold the same transaction twice, and then trimming removes its hash while a copy stays listed
    (see `addTx_noEvict_needs_sorted` below).  Every reachable pool satisfies `ListsSorted` (`EvictInv.lean`). -/
theorem Inv.addTx_noEvict (U : Bytes → Tx) (p : Pool) (t : Tx) (h : Inv U p) (hso : ListsSorted p) (ht : WfTx U t)
    (he : p.cfg.evictionEnabled = false) : Inv U (addTx Variant.current p t).1 := by
  rw [addTx_eq_core, he]
  exact Inv.addTxCore U p t h hso ht

/-- (`h` and `ht` are not used: `ListsSorted.addTxCore`.) -/
theorem ListsSorted.addTx_noEvict (U : Bytes → Tx) (p : Pool) (t : Tx) (h : Inv U p) (hso : ListsSorted p)
    (ht : WfTx U t) (he : p.cfg.evictionEnabled = false) : ListsSorted (addTx Variant.current p t).1 := by
  have _ := h; have _ := ht
  rw [addTx_eq_core, he]
  exact hso.addTxCore _ p t

/-! ### what the invariant says about a pool (C05's clauses); `Inv` alone is not inductive -/

theorem Inv.empty_reports_zero (U : Bytes → Tx) (p : Pool) (h : Inv U p) (he : p.byHash = []) :
    p.lists = [] ∧ p.cntTx = 0 ∧ p.numBytes = 0 ∧ p.cntSenders = 0 := by
  have hl : p.lists = [] := by
    cases hp : p.lists with
    | nil => rfl
    | cons a r =>
      obtain ⟨s, l⟩ := a
      have hm : (s, l) ∈ p.lists := by rw [hp]; exact List.mem_cons_self ..
      cases l with
      | nil => exact absurd rfl (h.nonEmpty s [] hm)
      | cons t ts =>
        have := (h.same t).mpr ⟨s, t :: ts, hm, List.mem_cons_self ..⟩
        rw [he] at this
        simp at this
  refine ⟨hl, ?_, ?_, ?_⟩
  · rw [h.cntTx, he]; rfl
  · rw [h.numBytes, he]; rfl
  · rw [h.cntSenders, hl]; rfl

/-- no transaction is reachable by hash but by no list (no "ghost"); the converse is `Inv.listed_is_hashed` -/
theorem Inv.no_ghost (U : Bytes → Tx) (p : Pool) (h : Inv U p) (hsh : Bytes) (t : Tx)
    (hm : alookup hsh p.byHash = some t) : ∃ l, alookup t.sender p.lists = some l ∧ t ∈ l :=
  (hashed_listed h hm).2.2

theorem Inv.listed_is_hashed (U : Bytes → Tx) (p : Pool) (h : Inv U p) (s : Bytes) (l : List Tx) (t : Tx)
    (hl : alookup s p.lists = some l) (ht : t ∈ l) : alookup t.hash p.byHash = some t :=
  alookup_of_mem h.keysNodup ((h.same t).mpr ⟨s, l, mem_of_alookup hl, ht⟩)

/-- `Inv` alone is NOT preserved by insertion: a list holding the same transaction twice satisfies `Inv`; inserting a
    lower nonce makes `trim1` drop the last copy and remove its hash, while the other copy stays listed. -/
theorem addTx_noEvict_needs_sorted : ∃ (U : Bytes → Tx) (p : Pool) (t : Tx),
    Inv U p ∧ WfTx U t ∧ p.cfg.evictionEnabled = false ∧ ¬ Inv U (addTx Variant.current p t).1 := by
  let t1 : Tx := ⟨[1], [0xa0], 5, 1, 1, 10, 0, 0, []⟩
  let t0 : Tx := ⟨[2], [0xa0], 1, 1, 1, 10, 0, 0, []⟩
  let cfg : Config := ⟨false, 1000, 1000, 100, 2, 1⟩
  let p : Pool := ⟨cfg, [([0xa0], [t1, t1])], [([1], t1)], 1, 10, 1⟩
  refine ⟨fun h => if h = [2] then t0 else t1, p, t0, ?_, by unfold WfTx; decide, rfl, ?_⟩
  · have hL : ∀ {s l}, (s, l) ∈ p.lists → s = [0xa0] ∧ l = [t1, t1] := fun hm =>
      Prod.mk.inj (List.mem_singleton.mp hm)
    refine ⟨fun s l hm => ?_, fun h t hm => ?_, by decide, by decide, fun s l hm => ?_, fun s l hm => ?_, fun t => ?_,
      by decide, by decide, by decide⟩
    · obtain ⟨rfl, rfl⟩ := hL hm
      unfold WfTx
      decide
    · obtain ⟨rfl, rfl⟩ : h = [1] ∧ t = t1 := Prod.mk.inj (List.mem_singleton.mp hm)
      unfold WfTx
      decide
    · obtain ⟨rfl, rfl⟩ := hL hm
      decide
    · obtain ⟨rfl, rfl⟩ := hL hm
      decide
    · constructor
      · intro hm
        obtain ⟨-, rfl⟩ : t.hash = [1] ∧ t = t1 := Prod.mk.inj (List.mem_singleton.mp hm)
        exact ⟨[0xa0], [t1, t1], List.mem_singleton.mpr rfl, List.mem_cons_self ..⟩
      · rintro ⟨s, l, hm, ht⟩
        obtain ⟨rfl, rfl⟩ := hL hm
        obtain rfl : t = t1 := by simpa only [List.mem_cons, List.not_mem_nil, or_false, or_self] using ht
        exact List.mem_singleton.mpr rfl
  · intro hI
    have h1 := (hI.same t1).mpr ⟨[0xa0], [t0, t1], by decide, by decide⟩
    revert h1
    decide

end SV.TxCache
