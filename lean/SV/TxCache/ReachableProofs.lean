/-
  SV.TxCache.ReachableProofs — the end-to-end composition for C01–C04: the hypotheses under which the selection
  theorems (`SelProofs`, `SelOrderProofs`, `GreedySpec`) are stated — single-sender nonce-sorted bunches, different
  senders in different bunches, no hash twice — are met by the sender lists of EVERY pool reachable from the empty
  pool by any history of AddTx / RemoveTxByHash / Clear, so their conclusions hold for
  `select Variant.current (ops.foldl applyOp (Pool.init cfg)) s q`.  Second part: with eviction disabled the sender lists
  of a reachable pool are those of a pure reference machine (`specLists`) that never mentions `addTx`/`removeTxByHash`.
-/
import SV.TxCache.SelProofs
import SV.TxCache.SelOrderProofs
import SV.TxCache.GreedySpec
import SV.TxCache.EvictPost
namespace SV.TxCache
open C5 (wf_inj)

theorem cfg_applyOp (p : Pool) (op : Op) : (applyOp p op).cfg = p.cfg := by
  -- `rw [applyOp]`, not `exact`: unifying `applyOp p (.add t)` with `(addTx _ p t).1` unfolds `addTx` first
  cases op with
  | add t => rw [applyOp, cfg_addTx]
  | rm h => rw [applyOp, cfg_removeTxByHash]
  | clear => rfl

/-! ### the bunches handed to the selection -/

/-- the bunches `select` takes from a pool: the sender lists, in map order -/
def bunchesOf (p : Pool) : List (List Tx) := p.lists.map (·.2)

theorem select_eq_bunches (v : Variant) (p : Pool) (s : Session) (q : SelParams) :
    select v p s q = selectFromBunches v s q (bunchesOf p) := rfl

theorem mem_bunchesOf {p : Pool} {b : List Tx} (h : b ∈ bunchesOf p) : ∃ s, (s, b) ∈ p.lists := by
  obtain ⟨⟨s, l⟩, hm, rfl⟩ := List.mem_map.mp h
  exact ⟨s, hm⟩

theorem mem_flatten_bunchesOf {p : Pool} {t : Tx} : t ∈ (bunchesOf p).flatten ↔ ∃ s l, (s, l) ∈ p.lists ∧ t ∈ l := by
  constructor
  · intro h
    obtain ⟨b, hb, ht⟩ := List.mem_flatten.mp h
    obtain ⟨s, hs⟩ := mem_bunchesOf hb
    exact ⟨s, b, hs, ht⟩
  · rintro ⟨s, l, hm, ht⟩
    exact List.mem_flatten.mpr ⟨l, List.mem_map.mpr ⟨(s, l), hm, rfl⟩, ht⟩

theorem pairwise_snd_of_keys_nodup {L : List (Bytes × List Tx)} (hnd : (L.map (·.1)).Nodup)
    (R : List Tx → List Tx → Prop)
    (hR : ∀ s l s' l', (s, l) ∈ L → (s', l') ∈ L → s ≠ s' → R l l') : (L.map (·.2)).Pairwise R := by
  induction L with
  | nil => exact List.Pairwise.nil
  | cons a r ih =>
    obtain ⟨s, l⟩ := a
    simp only [List.map_cons, List.nodup_cons] at hnd
    rw [List.map_cons, List.pairwise_cons]
    refine ⟨?_, ih hnd.2 (fun s l s' l' h h' => hR s l s' l' (List.mem_cons_of_mem _ h) (List.mem_cons_of_mem _ h'))⟩
    intro l' hl'
    obtain ⟨⟨s', l''⟩, hm, rfl⟩ := List.mem_map.mp hl'
    refine hR s l s' l'' (List.mem_cons_self ..) (List.mem_cons_of_mem _ hm) ?_
    intro e
    exact hnd.1 (List.mem_map.mpr ⟨(s', l''), hm, e.symm⟩)

/-- the invariant and strict sortedness give everything the selection theorems ask of the bunches -/
theorem bunches_ok_of_inv (U : Bytes → Tx) (p : Pool) (h : Inv U p) (hso : ListsSorted p) :
    (∀ b ∈ bunchesOf p, BunchOk b) ∧ BunchesDistinct (bunchesOf p) ∧
    ((bunchesOf p).flatten.map (·.hash)).Nodup ∧ (bunchesOf p).flatten.Nodup := by
  have hhash : (bunchesOf p).flatten.Pairwise (fun a b => a.hash ≠ b.hash) := by
    rw [List.pairwise_flatten]
    constructor
    · intro b hb
      obtain ⟨s, hs⟩ := mem_bunchesOf hb
      refine List.Pairwise.imp_of_mem ?_ (hso s b hs)
      intro x y hx hy hlt e
      exact listLt_ne x y hlt (wf_inj (h.wfLists s b hs x hx).1 (h.wfLists s b hs y hy).1 e)
    · refine pairwise_snd_of_keys_nodup h.sendersNodup _ ?_
      intro s l s' l' hm hm' hne x hx y hy e
      have exy := wf_inj (h.wfLists s l hm x hx).1 (h.wfLists s' l' hm' y hy).1 e
      apply hne
      rw [← (h.wfLists s l hm x hx).2, ← (h.wfLists s' l' hm' y hy).2, exy]
  refine ⟨?_, ?_, ?_, ?_⟩
  · intro b hb
    obtain ⟨s, hs⟩ := mem_bunchesOf hb
    refine ⟨?_, h.nonceSorted s b hs⟩
    intro x hx y hy
    rw [(h.wfLists s b hs x hx).2, (h.wfLists s b hs y hy).2]
  · refine pairwise_snd_of_keys_nodup h.sendersNodup _ ?_
    intro s l s' l' hm hm' hne x hx y hy
    rw [(h.wfLists s l hm x hx).2, (h.wfLists s' l' hm' y hy).2]
    exact hne
  · unfold List.Nodup
    rw [List.pairwise_map]
    exact hhash
  · exact hhash.imp (fun hne e => hne (by rw [e]))

/-- the bunches of every reachable pool satisfy the hypotheses of the selection theorems -/
theorem reachable_bunches_ok (U : Bytes → Tx) (cfg : Config) (ops : List Op) (hw : ∀ t, Op.add t ∈ ops → WfTx U t) :
    let bunches := (ops.foldl applyOp (Pool.init cfg)).lists.map (·.2)
    (∀ b ∈ bunches, BunchOk b) ∧ BunchesDistinct bunches ∧
    (bunches.flatten.map (·.hash)).Nodup ∧ bunches.flatten.Nodup :=
  bunches_ok_of_inv U _ (Inv.reachable U cfg ops hw) (ListsSorted.reachable U cfg ops hw)

/-! ### C01, C02, C03 over reachable pools -/

/-- C01 end-to-end: whatever the history, the session and the limits, the nonces selected for a sender are
    `accountNonce, accountNonce+1, …` in result order -/
theorem reachable_nonce_run (U : Bytes → Tx) (cfg : Config) (ops : List Op) (hw : ∀ t, Op.add t ∈ ops → WfTx U t)
    (s : Session) (q : SelParams) (snd : Bytes) :
    ∃ k, noncesOf snd (select Variant.current (ops.foldl applyOp (Pool.init cfg)) s q).1
      = List.range' (s.nonce snd) k := by
  obtain ⟨hb, hd, -, -⟩ := reachable_bunches_ok U cfg ops hw
  exact selectLoop_nonce_run Variant.current (popBest Variant.current) (popBest_pickOk _) s q _ hb hd _ snd

/-- C02 end-to-end: the selection from a reachable pool is duplicate-free, consists of pooled transactions (listed
    under some sender AND reachable by hash), respects `maxNum` and `gasReq` (true sum in ℕ = returned gas), contains no
    badly guarded transaction, and each fee payer's balance covers, in result order, the fee on top of everything the
    earlier results committed to that account -/
theorem reachable_selection_constraints (U : Bytes → Tx) (cfg : Config) (ops : List Op)
    (hw : ∀ t, Op.add t ∈ ops → WfTx U t) (s : Session) (q : SelParams) :
    let p := ops.foldl applyOp (Pool.init cfg)
    let r := select Variant.current p s q
    r.1.Nodup ∧
    (∀ t ∈ r.1, (∃ snd l, (snd, l) ∈ p.lists ∧ t ∈ l) ∧ alookup t.hash p.byHash = some t) ∧
    r.1.length ≤ q.maxNum ∧
    (r.1.map (·.gasLimit)).sum = r.2 ∧ r.2 ≤ q.gasReq ∧
    (∀ t ∈ r.1, s.badGuard t = false) ∧
    (∀ i (hi : i < r.1.length), committed (r.1.take i) (r.1[i]).payer + (r.1[i]).fee ≤ s.balance (r.1[i]).payer) := by
  intro p r
  have hI : Inv U p := Inv.reachable U cfg ops hw
  obtain ⟨-, -, -, hn⟩ := reachable_bunches_ok U cfg ops hw
  have hmem := selectLoop_members Variant.current (popBest Variant.current) (popBest_pickOk _) s q (bunchesOf p) hn
    (bunchesTotal (bunchesOf p) + 1)
  have hgas := selectLoop_gas Variant.current rfl (popBest Variant.current) s q (initHeap (bunchesOf p))
    (bunchesTotal (bunchesOf p) + 1)
  refine ⟨hmem.1, ?_, selectLoop_count _ _ s q _ _, hgas.1, hgas.2, selectLoop_guard _ _ s q _ _,
    selectLoop_balance _ _ s q _ _⟩
  intro t ht
  obtain ⟨snd, l, hm, htl⟩ := mem_flatten_bunchesOf.mp (hmem.2 t ht)
  exact ⟨⟨snd, l, hm, htl⟩, alookup_of_mem hI.keysNodup ((hI.same t).mpr ⟨snd, l, hm, htl⟩)⟩

theorem reachable_selected_listed_under_sender (U : Bytes → Tx) (cfg : Config) (ops : List Op)
    (hw : ∀ t, Op.add t ∈ ops → WfTx U t) (s : Session) (q : SelParams) :
    let p := ops.foldl applyOp (Pool.init cfg)
    ∀ t ∈ (select Variant.current p s q).1, ∃ l, alookup t.sender p.lists = some l ∧ t ∈ l := by
  intro p t ht
  have hI : Inv U p := Inv.reachable U cfg ops hw
  exact Inv.no_ghost U p hI t.hash t ((reachable_selection_constraints U cfg ops hw s q).2.1 t ht).2

/-- C03 end-to-end: on every reachable pool the selection IS the documented greedy procedure, and it depends only on
    the SET of sender lists: any pool whose `lists` are a permutation (other map iteration order, other insertion order
    of the senders) yields the same result -/
theorem reachable_selection_is_greedy (U : Bytes → Tx) (cfg : Config) (ops : List Op)
    (hw : ∀ t, Op.add t ∈ ops → WfTx U t) (s : Session) (q : SelParams) :
    let p := ops.foldl applyOp (Pool.init cfg)
    select Variant.current p s q = greedy Variant.current s q (p.lists.map (·.2)) ∧
    (∀ L' : List (Bytes × List Tx), L'.Perm p.lists →
      selectFromBunches Variant.current s q (L'.map (·.2)) = select Variant.current p s q) ∧
    (∀ p' : Pool, p'.lists.Perm p.lists → select Variant.current p' s q = select Variant.current p s q) := by
  intro p
  obtain ⟨-, -, hn, -⟩ := reachable_bunches_ok U cfg ops hw
  have hperm : ∀ L' : List (Bytes × List Tx), L'.Perm p.lists →
      selectFromBunches Variant.current s q (L'.map (·.2)) = select Variant.current p s q := by
    intro L' hp
    exact (selectFromBunches_perm Variant.current s q _ _ (hp.symm.map (·.2)) hn).symm
  exact ⟨selectFromBunches_eq_greedy Variant.current s q _ hn, hperm, fun p' hp => hperm p'.lists hp⟩

/-! ### C04: global refinement of the sender lists (eviction disabled)

The reference machine keeps, per sender, a list of transactions (a total function, `[]` for an unknown sender) and the
finite set of senders it has ever stored something for (only used to SEARCH the reference for a hash).  It is written
with `orderedInsert`, `trim1`, `List.filter` and `[]` only. -/

structure Ref where
  /-- senders that may hold a non-empty list (the finite support of `lists`) -/
  senders : List Bytes
  lists : Bytes → List Tx

def Ref.init : Ref := ⟨[], fun _ => []⟩

/-- "is a transaction with hash `h` pooled, and which one": search of the reference itself -/
def Ref.find (r : Ref) (h : Bytes) : Option Tx :=
  r.senders.findSome? (fun s => (r.lists s).find? (fun x => x.hash == h))

/-- one operation of the history on the reference:
    * add `t`: nothing if the hash is already pooled, else ordered insertion into the sender's list, then the trim;
    * remove `h`: nothing if the hash is not pooled, else the sender of the pooled transaction keeps its higher nonces;
    * clear: everything is `[]`. -/
def specStep (cfg : Config) (r : Ref) : Op → Ref
  | .add t =>
    if (r.find t.hash).isSome then r
    else ⟨t.sender :: r.senders,
          fun s => if s = t.sender then (trim1 cfg (orderedInsert t (r.lists s))).1 else r.lists s⟩
  | .rm h =>
    match r.find h with
    | none => r
    | some t =>
      ⟨r.senders, fun s => if s = t.sender then (r.lists s).filter (fun x => decide (x.nonce > t.nonce)) else r.lists s⟩
  | .clear => Ref.init

def specState (cfg : Config) (ops : List Op) : Ref := ops.foldl (specStep cfg) Ref.init

/-- the reference content of sender `s` after the history `ops` -/
def specLists (cfg : Config) (ops : List Op) (s : Bytes) : List Tx := (specState cfg ops).lists s

theorem specState_snoc (cfg : Config) (ops : List Op) (op : Op) :
    specState cfg (ops ++ [op]) = specStep cfg (specState cfg ops) op := by
  unfold specState
  rw [List.foldl_append]
  rfl

theorem specLists_nil (cfg : Config) (s : Bytes) : specLists cfg [] s = [] := rfl

theorem specLists_snoc_clear (cfg : Config) (ops : List Op) (s : Bytes) : specLists cfg (ops ++ [Op.clear]) s = [] := by
  unfold specLists
  rw [specState_snoc]
  rfl

theorem specLists_snoc_add (cfg : Config) (ops : List Op) (t : Tx) (s : Bytes) :
    specLists cfg (ops ++ [Op.add t]) s =
      if ((specState cfg ops).find t.hash).isSome then specLists cfg ops s
      else if s = t.sender then (trim1 cfg (orderedInsert t (specLists cfg ops s))).1 else specLists cfg ops s := by
  unfold specLists
  rw [specState_snoc, specStep]
  by_cases h : ((specState cfg ops).find t.hash).isSome = true
  · rw [if_pos h, if_pos h]
  · rw [if_neg h, if_neg h]

theorem specLists_snoc_rm (cfg : Config) (ops : List Op) (h : Bytes) (s : Bytes) :
    specLists cfg (ops ++ [Op.rm h]) s =
      match (specState cfg ops).find h with
      | none => specLists cfg ops s
      | some t =>
        if s = t.sender then (specLists cfg ops s).filter (fun x => decide (x.nonce > t.nonce)) else specLists cfg ops s := by
  unfold specLists
  rw [specState_snoc, specStep]
  cases (specState cfg ops).find h <;> rfl

/-- pool and reference hold the same lists, and the reference's sender set covers its non-empty lists -/
structure Agree (p : Pool) (r : Ref) : Prop where
  lists : ∀ s, (alookup s p.lists).getD [] = r.lists s
  dom : ∀ s, r.lists s ≠ [] → s ∈ r.senders

theorem Agree.init (cfg : Config) : Agree (Pool.init cfg) Ref.init :=
  ⟨fun _ => rfl, fun _ h => absurd rfl h⟩

theorem Agree.mem_lists {p : Pool} {r : Ref} (a : Agree p r) {s : Bytes} {x : Tx} (hx : x ∈ r.lists s) :
    ∃ l, alookup s p.lists = some l ∧ x ∈ l := by
  rw [← a.lists s] at hx
  cases hl : alookup s p.lists with
  | none => rw [hl] at hx; simp at hx
  | some l => rw [hl] at hx; exact ⟨l, rfl, hx⟩

theorem Agree.find_eq {U : Bytes → Tx} {p : Pool} {r : Ref} (hI : Inv U p) (a : Agree p r) (k : Bytes) :
    r.find k = alookup k p.byHash := by
  have h1 : ∀ x, r.find k = some x → alookup k p.byHash = some x := by
    intro x hx
    obtain ⟨s', -, hf⟩ := List.exists_of_findSome?_eq_some hx
    obtain ⟨l, hl, hxl⟩ := a.mem_lists (List.mem_of_find?_eq_some hf)
    have hk := List.find?_some hf
    rw [← eq_of_beq hk]
    exact Inv.listed_is_hashed U p hI s' l x hl hxl
  cases hf : r.find k with
  | some x => exact (h1 x hf).symm
  | none =>
    cases hb : alookup k p.byHash with
    | none => rfl
    | some t =>
      -- a hashed transaction is listed under its sender, so the search of the reference cannot miss it
      exfalso
      have hk : t.hash = k := (hI.wfHash k t (SV.mem_of_alookup hb)).1
      obtain ⟨l, hl, htl⟩ := Inv.no_ghost U p hI k t hb
      have htr : t ∈ r.lists t.sender := by rw [← a.lists, hl]; exact htl
      have hs : t.sender ∈ r.senders := a.dom _ (List.ne_nil_of_mem htr)
      exact List.find?_eq_none.mp (List.findSome?_eq_none_iff.mp hf t.sender hs) t htr (by simp [hk])

theorem Agree.update {p p' : Pool} {r : Ref} (a : Agree p r) (k : Bytes) (f : List Tx → List Tx) (S : List Bytes)
    (hk : (alookup k p'.lists).getD [] = f (r.lists k)) (ho : ∀ s, s ≠ k → alookup s p'.lists = alookup s p.lists)
    (hS : ∀ s ∈ r.senders, s ∈ S) (hd : f (r.lists k) ≠ [] → k ∈ S) :
    Agree p' ⟨S, fun s => if s = k then f (r.lists s) else r.lists s⟩ := by
  constructor
  · intro s
    by_cases hs : s = k
    · subst hs; exact hk.trans (if_pos rfl).symm
    · exact (congrArg (·.getD []) (ho s hs)).trans ((a.lists s).trans (if_neg hs).symm)
  · intro s hne
    dsimp only at hne
    by_cases hs : s = k
    · subst hs; exact hd (by rwa [if_pos rfl] at hne)
    · exact hS s (a.dom s (by rwa [if_neg hs] at hne))

theorem Agree.step (U : Bytes → Tx) (cfg : Config) (p : Pool) (r : Ref) (op : Op)
    (hI : Inv U p) (hso : ListsSorted p) (hcfg : p.cfg = cfg) (he : cfg.evictionEnabled = false)
    (hw : ∀ t, op = Op.add t → WfTx U t) (a : Agree p r) : Agree (applyOp p op) (specStep cfg r op) := by
  have he' : p.cfg.evictionEnabled = false := by rw [hcfg]; exact he
  cases op with
  | add t =>
    have ht : WfTx U t := hw t rfl
    have hadd := (addTx_lists_noEvict U p t hI hso ht he').2
    have hother := evict_not_called_when_disabled p t he'
    rw [applyOp, specStep, a.find_eq hI]
    cases hb : alookup t.hash p.byHash with
    | some x =>
      simp only [hb, Option.isSome_some, if_true] at hadd
      refine ⟨fun s => ?_, a.dom⟩
      by_cases hs : s = t.sender
      · subst hs; exact hadd.trans (a.lists _)
      · rw [hother s hs]; exact a.lists s
    | none =>
      simp only [hb, Option.isSome_none, Bool.false_eq_true, if_false] at hadd
      rw [a.lists, hcfg] at hadd
      exact a.update t.sender (fun l => (trim1 cfg (orderedInsert t l)).1) _ hadd hother
        (fun s => List.mem_cons_of_mem _) (fun _ => List.mem_cons_self ..)
  | rm k =>
    have hrm := removeTxByHash_lists U p k hI
    rw [applyOp, specStep, a.find_eq hI]
    cases hb : alookup k p.byHash with
    | none =>
      rw [hb] at hrm
      rw [hrm]
      exact a
    | some t =>
      rw [hb] at hrm
      obtain ⟨-, hother, hself⟩ := hrm
      rw [a.lists] at hself
      refine a.update t.sender (List.filter fun x => decide (x.nonce > t.nonce)) _ hself hother (fun s => id) ?_
      intro hne
      exact a.dom _ fun e => hne (by rw [e]; rfl)
  | clear => exact ⟨fun _ => rfl, fun _ h => absurd rfl h⟩

theorem Agree.reachable (U : Bytes → Tx) (cfg : Config) (he : cfg.evictionEnabled = false) (ops : List Op)
    (hw : ∀ t, Op.add t ∈ ops → WfTx U t) : Agree (ops.foldl applyOp (Pool.init cfg)) (specState cfg ops) := by
  refine (List.foldl_rel (l := ops) (f := applyOp) (g := specStep cfg)
    (r := fun p r => (Inv U p ∧ ListsSorted p ∧ p.cfg = cfg) ∧ Agree p r)
    ⟨⟨Inv.init U cfg, ListsSorted.init cfg, rfl⟩, Agree.init cfg⟩ ?_).2
  rintro op hop p r ⟨⟨hI, hso, hcfg⟩, a⟩
  have hwop : ∀ t, op = Op.add t → WfTx U t := fun t e => hw t (e ▸ hop)
  obtain ⟨hI', hso'⟩ := applyOp_inv U p op hwop hI hso
  exact ⟨⟨hI', hso', (cfg_applyOp p op).trans hcfg⟩, Agree.step U cfg p r op hI hso hcfg he hwop a⟩

/-- C04 global refinement: with eviction disabled, after ANY history of well-formed insertions, removals and
    clears, every sender's list in the pool is exactly the reference list (a sender without an entry ≙ `[]`).
    No hypothesis on the limits is needed (with `countPerSender = 0` both sides trim the inserted transaction away). -/
theorem reachable_lists_eq_spec (U : Bytes → Tx) (cfg : Config) (ops : List Op)
    (he : cfg.evictionEnabled = false) (hw : ∀ t, Op.add t ∈ ops → WfTx U t) (s : Bytes) :
    (alookup s (ops.foldl applyOp (Pool.init cfg)).lists).getD [] = specLists cfg ops s :=
  (Agree.reachable U cfg he ops hw).lists s

/-- (companion) the reference's hash search is the pool's hash index: `added` of AddTx and `found` of RemoveTxByHash
    are determined by the reference as well -/
theorem reachable_find_eq_spec (U : Bytes → Tx) (cfg : Config) (ops : List Op)
    (he : cfg.evictionEnabled = false) (hw : ∀ t, Op.add t ∈ ops → WfTx U t) (k : Bytes) :
    alookup k (ops.foldl applyOp (Pool.init cfg)).byHash = (specState cfg ops).find k :=
  ((Agree.reachable U cfg he ops hw).find_eq (Inv.reachable U cfg ops hw) k).symm

/-! ### non-vacuity: a concrete history -/

namespace ReachEx

def tx (h s : UInt8) (n gp : Nat) : Tx := ⟨[h], [s], n, gp, 10, 1, 10 * gp, 0, []⟩

def t1 := tx 1 0xa0 0 1
def t2 := tx 2 0xa0 1 1
def t3 := tx 3 0xa0 1 2   -- same sender, same nonce as t2, higher gas price: goes in front of t2
def t4 := tx 4 0xb0 0 1
def t5 := tx 5 0xa0 2 1

/-- six operations: two senders, a duplicate nonce (t2/t3) and a removal (by the hash of t1) -/
def history : List Op := [.add t1, .add t2, .add t3, .add t4, .rm [1], .add t5]

def cfg : Config := ⟨false, 100000, 100000, 100, 3, 1⟩

/-- "the" transaction of a hash -/
def U (h : Bytes) : Tx := (([t1, t2, t3, t4, t5] : List Tx).find? (fun x => x.hash == h)).getD t1

theorem history_wf : ∀ t, Op.add t ∈ history → WfTx U t := by
  intro t ht
  simp only [history, List.mem_cons, Op.add.injEq, List.not_mem_nil, or_false, reduceCtorEq, false_or] at ht
  rcases ht with rfl | rfl | rfl | rfl | rfl <;> (unfold WfTx; decide)

def session : Session := ⟨fun _ => 1, fun _ => 1000, fun _ => false⟩
def params : SelParams := ⟨1000, 10, fun _ => false, 10⟩

theorem run_history : history.foldl applyOp (Pool.init cfg) =
    ⟨cfg, [([0xa0], [t3, t2, t5]), ([0xb0], [t4])], [t2, t3, t4, t5].map fun t => (t.hash, t), 4, 4, 2⟩ := rfl

-- both sides of `reachable_lists_eq_spec`, evaluated: sender a0 lost nonce 0 by the removal, holds the duplicate
-- nonce 1 (dearer first) and nonce 2; sender b0 is untouched; an unknown sender has `[]`
example : (alookup [0xa0] (history.foldl applyOp (Pool.init cfg)).lists).getD [] = [t3, t2, t5] := by
  rw [run_history]; decide
example : specLists cfg history [0xa0] = [t3, t2, t5] := by decide +kernel
example : (alookup [0xb0] (history.foldl applyOp (Pool.init cfg)).lists).getD [] = [t4] := by rw [run_history]; decide
example : specLists cfg history [0xb0] = [t4] := by decide +kernel
example : specLists cfg history [0xc0] = [] := by decide +kernel
-- re-inserting a pooled hash changes nothing, on either side
example : (alookup [0xa0] ((history ++ [Op.add t2]).foldl applyOp (Pool.init cfg)).lists).getD [] = [t3, t2, t5] := by
  rw [List.foldl_append, run_history]; decide
example : specLists cfg (history ++ [Op.add t2]) [0xa0] = [t3, t2, t5] := by decide +kernel
-- with the per-sender limit hit (countPerSender = 3 and a fourth insertion) the trim shows on both sides
example : (alookup [0xa0] ([Op.add t1, .add t2, .add t3, .add t5].foldl applyOp (Pool.init cfg)).lists).getD []
    = [t1, t3, t2] := by decide +kernel
example : specLists cfg [Op.add t1, .add t2, .add t3, .add t5] [0xa0] = [t1, t3, t2] := by decide +kernel

-- the theorems instantiated (hypotheses are satisfiable)
example (s : Bytes) : (alookup s (history.foldl applyOp (Pool.init cfg)).lists).getD [] = specLists cfg history s :=
  reachable_lists_eq_spec U cfg history rfl history_wf s

example : ∃ k, noncesOf [0xa0] (select Variant.current (history.foldl applyOp (Pool.init cfg)) session params).1
    = List.range' 1 k :=
  reachable_nonce_run U cfg history history_wf session params [0xa0]

example :
    let bunches := (history.foldl applyOp (Pool.init cfg)).lists.map (·.2)
    (∀ b ∈ bunches, BunchOk b) ∧ BunchesDistinct bunches ∧
    (bunches.flatten.map (·.hash)).Nodup ∧ bunches.flatten.Nodup :=
  reachable_bunches_ok U cfg history history_wf

example : (history.foldl applyOp (Pool.init cfg)).lists.map (·.2) = [[t3, t2, t5], [t4]] := by rw [run_history]; rfl

example : (select Variant.current (history.foldl applyOp (Pool.init cfg)) session params).1.Nodup :=
  (reachable_selection_constraints U cfg history history_wf session params).1

-- … and what the selection actually returns here: b0's nonce 0 is below the account nonce 1 (skipped), a0 starts at
-- nonce 1 with the dearer duplicate, the cheaper duplicate is skipped, then nonce 2
example : ((select Variant.current (history.foldl applyOp (Pool.init cfg)) session params).1.map (·.hash))
    = [[3], [5]] := by rw [run_history]; decide

example : select Variant.current (history.foldl applyOp (Pool.init cfg)) session params
    = greedy Variant.current session params ((history.foldl applyOp (Pool.init cfg)).lists.map (·.2)) :=
  (reachable_selection_is_greedy U cfg history history_wf session params).1

/-- the well-formedness hypothesis (a hash determines the transaction) is needed for the refinement: when two DIFFERENT
    transactions carry the same hash, AddTx refuses the second in the hash index but still files it under its sender,
    while the reference (like the documented semantics) ignores an insertion whose hash is pooled -/
theorem refinement_needs_wf :
    let t4' : Tx := { t4 with hash := [1] }   -- sender b0, but the hash of t1
    (alookup [0xb0] ([Op.add t1, Op.add t4'].foldl applyOp (Pool.init cfg)).lists).getD [] = [t4'] ∧
    specLists cfg [Op.add t1, Op.add t4'] [0xb0] = [] := by decide +kernel

end ReachEx

end SV.TxCache
