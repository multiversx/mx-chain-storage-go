/-
  SV.TxCache.EvictPost — post-conditions of eviction (C07: size of a pass, the victim is the least valuable head, no pass
  within the thresholds; C06: eviction ends within the thresholds), the pool-wide bounds after an insertion (C06), and what
  AddTx / RemoveTxByHash do to the sender lists (C04).
-/
import SV.TxCache.EvictInv
namespace SV.TxCache
open C5
open Sections (hashAdd fetchList)

namespace C5

/-! ### one collecting pass: how many victims, and what is left in the heap -/

/-- the number of transactions the heap can still deliver -/
def hmeasure (heap : List HItem) : Nat := (heap.map (fun it => it.rest.length + 1)).sum

theorem hmeasure_cons (it : HItem) (heap : List HItem) : hmeasure (it :: heap) = it.rest.length + 1 + hmeasure heap := by
  simp [hmeasure]

theorem hmeasure_perm {l₁ l₂ : List HItem} (hp : l₁.Perm l₂) : hmeasure l₁ = hmeasure l₂ :=
  (hp.map _).sum_nat

theorem hmeasure_eq_zero {heap : List HItem} (h : hmeasure heap = 0) : heap = [] := by
  cases heap with
  | nil => rfl
  | cons it heap => rw [hmeasure_cons] at h; omega

/-- a transaction the heap can still deliver -/
def InHeap (heap : List HItem) (x : Tx) : Prop := ∃ it ∈ heap, x ∈ it.cur :: it.rest

theorem InHeap.perm {l₁ l₂ : List HItem} {x : Tx} (h : InHeap l₁ x) (hp : l₁.Perm l₂) : InHeap l₂ x :=
  h.imp fun _ hit => ⟨hp.mem_iff.mp hit.1, hit.2⟩

theorem hmeasure_advance (it : HItem) (heap : List HItem) :
    hmeasure (it.advance.toList ++ heap) + 1 = hmeasure (it :: heap) := by
  rw [hmeasure_cons, HItem.advance]
  cases it.rest with
  | nil => exact Nat.add_comm ..
  | cons t ts => rw [Option.toList, List.singleton_append, hmeasure_cons]; simp only [List.length_cons]; omega

theorem inHeap_advance {it : HItem} {heap : List HItem} {x : Tx} (h : InHeap (it :: heap) x) :
    x = it.cur ∨ InHeap (it.advance.toList ++ heap) x := by
  obtain ⟨j, hj, hx⟩ := h
  rcases List.mem_cons.mp hj with rfl | hj
  · rcases List.mem_cons.mp hx with hx | hx
    · exact .inl hx
    · rw [HItem.advance]
      cases hr : j.rest with
      | nil => rw [hr] at hx; cases hx
      | cons t ts => exact .inr ⟨_, List.mem_cons_self, hr ▸ hx⟩
  · exact .inr ⟨j, List.mem_append_right _ hj, hx⟩

theorem collectVictims_spec (v : Variant) (hv : v.evictionDropsPopped = false) : ∀ (n : Nat) (heap : List HItem) (acc : List Tx),
    (collectVictims v n heap acc).1.length = acc.length + min n (hmeasure heap) ∧
    (collectVictims v n heap acc).1.length + hmeasure (collectVictims v n heap acc).2 = acc.length + hmeasure heap ∧
    (∀ x, x ∈ acc ∨ InHeap heap x →
      x ∈ (collectVictims v n heap acc).1 ∨ InHeap (collectVictims v n heap acc).2 x) := by
  intro n
  induction n with
  | zero =>
    intro heap acc
    have e : collectVictims v 0 heap acc = (acc, heap) := by rw [collectVictims, hv]; rfl
    rw [e]
    exact ⟨by simp, rfl, fun x hx => hx⟩
  | succ n ih =>
    intro heap acc
    rw [collectVictims_succ]
    cases hpop : popWorst v heap with
    | none =>
      cases (popBy_none _ heap).mp hpop
      exact ⟨by simp [hmeasure], rfl, fun x hx => hx⟩
    | some r =>
      obtain ⟨it, heap'⟩ := r
      have hperm : (it :: heap').Perm heap := popBy_perm _ _ _ _ hpop
      have hm : hmeasure heap = hmeasure (it.advance.toList ++ heap') + 1 := by
        rw [hmeasure_advance, hmeasure_perm hperm]
      obtain ⟨h1, h2, h3⟩ := ih (it.advance.toList ++ heap') (acc ++ [it.cur])
      rw [List.length_append, List.length_singleton] at h1 h2
      refine ⟨by rw [h1, hm, Nat.add_min_add_right, Nat.add_assoc, Nat.add_comm 1],
        by rw [h2, hm, Nat.add_assoc, Nat.add_comm 1], fun x hx => h3 x ?_⟩
      rcases hx with hx | hx
      · exact .inl (List.mem_append_left _ hx)
      · rcases inHeap_advance (hx.perm hperm.symm) with rfl | hx
        · exact .inl (List.mem_append_right _ List.mem_cons_self)
        · exact .inr hx

end C5

/-- C07: each pass takes exactly NumItemsToPreemptivelyEvict victims, or all that is left in the heap -/
theorem collectVictims_length (v : Variant) (hv : v.evictionDropsPopped = false) (n : Nat) (heap : List HItem) (acc : List Tx) :
    (collectVictims v n heap acc).1.length = acc.length + min n ((heap.map (fun it => it.rest.length + 1)).sum) :=
  (collectVictims_spec v hv n heap acc).1

/-- C07: the victim taken at each step is the least valuable among the heads of all walks -/
theorem popWorst_is_least_valuable (v : Variant) (heap : List HItem) (it : HItem) (rest : List HItem)
    (hd : (heap.map (·.cur.hash)).Nodup) (h : popWorst v heap = some (it, rest)) :
    ∀ other ∈ rest, moreValuable v other.cur it.cur = true :=
  popBy_best (fun a b => moreValuable v b a) heap it rest (popWorst_strictTotalOn v heap) hd h

/-- C07: an eviction pass runs only while the pool is over a threshold (no more than needed, batch-wise) -/
theorem evictLoop_stops (v : Variant) (fuel : Nat) (p : Pool) (heap : List HItem) (h : p.exceeded = false) :
    evictLoop v fuel p heap = p := by
  cases fuel with
  | zero => rfl
  | succ fuel => unfold evictLoop; simp [h]

/-! ### eviction ends within the thresholds, or with an empty pool -/

namespace C5

/-- the heap snapshot still delivers every pooled transaction -/
def Cover (p : Pool) (heap : List HItem) : Prop := ∀ x, Pooled p x → InHeap heap x

theorem applyVictims_pooled (U : Bytes → Tx) (p : Pool) (victims : List Tx) (h : Inv U p)
    (hord : victims.Pairwise (fun a b => a.sender = b.sender → b.nonce ≤ a.nonce)) :
    ∀ x, Pooled (applyVictims Variant.current p victims) x → Pooled p x ∧ x ∉ victims := by
  intro x hx
  unfold applyVictims Pooled at hx
  dsimp only at hx
  rw [removeBulk_lists] at hx
  obtain ⟨-, hp1⟩ := foldThreshold_all U (thresholds victims) p h
  obtain ⟨hxp, hno⟩ := hp1 x hx
  refine ⟨hxp, ?_⟩
  intro hv
  obtain ⟨n, hn, hle⟩ := thresholds_le victims [] hord x hv
  exact hno (x.sender, n) (mem_of_alookup hn) ⟨rfl, hle⟩

theorem pool_empty_of_no_pooled {U : Bytes → Tx} {p : Pool} (h : Inv U p) (hno : ∀ x, ¬ Pooled p x) :
    p.byHash = [] ∧ p.lists = [] := by
  have hb : p.byHash = [] := by
    cases hb : p.byHash with
    | nil => rfl
    | cons a r =>
      obtain ⟨k, t⟩ := a
      have hm : (k, t) ∈ p.byHash := by rw [hb]; exact List.mem_cons_self ..
      have hk := (h.wfHash k t hm).1
      subst hk
      exact absurd ((h.same t).mp hm) (hno t)
  exact ⟨hb, (Inv.empty_reports_zero U p h hb).1⟩

theorem evictLoop_post (U : Bytes → Tx) (fuel : Nat) (p : Pool) (heap : List HItem) (h : Inv U p) (hh : HeapOk U heap)
    (hcov : Cover p heap) (hm : hmeasure heap < fuel) (hn : 1 ≤ p.cfg.numItemsToEvict) :
    (evictLoop Variant.current fuel p heap).exceeded = false ∨
      ((evictLoop Variant.current fuel p heap).byHash = [] ∧ (evictLoop Variant.current fuel p heap).lists = []) := by
  fun_induction evictLoop Variant.current fuel p heap with
  | case1 => exact absurd hm (Nat.not_lt_zero _)
  | case2 _ p heap _ victims heap' hc hemp =>
    -- no victim although at least one was asked for: the heap is exhausted, hence the pool is empty
    right
    have hlen := (collectVictims_spec Variant.current rfl p.cfg.numItemsToEvict heap []).1
    rw [hc, List.isEmpty_iff.mp hemp] at hlen
    have hheap : heap = [] := hmeasure_eq_zero (by simp only [List.length_nil, Nat.zero_add] at hlen; omega)
    refine pool_empty_of_no_pooled h fun x hx => ?_
    obtain ⟨it, hit, -⟩ := hcov x hx
    rw [hheap] at hit
    cases hit
  | case3 fuel p heap _ victims heap' hc hemp ih =>
    have hres := collectVictims_ok p.cfg.numItemsToEvict heap [] (CV.start hh)
    obtain ⟨hlen, hmeas, hpart⟩ := collectVictims_spec Variant.current rfl p.cfg.numItemsToEvict heap []
    rw [hc] at hres hlen hmeas hpart
    have hvlen : 1 ≤ victims.length := by
      cases victims with
      | nil => exact absurd rfl hemp
      | cons a r => exact Nat.succ_le_succ (Nat.zero_le _)
    simp only [List.length_nil, Nat.zero_add] at hmeas
    refine ih (applyVictims_all U p victims h hres.wf hres.ord) hres.heapOk ?_ (by omega)
      (by rw [cfg_applyVictims]; exact hn)
    intro x hx
    obtain ⟨hxp, hxv⟩ := applyVictims_pooled U p victims h hres.ord x hx
    exact (hpart x (Or.inr (hcov x hxp))).resolve_left hxv
  | case4 _ p _ hne => exact .inl ((Bool.not_eq_true _).mp hne)

theorem initHeap_cover (L : List (Bytes × List Tx)) {s : Bytes} {l : List Tx} {x : Tx} (hm : (s, l) ∈ L) (hx : x ∈ l) :
    InHeap (initHeap (L.map (·.2.reverse))) x := by
  cases hr : l.reverse with
  | nil =>
    have : x ∈ l.reverse := List.mem_reverse.mpr hx
    rw [hr] at this
    simp at this
  | cons t ts =>
    refine ⟨{ cur := t, rest := ts }, ?_, ?_⟩
    · unfold initHeap
      refine List.mem_filterMap.mpr ⟨l.reverse, List.mem_map.mpr ⟨(s, l), hm, rfl⟩, ?_⟩
      rw [hr]
      rfl
    · show x ∈ t :: ts
      rw [← hr]
      exact List.mem_reverse.mpr hx

theorem hmeasure_append (h₁ h₂ : List HItem) : hmeasure (h₁ ++ h₂) = hmeasure h₁ + hmeasure h₂ := by
  simp [hmeasure, List.sum_append]

theorem hmeasure_ofBunch (b : List Tx) : hmeasure (HItem.ofBunch b).toList = b.length := by
  cases b with
  | nil => rfl
  | cons t ts => simp [HItem.ofBunch, hmeasure]

theorem hmeasure_initHeap (L : List (Bytes × List Tx)) :
    hmeasure (initHeap (L.map (·.2.reverse))) = (L.map (·.2.length)).sum := by
  induction L with
  | nil => rfl
  | cons a L ih =>
    rw [List.map_cons, initHeap_cons, hmeasure_append, hmeasure_ofBunch, ih, List.map_cons, List.sum_cons,
      List.length_reverse]

end C5

/-- C06: eviction ends with the pool within its thresholds, or empty (sequentially the snapshot covers the whole pool,
    so when the heap is exhausted everything has been evicted) -/
theorem evict_post (U : Bytes → Tx) (p : Pool) (h : Inv U p) (hn : 1 ≤ p.cfg.numItemsToEvict) :
    (evict Variant.current p).exceeded = false ∨ ((evict Variant.current p).byHash = [] ∧ (evict Variant.current p).lists = []) := by
  unfold evict
  split
  · refine evictLoop_post U _ p _ h (initHeap_ok p.lists h.wfLists h.nonceSorted h.sendersNodup) ?_ ?_ hn
    · rintro x ⟨s, l, hm, hx⟩
      exact initHeap_cover p.lists hm hx
    · rw [hmeasure_initHeap]
      unfold totalTxs
      omega
  · next hne => exact .inl ((Bool.not_eq_true _).mp hne)

/-- the threshold test on the signed counters: clamping at 0 changes nothing in a comparison with a natural number -/
theorem exceeded_eq_false_iff (p : Pool) :
    p.exceeded = false ↔ p.numBytes ≤ (p.cfg.numBytesThreshold : Int) ∧ p.cntSenders ≤ (p.cfg.countThreshold : Int) ∧
      p.cntTx ≤ (p.cfg.countThreshold : Int) := by
  simp only [Pool.exceeded, clampNat, Bool.or_eq_false_iff, decide_eq_false_iff_not, gt_iff_lt, Nat.not_lt, Int.toNat_le,
    and_assoc]

/-- eviction ALWAYS ends within the thresholds: the "or empty" alternative of `evict_post` is within them too, since an
    empty pool reports zero counters -/
theorem evict_within (U : Bytes → Tx) (p : Pool) (h : Inv U p) (hn : 1 ≤ p.cfg.numItemsToEvict) :
    (evict Variant.current p).exceeded = false := by
  rcases evict_post U p h hn with hne | ⟨hbh, -⟩
  · exact hne
  · obtain ⟨-, z1, z2, z3⟩ := Inv.empty_reports_zero U _ (Inv.evict U p h) hbh
    rw [exceeded_eq_false_iff, z1, z2, z3]
    exact ⟨Int.natCast_nonneg _, Int.natCast_nonneg _, Int.natCast_nonneg _⟩

/-! ### pool-wide bounds after an insertion -/

namespace C5

theorem addTxCore_bounds (p : Pool) (t : Tx) :
    (addTxCore Variant.current p t).1.cntTx ≤ p.cntTx + 1 ∧
    (addTxCore Variant.current p t).1.cntSenders ≤ p.cntSenders + 1 ∧
    (addTxCore Variant.current p t).1.numBytes ≤ p.numBytes + (t.size : Int) := by
  rw [addTxCore_eq]
  have h2 := hashAdd_counters p t
  obtain ⟨-, h3a, h3c⟩ := fetchList_hashPart (hashAdd p t).1 t.sender
  have h3b := fetchList_cntSenders_le (hashAdd p t).1 t.sender
  have h4 := listAdd_counters Variant.current (fetchList (hashAdd p t).1 t.sender).1 t
    (fetchList (hashAdd p t).1 t.sender).2 (hashAdd p t).2
  omega

end C5

/-- C06: with eviction enabled, after an insertion the pool exceeds each pool-wide threshold by at most the one
    transaction just added -/
theorem addTx_pool_bounds (U : Bytes → Tx) (p : Pool) (t : Tx) (h : Inv U p)
    (he : p.cfg.evictionEnabled = true) (hn : 1 ≤ p.cfg.numItemsToEvict) :
    let p' := (addTx Variant.current p t).1
    p'.cntTx ≤ (p.cfg.countThreshold : Int) + 1 ∧ p'.cntSenders ≤ (p.cfg.countThreshold : Int) + 1 ∧
    p'.numBytes ≤ (p.cfg.numBytesThreshold : Int) + (t.size : Int) := by
  intro p'
  have hp' : p' = (addTxCore Variant.current (evict Variant.current p) t).1 := by
    show (addTx Variant.current p t).1 = _
    rw [addTx_eq_core, he, if_pos rfl]
  rw [hp']
  have hb := addTxCore_bounds (evict Variant.current p) t
  have hw := (exceeded_eq_false_iff _).mp (evict_within U p h hn)
  rw [cfg_evict] at hw
  omega

/-! ### the list-level effect of AddTx and RemoveTxByHash (C04) -/

namespace C5

theorem addTxCore_lists_other (p : Pool) (t : Tx) (s : Bytes) (hs : s ≠ t.sender) :
    alookup s (addTxCore Variant.current p t).1.lists = alookup s p.lists := by
  rw [addTxCore_eq, alookup_listAdd_ne _ _ _ _ _ hs, alookup_fetchList, if_neg hs, lists_hashAdd]

end C5

/-- C06: with eviction disabled nothing is ever dropped for pool-wide reasons: the lists of the other senders are untouched -/
theorem evict_not_called_when_disabled (p : Pool) (t : Tx) (he : p.cfg.evictionEnabled = false) (s : Bytes)
    (hs : s ≠ t.sender) : alookup s (addTx Variant.current p t).1.lists = alookup s p.lists := by
  rw [addTx_eq_core, he]
  exact addTxCore_lists_other p t s hs

/-- C04: what AddTx does to the lists when eviction is disabled: the flag says whether the hash was new; other senders
    are untouched; the sender's list is the ordered insertion followed by the (one-step) trim -/
theorem addTx_lists_noEvict (U : Bytes → Tx) (p : Pool) (t : Tx) (h : Inv U p) (hso : ListsSorted p) (ht : WfTx U t)
    (he : p.cfg.evictionEnabled = false) :
    let r := addTx Variant.current p t
    let l := (alookup t.sender p.lists).getD []
    r.2 = (alookup t.hash p.byHash).isNone ∧
    (alookup t.sender r.1.lists).getD [] =
      (if (alookup t.hash p.byHash).isSome then l else (trim1 p.cfg (orderedInsert t l)).1) := by
  dsimp only
  rw [addTx_eq_core, he, if_neg Bool.false_ne_true]
  cases hb : alookup t.hash p.byHash with
  | some x => rw [addTxCore_known _ h hso ht hb]; exact ⟨rfl, rfl⟩
  | none =>
    have hl : alookup t.sender p.lists = some ((alookup t.sender p.lists).getD []) ∨
        (alookup t.sender p.lists = none ∧ (alookup t.sender p.lists).getD [] = []) := by
      cases alookup t.sender p.lists <;> simp
    have hins := fresh_insertTx h hso ht hb hl
    rw [← lists_hashAdd p t, ← fetchList_snd] at hins
    rw [addTxCore_eq, listAdd_some hins, alookup_setTrimmed_self, cfg_fetchList, cfg_hashAdd, fetchList_snd, lists_hashAdd]
    exact ⟨rfl, rfl⟩

/-- C04: RemoveTxByHash drops exactly the sender's transactions with a nonce ≤ the removed one's, nothing else -/
theorem removeTxByHash_lists (U : Bytes → Tx) (p : Pool) (hsh : Bytes) (h : Inv U p) :
    match alookup hsh p.byHash with
    | none => removeTxByHash p hsh = (p, false)
    | some t =>
      (removeTxByHash p hsh).2 = true ∧
      (∀ s, s ≠ t.sender → alookup s (removeTxByHash p hsh).1.lists = alookup s p.lists) ∧
      (alookup t.sender (removeTxByHash p hsh).1.lists).getD [] =
        ((alookup t.sender p.lists).getD []).filter (fun x => decide (x.nonce > t.nonce)) := by
  cases hm : alookup hsh p.byHash with
  | none => exact removeTxByHash_none hm
  | some t =>
    obtain ⟨-, -, l, hl, -⟩ := hashed_listed h hm
    dsimp only
    rw [removeTxByHash_some hm hl, removeBulk_lists]
    refine ⟨rfl, fun s hs => ?_, ?_⟩
    · rw [alookup_removeSenderIfEmpty_ne _ hs]
      exact alookup_aset_ne _ _ hs
    · rw [alookup_removeSenderIfEmpty_self, hl]
      dsimp only
      rw [alookup_aset_self]
      exact dropLowerOrEqual_eq_filter t.nonce l (h.nonceSorted _ _ (mem_of_alookup hl))

end SV.TxCache
