/-
  SV.TxCache.SelStep — one iteration of the selection loop, in the two forms the proofs use.

  The verdict: `classify s c it` looks at the session and the item only through the item's selection history and
  nonce, the fee, the sender's account nonce, the fee payer's balance and consumed balance and the guard verdict.
  Every fact about the verdict is proved about `verdictOf` over variables standing for these seven values;
  `classify_eq` (by `rfl`) carries it to `classify`.

  The iteration: `selectLoop_none` / `selectLoop_some` unfold `selectLoop` once, with the three exit tests gathered in
  `stopsAt` and the two shapes of the next heap (`it' :: heap'` or `heap'`) written `it.advance.toList ++ heap'`, so
  that a proof about the loop has one goal per verdict.  `selectLoop_induct` packs the induction on the fuel over these
  forms: an invariant kept by the three kinds of steps holds of the result.

  `heapTxs`, the transactions still reachable from a heap, is what the loop invariants speak of; `NodupH`, no hash
  twice among them, is the one the order proofs need.
-/
import SV.TxCache.Spec
namespace SV.TxCache

def verdictOf (latest : Option Nat) (nonce fee accNonce balance consumed : Nat) (bad : Bool) : Verdict :=
  if (latest.isNone && decide (nonce > accNonce)) then .dropSender
  else if (match latest with | some l => decide (nonce > l + 1) | none => false) then .dropSender
  else if decide (consumed + fee > balance) then .dropSender
  else if decide (nonce < accNonce) then .skipTx
  else if bad then .skipTx
  else if (match latest with | some l => decide (nonce = l) | none => false) then .skipTx
  else .take

theorem classify_eq (s : Session) (c : Bytes → Nat) (it : HItem) :
    classify s c it = verdictOf it.latest it.cur.nonce it.cur.fee (s.nonce it.cur.sender)
      (s.balance it.cur.payer) (c it.cur.payer) (s.badGuard it.cur) := rfl

/-- the nonce-gap tests, which come first and read neither balance nor guard -/
def nonceGap (latest : Option Nat) (nonce accNonce : Nat) : Bool :=
  match latest with
  | none => decide (nonce > accNonce)
  | some l => decide (nonce > l + 1)

variable {nonce fee accNonce balance consumed : Nat} {bad : Bool}

theorem verdictOf_none :
    verdictOf none nonce fee accNonce balance consumed bad =
      if nonce > accNonce then .dropSender
      else if consumed + fee > balance then .dropSender
      else if nonce < accNonce then .skipTx
      else if bad then .skipTx
      else .take := by
  simp [verdictOf]

theorem verdictOf_some {l : Nat} :
    verdictOf (some l) nonce fee accNonce balance consumed bad =
      if nonce > l + 1 then .dropSender
      else if consumed + fee > balance then .dropSender
      else if nonce < accNonce then .skipTx
      else if bad then .skipTx
      else if nonce = l then .skipTx
      else .take := by
  simp [verdictOf]

theorem verdictOf_of_gap {latest : Option Nat} (h : nonceGap latest nonce accNonce = true) :
    verdictOf latest nonce fee accNonce balance consumed bad = .dropSender := by
  cases latest with
  | none => rw [verdictOf_none, if_pos (by simpa [nonceGap] using h)]
  | some l => rw [verdictOf_some, if_pos (by simpa [nonceGap] using h)]

theorem of_ite_eq {α : Type} {a : Prop} [Decidable a] {x y z : α} (h : (if a then x else y) = z) (hx : x ≠ z) :
    ¬ a ∧ y = z := by
  split at h
  · exact absurd h hx
  · exact ⟨‹¬ a›, h⟩

theorem verdictOf_none_take (h : verdictOf none nonce fee accNonce balance consumed bad = .take) :
    nonce = accNonce ∧ consumed + fee ≤ balance ∧ bad = false := by
  rw [verdictOf_none] at h
  obtain ⟨h1, h⟩ := of_ite_eq h nofun
  obtain ⟨h2, h⟩ := of_ite_eq h nofun
  obtain ⟨h3, h⟩ := of_ite_eq h nofun
  obtain ⟨h4, _⟩ := of_ite_eq h nofun
  exact ⟨Nat.le_antisymm (Nat.le_of_not_lt h1) (Nat.le_of_not_lt h3), Nat.le_of_not_lt h2, Bool.of_not_eq_true h4⟩

theorem verdictOf_some_take {l : Nat} (h : verdictOf (some l) nonce fee accNonce balance consumed bad = .take) :
    (nonce ≤ l + 1 ∧ nonce ≠ l) ∧ consumed + fee ≤ balance ∧ bad = false := by
  rw [verdictOf_some] at h
  obtain ⟨h1, h⟩ := of_ite_eq h nofun
  obtain ⟨h2, h⟩ := of_ite_eq h nofun
  obtain ⟨_, h⟩ := of_ite_eq h nofun
  obtain ⟨h4, h⟩ := of_ite_eq h nofun
  obtain ⟨h5, _⟩ := of_ite_eq h nofun
  exact ⟨⟨Nat.le_of_not_lt h1, h5⟩, Nat.le_of_not_lt h2, Bool.of_not_eq_true h4⟩

/-! ### one iteration -/

/-- the tests that end the loop before the popped item is classified: gas budget, count, time budget -/
def stopsAt (v : Variant) (q : SelParams) (acc : Nat) (out : List Tx) (it : HItem) : Bool :=
  gasExceeded v acc it.cur.gasLimit q.gasReq || decide (out.length ≥ q.maxNum) ||
    (out.length % q.interval = 0 && q.stop out.length)

theorem stopsAt_eq_false {v : Variant} {q : SelParams} {acc : Nat} {out : List Tx} {it : HItem}
    (h : ¬ stopsAt v q acc out it = true) :
    ¬ gasExceeded v acc it.cur.gasLimit q.gasReq = true ∧ ¬ out.length ≥ q.maxNum ∧
      ¬ (out.length % q.interval = 0 && q.stop out.length) = true := by
  simpa [stopsAt, not_or, and_assoc] using h

theorem bump_apply (c : Bytes → Nat) (x : Bytes) (d : Nat) (a : Bytes) :
    bump c x d a = c a + if x = a then d else 0 := by
  unfold bump
  by_cases h : a = x
  · rw [if_pos h, if_pos h.symm]
  · rw [if_neg h, if_neg (Ne.symm h)]; rfl

theorem ite_chain_or {α : Type} (a c : Bool) (b : Prop) [Decidable b] (x y : α) :
    (if a then x else if b then x else if c then x else y) = if (a || decide b || c) then x else y := by
  cases a <;> cases c <;> by_cases hb : b <;> simp [hb]

theorem ite_chain_or_prop {α : Type} (a b c : Prop) [Decidable a] [Decidable b] [Decidable c] (x y : α) :
    (if a then x else if b then x else if c then x else y) = if a ∨ b ∨ c then x else y := by
  by_cases ha : a <;> by_cases hb : b <;> by_cases hc : c <;> simp [ha, hb, hc]

section
variable {v : Variant} {pick : List HItem → Option (HItem × List HItem)} {s : Session} {q : SelParams}
  {fuel : Nat} {heap : List HItem} {c : Bytes → Nat} {acc : Nat} {out : List Tx}

theorem selectLoop_none (h : pick heap = none) : selectLoop v pick s q (fuel + 1) heap c acc out = (out, acc) := by
  simp only [selectLoop, h]

theorem selectLoop_some {it : HItem} {heap' : List HItem} (h : pick heap = some (it, heap')) :
    selectLoop v pick s q (fuel + 1) heap c acc out =
      if stopsAt v q acc out it then (out, acc)
      else match classify s c it with
        | .dropSender => selectLoop v pick s q fuel heap' c acc out
        | .skipTx => selectLoop v pick s q fuel (it.advance.toList ++ heap') c acc out
        | .take =>
          selectLoop v pick s q fuel ((HItem.advance { it with latest := some it.cur.nonce }).toList ++ heap')
            (bump (bump c it.cur.sender it.cur.value) it.cur.payer it.cur.fee)
            (if v.gasWraps then (acc + it.cur.gasLimit) % two64 else acc + it.cur.gasLimit) (out ++ [it.cur]) := by
  rw [selectLoop, h]
  dsimp only
  rw [ite_chain_or, stopsAt]
  refine ite_congr rfl (fun _ => rfl) (fun _ => ?_)
  cases classify s c it with
  | dropSender => rfl
  | skipTx => dsimp only; cases it.advance <;> rfl
  | take => dsimp only; cases HItem.advance { it with latest := some it.cur.nonce } <;> rfl

end

theorem selectLoop_induct (v : Variant) (pick : List HItem → Option (HItem × List HItem))
    (s : Session) (q : SelParams)
    (I : List HItem → (Bytes → Nat) → Nat → List Tx → Prop) (Post : List Tx × Nat → Prop)
    (hpost : ∀ heap c acc out, I heap c acc out → Post (out, acc))
    (hdrop : ∀ heap c acc out it heap', I heap c acc out → pick heap = some (it, heap') → I heap' c acc out)
    (hskip : ∀ heap c acc out it heap', I heap c acc out → pick heap = some (it, heap') →
      I (it.advance.toList ++ heap') c acc out)
    (htake : ∀ heap c acc out it heap', I heap c acc out → pick heap = some (it, heap') →
      ¬ (gasExceeded v acc it.cur.gasLimit q.gasReq = true) → ¬ (out.length ≥ q.maxNum) →
      classify s c it = .take →
      I ((HItem.advance { it with latest := some it.cur.nonce }).toList ++ heap')
        (bump (bump c it.cur.sender it.cur.value) it.cur.payer it.cur.fee)
        (if v.gasWraps then (acc + it.cur.gasLimit) % two64 else acc + it.cur.gasLimit) (out ++ [it.cur])) :
    ∀ fuel heap c acc out, I heap c acc out → Post (selectLoop v pick s q fuel heap c acc out) := by
  intro fuel
  induction fuel with
  | zero => intro heap c acc out h; exact hpost _ _ _ _ h
  | succ fuel ih =>
    intro heap c acc out h
    cases hp : pick heap with
    | none => rw [selectLoop_none hp]; exact hpost _ _ _ _ h
    | some p =>
      obtain ⟨it, heap'⟩ := p
      rw [selectLoop_some hp]
      by_cases hs : stopsAt v q acc out it = true
      · rw [if_pos hs]; exact hpost _ _ _ _ h
      rw [if_neg hs]
      cases hc : classify s c it with
      | dropSender => exact ih _ _ _ _ (hdrop _ _ _ _ _ _ h hp)
      | skipTx => exact ih _ _ _ _ (hskip _ _ _ _ _ _ h hp)
      | take =>
        obtain ⟨hg, hn, _⟩ := stopsAt_eq_false hs
        exact ih _ _ _ _ (htake _ _ _ _ _ _ h hp hg hn hc)

theorem selectLoop_induct_out (v : Variant) (pick : List HItem → Option (HItem × List HItem))
    (s : Session) (q : SelParams)
    (I : (Bytes → Nat) → Nat → List Tx → Prop) (Post : List Tx × Nat → Prop)
    (hpost : ∀ c acc out, I c acc out → Post (out, acc))
    (htake : ∀ c acc out it, I c acc out →
      ¬ (gasExceeded v acc it.cur.gasLimit q.gasReq = true) → ¬ (out.length ≥ q.maxNum) →
      classify s c it = .take →
      I (bump (bump c it.cur.sender it.cur.value) it.cur.payer it.cur.fee)
        (if v.gasWraps then (acc + it.cur.gasLimit) % two64 else acc + it.cur.gasLimit) (out ++ [it.cur]))
    (fuel : Nat) (heap : List HItem) (c : Bytes → Nat) (acc : Nat) (out : List Tx) (h : I c acc out) :
    Post (selectLoop v pick s q fuel heap c acc out) :=
  selectLoop_induct v pick s q (fun _ => I) Post (fun _ => hpost) (fun _ _ _ _ _ _ h _ => h)
    (fun _ _ _ _ _ _ h _ => h) (fun _ c acc out it _ h _ => htake c acc out it h) fuel heap c acc out h

/-! ### the transactions reachable from a heap -/

def heapTxs (heap : List HItem) : List Tx := heap.flatMap (fun it => it.cur :: it.rest)

theorem heapTxs_cons (it : HItem) (r : List HItem) : heapTxs (it :: r) = it.cur :: (it.rest ++ heapTxs r) := by
  simp [heapTxs, List.flatMap_cons]

theorem heapTxs_advance (it : HItem) (r : List HItem) : heapTxs (it.advance.toList ++ r) = it.rest ++ heapTxs r := by
  unfold HItem.advance
  cases it.rest with
  | nil => rfl
  | cons t ts => exact heapTxs_cons _ r

theorem initHeap_cons (b : List Tx) (bs : List (List Tx)) :
    initHeap (b :: bs) = (HItem.ofBunch b).toList ++ initHeap bs := by
  unfold initHeap
  rw [List.filterMap_cons]
  cases HItem.ofBunch b <;> rfl

theorem heapTxs_initHeap : ∀ bunches : List (List Tx), heapTxs (initHeap bunches) = bunches.flatten
  | [] => rfl
  | b :: bs => by
    rw [initHeap_cons, List.flatten_cons, ← heapTxs_initHeap bs]
    cases b with
    | nil => rfl
    | cons t ts => exact heapTxs_cons _ _

/-! ### distinct hashes in a heap -/

def NodupH (heap : List HItem) : Prop := ((heapTxs heap).map (·.hash)).Nodup

theorem NodupH.initHeap {bunches : List (List Tx)} (hn : (bunches.flatten.map (·.hash)).Nodup) :
    NodupH (initHeap bunches) := by
  rw [NodupH, heapTxs_initHeap]
  exact hn

theorem heapTxs_perm {heap heap' : List HItem} (hp : heap.Perm heap') : (heapTxs heap).Perm (heapTxs heap') :=
  List.Perm.flatMap_right _ hp

theorem NodupH.perm {heap heap' : List HItem} (hn : NodupH heap) (hp : heap.Perm heap') : NodupH heap' :=
  (((heapTxs_perm hp).map (fun t : Tx => t.hash)).nodup_iff).mp hn

theorem NodupH.of_sublist {heap heap' : List HItem} (hn : NodupH heap) (hs : (heapTxs heap').Sublist (heapTxs heap)) :
    NodupH heap' :=
  List.Nodup.sublist (hs.map (fun t : Tx => t.hash)) hn

theorem NodupH.tail {it : HItem} {r : List HItem} (hn : NodupH (it :: r)) : NodupH r := by
  apply hn.of_sublist
  rw [heapTxs_cons]
  exact (List.sublist_append_right _ _).cons _

/-- putting the advanced (possibly relabelled) popped item back keeps the hashes distinct -/
theorem NodupH.requeue {it it2 : HItem} {r : List HItem} (hn : NodupH (it :: r)) (hr : it2.rest = it.rest) :
    NodupH (it2.advance.toList ++ r) := by
  apply hn.of_sublist
  rw [heapTxs_advance, hr, heapTxs_cons]
  exact (List.Sublist.refl _).cons _

theorem NodupH.advance {it it2 it' : HItem} {r : List HItem} (hn : NodupH (it :: r)) (hr : it2.rest = it.rest)
    (h : it2.advance = some it') : NodupH (it' :: r) := by
  have := hn.requeue hr
  rwa [h] at this

theorem curs_sublist : ∀ heap : List HItem, (heap.map (·.cur)).Sublist (heapTxs heap)
  | [] => by simp [heapTxs]
  | it :: r => by
    rw [heapTxs_cons, List.map_cons]
    exact ((curs_sublist r).trans (List.sublist_append_right _ _)).cons_cons _

theorem NodupH.curs {heap : List HItem} (hn : NodupH heap) : (heap.map (·.cur.hash)).Nodup := by
  have h := List.Nodup.sublist ((curs_sublist heap).map (fun t : Tx => t.hash)) hn
  rw [List.map_map] at h
  exact h

end SV.TxCache
