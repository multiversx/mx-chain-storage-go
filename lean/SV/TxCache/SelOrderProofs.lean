/-
  SV.TxCache.SelOrderProofs — property C03 of the selection loop:
  the result does not depend on the order of the heap / of the bunches, and lowering the limits
  (count, gas, time budget) yields a prefix of the result.
-/
import SV.TxCache.OrderProofs
import SV.TxCache.SelStep
namespace SV.TxCache

theorem selectLoop_perm (v : Variant) (s : Session) (q : SelParams) :
    ∀ (fuel : Nat) (heap heap' : List HItem) (consumed : Bytes → Nat) (acc : Nat) (out : List Tx),
      heap.Perm heap' → NodupH heap →
      selectLoop v (popBest v) s q fuel heap consumed acc out = selectLoop v (popBest v) s q fuel heap' consumed acc out := by
  intro fuel
  induction fuel with
  | zero => intros; rfl
  | succ n ih =>
    intro heap heap' consumed acc out hp hn
    cases hpk : popBest v heap with
    | none =>
      have e := (popBy_none _ heap).mp hpk
      subst e
      have e' := hp.nil_eq
      subst e'
      rfl
    | some p =>
      obtain ⟨it, r⟩ := p
      obtain ⟨r', hpk', hrr⟩ :=
        popBy_perm_invariant (moreValuable v) heap heap' it r (popBest_strictTotalOn v heap) hn.curs hp hpk
      have hpk' : popBest v heap' = some (it, r') := hpk'
      have hn1 : NodupH (it :: r) := hn.perm (popBy_perm _ heap it r hpk).symm
      rw [selectLoop_some hpk, selectLoop_some hpk']
      refine ite_congr rfl (fun _ => rfl) (fun _ => ?_)
      cases classify s consumed it with
      | dropSender => exact ih r r' _ _ _ hrr hn1.tail
      | skipTx => exact ih _ _ _ _ _ (hrr.append_left _) (hn1.requeue rfl)
      | take =>
        exact ih _ _ _ _ _ (hrr.append_left _) (hn1.requeue (it2 := { it with latest := some it.cur.nonce }) rfl)

theorem bunchesTotal_perm {bunches bunches' : List (List Tx)} (hp : bunches.Perm bunches') :
    bunchesTotal bunches = bunchesTotal bunches' :=
  (hp.map List.length).sum_nat

/-- C03: selection is independent of the order of the bunches (map iteration order, insertion order, chunk count) -/
theorem selectFromBunches_perm (v : Variant) (s : Session) (q : SelParams) (bunches bunches' : List (List Tx))
    (hp : bunches.Perm bunches') (hn : (bunches.flatten.map (·.hash)).Nodup) :
    selectFromBunches v s q bunches = selectFromBunches v s q bunches' := by
  unfold selectFromBunches
  rw [← bunchesTotal_perm hp]
  exact selectLoop_perm v s q _ _ _ _ _ _ (hp.filterMap _) (NodupH.initHeap hn)

structure Stricter (q' q : SelParams) : Prop where
  maxNum : q'.maxNum ≤ q.maxNum
  gasReq : q'.gasReq ≤ q.gasReq
  stop : ∀ n, q.stop n = true → q'.stop n = true
  interval : q'.interval = q.interval

theorem Stricter.stopsAt {v : Variant} (hv : v.gasWraps = false) {q' q : SelParams} (hs : Stricter q' q)
    {acc : Nat} {out : List Tx} {it : HItem} (h : stopsAt v q acc out it = true) : stopsAt v q' acc out it = true := by
  simp only [SV.TxCache.stopsAt, Bool.or_eq_true, Bool.and_eq_true, decide_eq_true_eq] at h ⊢
  rcases h with (h | h) | h
  · simp only [gasExceeded, hv, Bool.false_eq_true, if_false, decide_eq_true_eq] at h ⊢
    exact Or.inl (Or.inl (Nat.lt_of_le_of_lt hs.gasReq h))
  · exact Or.inl (Or.inr (Nat.le_trans hs.maxNum h))
  · exact Or.inr ⟨hs.interval ▸ h.1, hs.stop _ h.2⟩

theorem selectLoop_extends (v : Variant) (pick : List HItem → Option (HItem × List HItem)) (s : Session) (q : SelParams)
    (fuel : Nat) (heap : List HItem) (consumed : Bytes → Nat) (acc : Nat) (out : List Tx) :
    out <+: (selectLoop v pick s q fuel heap consumed acc out).1 :=
  selectLoop_induct_out v pick s q (fun _ _ o => out <+: o) (fun r => out <+: r.1) (fun _ _ _ h => h)
    (fun _ _ _ _ h _ _ _ => h.trans (List.prefix_append _ _)) fuel heap consumed acc out (List.prefix_refl _)

/-- C03: lowering maxNum, gasRequested or the time budget yields a prefix of the result -/
theorem selectLoop_prefix (v : Variant) (hv : v.gasWraps = false) (pick : List HItem → Option (HItem × List HItem))
    (s : Session) (q' q : SelParams) (hs : Stricter q' q) :
    ∀ (fuel : Nat) (heap : List HItem) (consumed : Bytes → Nat) (acc : Nat) (out : List Tx),
      (selectLoop v pick s q' fuel heap consumed acc out).1 <+: (selectLoop v pick s q fuel heap consumed acc out).1 := by
  intro fuel
  induction fuel with
  | zero => intros; exact List.prefix_refl _
  | succ n ih =>
    intro heap consumed acc out
    have hext := selectLoop_extends v pick s q (n + 1) heap consumed acc out
    cases hpk : pick heap with
    | none => rw [selectLoop_none hpk, selectLoop_none hpk]; exact List.prefix_refl _
    | some p =>
      obtain ⟨it, r⟩ := p
      rw [selectLoop_some (q := q') hpk]
      by_cases hs' : stopsAt v q' acc out it = true
      · rw [if_pos hs']; exact hext
      have hs : ¬ stopsAt v q acc out it = true := fun h => hs' (hs.stopsAt hv h)
      rw [selectLoop_some hpk, if_neg hs', if_neg hs]
      cases classify s consumed it with
      | dropSender => exact ih _ _ _ _
      | skipTx => exact ih _ _ _ _
      | take => exact ih _ _ _ _

theorem selectFromBunches_prefix (v : Variant) (hv : v.gasWraps = false) (s : Session) (q' q : SelParams) (hs : Stricter q' q)
    (bunches : List (List Tx)) : (selectFromBunches v s q' bunches).1 <+: (selectFromBunches v s q bunches).1 :=
  selectLoop_prefix v hv (popBest v) s q' q hs _ _ _ _ _

end SV.TxCache
