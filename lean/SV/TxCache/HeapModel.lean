/-
  SV.TxCache.HeapModel — justification of the `popBy` abstraction of Model.lean.

  A functional model of Go's `container/heap` (binary heap in a slice: children of `i` at `2i+1`, `2i+2`;
  `up`, `down`, `Push`, `Pop` transcribed from the Go source, loops by fuel) over an arbitrary element type with a
  comparison `less` ("`less a b`" = `a` must come out before `b`).

  * `HeapInv` is preserved by `push` and `pop`; both keep the content up to permutation; `pop` returns the root,
    which no remaining element beats (and which beats every remaining element when the content has no duplicates).
  * for `less a b := better a.cur b.cur` on `HItem`s with pairwise distinct `cur.hash`, `pop` returns exactly the item
    that `popBy better` returns on any list holding the same content, and the remainders are permutations.
  * `selectLoopHeap` (the selection loop threading the real heap) computes the same result as `selectLoop` with
    `popBest`.
-/
import SV.TxCache.OrderProofs
import SV.TxCache.SelStep
namespace SV.TxCache.Heap

variable {α : Type}

/-! ### the order hypotheses -/

structure StrictTotal (less : α → α → Bool) (S : α → Prop) : Prop where
  irrefl : ∀ a, less a a = false
  trans : ∀ a b c, less a b = true → less b c = true → less a c = true
  total : ∀ a b, S a → S b → a ≠ b → less a b = true ∨ less b a = true

theorem StrictTotal.asymm {less : α → α → Bool} {S : α → Prop} (ho : StrictTotal less S) {a b : α}
    (h : less a b = true) : less b a = false :=
  asymm_of_irrefl_trans ho.irrefl ho.trans h

theorem StrictTotal.ntrans {less : α → α → Bool} {S : α → Prop} (ho : StrictTotal less S) {x y z : α}
    (hx : S x) (hy : S y) (hz : S z) (h1 : less x y = false) (h2 : less y z = false) : less x z = false := by
  by_cases e1 : x = y
  · subst e1; exact h2
  · by_cases e2 : y = z
    · subst e2; exact h1
    · have h3 : less y x = true := (ho.total x y hx hy e1).resolve_left (Bool.eq_false_iff.mp h1)
      have h4 : less z y = true := (ho.total y z hy hz e2).resolve_left (Bool.eq_false_iff.mp h2)
      exact ho.asymm (ho.trans z y x h4 h3)

theorem StrictTotal.mono {less : α → α → Bool} {S S' : α → Prop} (ho : StrictTotal less S)
    (h : ∀ x, S' x → S x) : StrictTotal less S' :=
  ⟨ho.irrefl, ho.trans, fun a b ha hb => ho.total a b (h a ha) (h b hb)⟩

/-! ### the slice: the `heap.Interface` methods `Less(j, i)`, `Swap(i, j)`, and the child indexes `2i+1`, `2i+2` -/

/-- `h.Less(j, i)` (false outside the slice, where Go would panic; never reached by `up`/`down`) -/
def lessAt (less : α → α → Bool) (a : Array α) (j i : Nat) : Bool :=
  match a[j]?, a[i]? with
  | some x, some y => less x y
  | _, _ => false

def child (p c : Nat) : Prop := c = 2 * p + 1 ∨ c = 2 * p + 2

theorem child.lt {p c : Nat} (h : child p c) : p < c := by unfold child at h; omega

theorem child.parent {p c : Nat} (h : child p c) : (c - 1) / 2 = p := by
  rcases h with rfl | rfl
  · exact Nat.mul_div_cancel_left p (by decide)
  · show (2 * p + 1) / 2 = p
    omega

theorem child.unique {p q c : Nat} (h : child p c) (h' : child q c) : p = q := h.parent.symm.trans h'.parent

theorem child_parent {c : Nat} (h : c ≠ 0) : child ((c - 1) / 2) c := by
  cases c with
  | zero => exact absurd rfl h
  | succ k => rw [Nat.add_sub_cancel]; unfold child; omega

def tr (i j k : Nat) : Nat := if k = i then j else if k = j then i else k

theorem tr_left (i j : Nat) : tr i j i = j := by simp [tr]
theorem tr_right (i j : Nat) : tr i j j = i := by
  unfold tr
  split
  · rename_i h; exact h
  · simp
theorem tr_ne {i j k : Nat} (h1 : k ≠ i) (h2 : k ≠ j) : tr i j k = k := by simp [tr, h1, h2]

theorem getElem?_swap (a : Array α) {i j : Nat} (k : Nat) (hi : i < a.size) (hj : j < a.size) :
    (a.swapIfInBounds i j)[k]? = a[tr i j k]? := by
  rw [Array.swapIfInBounds_def, dif_pos hi, dif_pos hj, Array.getElem?_swap]
  by_cases hj' : j = k
  · rw [if_pos hj', ← hj', tr_right, Array.getElem?_eq_getElem hi]
  · rw [if_neg hj']
    by_cases hi' : i = k
    · rw [if_pos hi', ← hi', tr_left, Array.getElem?_eq_getElem hj]
    · rw [if_neg hi', tr_ne (Ne.symm hi') (Ne.symm hj')]

theorem swap_perm (a : Array α) (i j : Nat) : (a.swapIfInBounds i j).toList.Perm a.toList := by
  rw [Array.swapIfInBounds_def]
  split
  · split
    · exact Array.perm_iff_toList_perm.mp (Array.swap_perm _ _)
    · exact List.Perm.refl _
  · exact List.Perm.refl _

theorem lessAt_congr {less : α → α → Bool} {a b : Array α} {j i : Nat} (hj : b[j]? = a[j]?) (hi : b[i]? = a[i]?) :
    lessAt less b j i = lessAt less a j i := by
  unfold lessAt
  rw [hj, hi]

theorem lessAt_swap (less : α → α → Bool) (a : Array α) {i j : Nat} (hi : i < a.size) (hj : j < a.size) (c p : Nat) :
    lessAt less (a.swapIfInBounds i j) c p = lessAt less a (tr i j c) (tr i j p) := by
  unfold lessAt
  rw [getElem?_swap a c hi hj, getElem?_swap a p hi hj]

theorem lessAt_bounds {less : α → α → Bool} {a : Array α} {j i : Nat} (h : lessAt less a j i = true) :
    j < a.size ∧ i < a.size := by
  unfold lessAt at h
  split at h
  · rename_i x y h1 h2
    exact ⟨(Array.getElem?_eq_some_iff.mp h1).1, (Array.getElem?_eq_some_iff.mp h2).1⟩
  · exact absurd h (by decide)

theorem lessAt_oob_left {less : α → α → Bool} {a : Array α} {j i : Nat} (h : a.size ≤ j) : lessAt less a j i = false := by
  cases e : lessAt less a j i with
  | false => rfl
  | true => have := (lessAt_bounds e).1; omega

theorem lessAt_eq {less : α → α → Bool} {a : Array α} {j i : Nat} {x y : α} (hj : a[j]? = some x) (hi : a[i]? = some y) :
    lessAt less a j i = less x y := by
  unfold lessAt
  rw [hj, hi]

theorem lessAt_getElem {less : α → α → Bool} {a : Array α} {j i : Nat} (hj : j < a.size) (hi : i < a.size) :
    lessAt less a j i = less a[j] a[i] :=
  lessAt_eq (Array.getElem?_eq_getElem hj) (Array.getElem?_eq_getElem hi)

section order
variable {less : α → α → Bool} {S : α → Prop}

theorem lessAt_irrefl (ho : StrictTotal less S) (a : Array α) (i : Nat) : lessAt less a i i = false := by
  unfold lessAt
  cases a[i]? with
  | none => rfl
  | some x => exact ho.irrefl x

theorem lessAt_trans (ho : StrictTotal less S) (a : Array α) {i j k : Nat}
    (h1 : lessAt less a i j = true) (h2 : lessAt less a j k = true) : lessAt less a i k = true := by
  obtain ⟨hi, hj⟩ := lessAt_bounds h1
  obtain ⟨_, hk⟩ := lessAt_bounds h2
  rw [lessAt_getElem hi hj] at h1
  rw [lessAt_getElem hj hk] at h2
  rw [lessAt_getElem hi hk]
  exact ho.trans _ _ _ h1 h2

theorem lessAt_asymm (ho : StrictTotal less S) (a : Array α) {i j : Nat}
    (h : lessAt less a i j = true) : lessAt less a j i = false :=
  asymm_of_irrefl_trans (lessAt_irrefl ho a) (fun _ _ _ => lessAt_trans ho a) h

theorem lessAt_ntrans (ho : StrictTotal less S) {a : Array α} (hS : ∀ x ∈ a.toList, S x) {i j k : Nat} (hj : j < a.size)
    (h1 : lessAt less a i j = false) (h2 : lessAt less a j k = false) : lessAt less a i k = false := by
  have hm : ∀ (n : Nat) (x : α), a[n]? = some x → S x := fun n x e =>
    hS x (Array.mem_toList_iff.mpr (Array.mem_of_getElem? e))
  unfold lessAt at *
  cases hi : a[i]? with
  | none => rfl
  | some x =>
    cases hk : a[k]? with
    | none => rfl
    | some z =>
      have hjy : a[j]? = some a[j] := Array.getElem?_eq_getElem hj
      simp only [hi, hjy, hk] at h1 h2 ⊢
      exact ho.ntrans (hm i x hi) (hm j _ hjy) (hm k z hk) h1 h2

end order

/-! ### `up`, `down`, `Push`, `Pop` (container/heap) -/

/-- `up(h, j)`; `(j-1)/2 == j` happens exactly for `j = 0` (Go's division truncates towards zero) -/
def up (less : α → α → Bool) : Nat → Array α → Nat → Array α
  | 0, a, _ => a
  | fuel + 1, a, j =>
    if j = 0 then a
    else if lessAt less a j ((j - 1) / 2) then up less fuel (a.swapIfInBounds ((j - 1) / 2) j) ((j - 1) / 2)
    else a

/-- `j := j1; if j2 := j1 + 1; j2 < n && h.Less(j2, j1) { j = j2 }` -/
def minChild (less : α → α → Bool) (n : Nat) (a : Array α) (i : Nat) : Nat :=
  if 2 * i + 2 < n && lessAt less a (2 * i + 2) (2 * i + 1) then 2 * i + 2 else 2 * i + 1

/-- `down(h, i, n)` (the boolean result is used only by `heap.Fix`/`heap.Remove` and is not modelled) -/
def down (less : α → α → Bool) (n : Nat) : Nat → Array α → Nat → Array α
  | 0, a, _ => a
  | fuel + 1, a, i =>
    if 2 * i + 1 ≥ n then a
    else if lessAt less a (minChild less n a i) i then
      down less n fuel (a.swapIfInBounds i (minChild less n a i)) (minChild less n a i)
    else a

/-- `heap.Push`: append, then `up(h, h.Len()-1)` -/
def push (less : α → α → Bool) (a : Array α) (x : α) : Array α := up less a.size (a.push x) a.size

/-- the slice after `h.Swap(0, n); down(h, 0, n)` with `n = h.Len() - 1` -/
def popArr (less : α → α → Bool) (a : Array α) : Array α :=
  down less (a.size - 1) (a.size - 1) (a.swapIfInBounds 0 (a.size - 1)) 0

/-- `heap.Pop`: `n := h.Len()-1; h.Swap(0, n); down(h, 0, n); return h.Pop()` (`none`: empty heap, where Go panics) -/
def pop (less : α → α → Bool) (a : Array α) : Option (α × Array α) :=
  if a.size = 0 then none
  else (popArr less a).back?.map (fun x => (x, (popArr less a).pop))

/-! ### the heap invariant -/

def HeapUpto (less : α → α → Bool) (a : Array α) (n : Nat) : Prop :=
  ∀ p c, c < n → child p c → lessAt less a c p = false

def HeapInv (less : α → α → Bool) (a : Array α) : Prop :=
  ∀ p c, child p c → lessAt less a c p = false

theorem heapInv_iff (less : α → α → Bool) (a : Array α) :
    HeapInv less a ↔
      ∀ (p c : Nat) (hp : p < a.size) (hc : c < a.size), (c = 2 * p + 1 ∨ c = 2 * p + 2) → less a[c] a[p] = false := by
  constructor
  · intro h p c hp hc hpc
    rw [← lessAt_getElem (less := less) hc hp]
    exact h p c hpc
  · intro h p c hpc
    by_cases hc : c < a.size
    · have hp : p < a.size := Nat.lt_trans hpc.lt hc
      rw [lessAt_getElem hc hp]
      exact h p c hp hc hpc
    · exact lessAt_oob_left (Nat.le_of_not_lt hc)

theorem HeapInv.of_upto {less : α → α → Bool} {a : Array α} (h : HeapUpto less a a.size) : HeapInv less a := by
  intro p c hpc
  by_cases hc : c < a.size
  · exact h p c hc hpc
  · exact lessAt_oob_left (by omega)

theorem heapInv_empty (less : α → α → Bool) : HeapInv less (#[] : Array α) := by
  intro p c _
  exact lessAt_oob_left (by simp)

section proofs
variable {less : α → α → Bool} {S : α → Prop}

/-- the invariant of the `down` loop: the heap property may fail only between `i` and its children, and the children of
    `i` are not better than the parent of `i` -/
structure DownInv (less : α → α → Bool) (a : Array α) (n i : Nat) : Prop where
  other : ∀ p c, c < n → child p c → p ≠ i → lessAt less a c p = false
  grand : ∀ g c, child g i → child i c → c < n → lessAt less a c g = false

theorem minChild_lt (less : α → α → Bool) (a : Array α) {n i : Nat} (h : 2 * i + 1 < n) :
    child i (minChild less n a i) ∧ minChild less n a i < n := by
  unfold minChild
  split
  · next hc =>
    rw [Bool.and_eq_true, decide_eq_true_eq] at hc
    exact ⟨Or.inr rfl, hc.1⟩
  · exact ⟨Or.inl rfl, h⟩

theorem minChild_min (ho : StrictTotal less S) (a : Array α) (n i : Nat) :
    ∀ o, child i o → o < n → lessAt less a o (minChild less n a i) = false := by
  intro o ho' hon
  unfold minChild
  split
  · next hc =>
    rw [Bool.and_eq_true, decide_eq_true_eq] at hc
    rcases ho' with rfl | rfl
    · exact lessAt_asymm ho a hc.2
    · exact lessAt_irrefl ho a _
  · next hc =>
    rcases ho' with rfl | rfl
    · exact lessAt_irrefl ho a _
    · rw [Bool.and_eq_true, decide_eq_true_eq, not_and, Bool.not_eq_true] at hc
      exact hc hon

theorem DownInv.leaf {a : Array α} {n i : Nat} (hinv : DownInv less a n i) (h : n ≤ 2 * i + 1) : HeapUpto less a n := by
  intro p c hc hpc
  apply hinv.other p c hc hpc
  intro e
  subst e
  unfold child at hpc
  omega

theorem DownInv.stop (ho : StrictTotal less S) {a : Array α} (hS : ∀ x ∈ a.toList, S x) {n i : Nat} (hn : n ≤ a.size)
    (hinv : DownInv less a n i) (h1 : 2 * i + 1 < n) (hlt : lessAt less a (minChild less n a i) i = false) :
    HeapUpto less a n := by
  intro p c hc hpc
  by_cases e : p = i
  · subst e
    exact lessAt_ntrans ho hS (Nat.lt_of_lt_of_le (minChild_lt less a h1).2 hn) (minChild_min ho a n p c hpc hc) hlt
  · exact hinv.other p c hc hpc e

theorem DownInv.step (ho : StrictTotal less S) {a : Array α} {n i : Nat} (hn : n ≤ a.size)
    (hinv : DownInv less a n i) (h1 : 2 * i + 1 < n) (hlt : lessAt less a (minChild less n a i) i = true) :
    DownInv less (a.swapIfInBounds i (minChild less n a i)) n (minChild less n a i) := by
  obtain ⟨hc, hjn⟩ := minChild_lt less a h1
  have hmin := minChild_min ho a n i
  generalize minChild less n a i = j at *
  have hij := hc.lt
  have hj : j < a.size := Nat.lt_of_lt_of_le hjn hn
  have hi : i < a.size := Nat.lt_trans hij hj
  constructor
  · intro p c hcn hpc hpj
    rw [lessAt_swap less a hi hj]
    by_cases hpi : p = i
    · subst hpi
      rw [tr_left]
      by_cases hcj : c = j
      · subst hcj; rw [tr_right]; exact lessAt_asymm ho a hlt
      · rw [tr_ne (Nat.ne_of_gt hpc.lt) hcj]; exact hmin c hpc hcn
    · rw [tr_ne hpi hpj]
      have hcj : c ≠ j := fun e => hpi (hpc.unique (e ▸ hc))
      by_cases hci : c = i
      · subst hci; rw [tr_left]; exact hinv.grand p j hpc hc hjn
      · rw [tr_ne hci hcj]; exact hinv.other p c hcn hpc hpi
  · intro g c hgj hjc hcn
    cases hgj.unique hc
    rw [lessAt_swap less a hi hj, tr_left, tr_ne (Nat.ne_of_gt (Nat.lt_trans hij hjc.lt)) (Nat.ne_of_gt hjc.lt)]
    exact hinv.other j c hcn hjc (Nat.ne_of_gt hij)

theorem down_frame (n fuel : Nat) (a : Array α) (i : Nat) (hn : n ≤ a.size) :
    (down less n fuel a i).size = a.size ∧ (down less n fuel a i).toList.Perm a.toList ∧
      ∀ k, n ≤ k → (down less n fuel a i)[k]? = a[k]? := by
  fun_induction down less n fuel a i with
  | case1 a i => exact ⟨rfl, .refl _, fun _ _ => rfl⟩
  | case2 fuel a i h1 => exact ⟨rfl, .refl _, fun _ _ => rfl⟩
  | case3 fuel a i h1 hlt ih =>
    obtain ⟨hc, hjn⟩ := minChild_lt less a (Nat.lt_of_not_ge h1)
    have hj := Nat.lt_of_lt_of_le hjn hn
    obtain ⟨e1, e2, e3⟩ := ih (by rw [Array.size_swapIfInBounds]; exact hn)
    refine ⟨e1.trans Array.size_swapIfInBounds, e2.trans (swap_perm a _ _), fun k hk => ?_⟩
    have hjk := Nat.lt_of_lt_of_le hjn hk
    rw [e3 k hk, getElem?_swap a k (Nat.lt_trans hc.lt hj) hj, tr_ne (Nat.ne_of_gt (Nat.lt_trans hc.lt hjk)) (Nat.ne_of_gt hjk)]
  | case4 fuel a i h1 hlt => exact ⟨rfl, .refl _, fun _ _ => rfl⟩

theorem down_heap (ho : StrictTotal less S) (n fuel : Nat) (a : Array α) (i : Nat) (hn : n ≤ a.size)
    (hS : ∀ x ∈ a.toList, S x) (hf : n ≤ i + fuel) (hinv : DownInv less a n i) :
    HeapUpto less (down less n fuel a i) n := by
  fun_induction down less n fuel a i with
  | case1 a i => exact hinv.leaf (by omega)
  | case2 fuel a i h1 => exact hinv.leaf h1
  | case3 fuel a i h1 hlt ih =>
    have h1 : 2 * i + 1 < n := Nat.lt_of_not_ge h1
    have hij := (minChild_lt less a h1).1.lt
    exact ih (by rw [Array.size_swapIfInBounds]; exact hn) (fun x hx => hS x ((swap_perm a _ _).mem_iff.mp hx))
      (by omega) (hinv.step ho hn h1 hlt)
  | case4 fuel a i h1 hlt => exact hinv.stop ho hS hn (Nat.lt_of_not_ge h1) (Bool.eq_false_iff.mpr hlt)

/-- the invariant of the `up` loop: the heap property may fail only between `j` and its parent, and the children of
    `j` are not better than the parent of `j` -/
structure UpInv (less : α → α → Bool) (a : Array α) (j : Nat) : Prop where
  other : ∀ p c, child p c → c ≠ j → lessAt less a c p = false
  grand : ∀ g c, child g j → child j c → lessAt less a c g = false

theorem UpInv.root {a : Array α} (hinv : UpInv less a 0) : HeapInv less a := by
  intro p c hpc
  exact hinv.other p c hpc (Nat.ne_of_gt (Nat.zero_lt_of_lt hpc.lt))

theorem UpInv.stop {a : Array α} {j : Nat} (hinv : UpInv less a j) (hlt : lessAt less a j ((j - 1) / 2) = false) :
    HeapInv less a := by
  intro p c hpc
  by_cases e : c = j
  · subst e
    rw [← hpc.parent]
    exact hlt
  · exact hinv.other p c hpc e

theorem UpInv.step (ho : StrictTotal less S) {a : Array α} (hS : ∀ x ∈ a.toList, S x) {j : Nat} (hj0 : j ≠ 0)
    (hinv : UpInv less a j) (hlt : lessAt less a j ((j - 1) / 2) = true) :
    UpInv less (a.swapIfInBounds ((j - 1) / 2) j) ((j - 1) / 2) := by
  have hc := child_parent hj0
  generalize (j - 1) / 2 = i at *
  obtain ⟨hjs, his⟩ := lessAt_bounds hlt
  have hij := hc.lt
  constructor
  · intro p c hpc hci
    rw [lessAt_swap less a his hjs]
    by_cases hcj : c = j
    · subst hcj
      cases hpc.unique hc
      rw [tr_right, tr_left]; exact lessAt_asymm ho a hlt
    · rw [tr_ne hci hcj]
      by_cases hpi : p = i
      · subst hpi
        rw [tr_left]
        -- a sibling of `j` that beat `j` would beat their parent
        exact Bool.eq_false_iff.mpr fun h => Bool.eq_false_iff.mp (hinv.other p c hpc hcj) (lessAt_trans ho a h hlt)
      · by_cases hpj : p = j
        · subst hpj; rw [tr_right]; exact hinv.grand i c hc hpc
        · rw [tr_ne hpi hpj]; exact hinv.other p c hpc hcj
  · intro g c hgi hic
    rw [lessAt_swap less a his hjs, tr_ne (Nat.ne_of_lt hgi.lt) (Nat.ne_of_lt (Nat.lt_trans hgi.lt hij))]
    have hig : lessAt less a i g = false := hinv.other g i hgi (Nat.ne_of_lt hij)
    by_cases hcj : c = j
    · subst hcj; rw [tr_right]; exact hig
    · rw [tr_ne (Nat.ne_of_gt hic.lt) hcj]
      exact lessAt_ntrans ho hS his (hinv.other i c hic hcj) hig

theorem up_perm (fuel : Nat) (a : Array α) (j : Nat) : (up less fuel a j).toList.Perm a.toList := by
  fun_induction up less fuel a j with
  | case1 a j => exact .refl _
  | case2 fuel a => exact .refl _
  | case3 fuel a j h0 hlt ih => exact ih.trans (swap_perm a _ _)
  | case4 fuel a j h0 hlt => exact .refl _

theorem up_heap (ho : StrictTotal less S) (fuel : Nat) (a : Array α) (j : Nat) (hS : ∀ x ∈ a.toList, S x)
    (hf : j ≤ fuel) (hinv : UpInv less a j) : HeapInv less (up less fuel a j) := by
  fun_induction up less fuel a j with
  | case1 a j => cases Nat.le_zero.mp hf; exact hinv.root
  | case2 fuel a => exact hinv.root
  | case3 fuel a j h0 hlt ih =>
    have hij := (child_parent h0).lt
    exact ih (fun x hx => hS x ((swap_perm a _ _).mem_iff.mp hx)) (by omega) (hinv.step ho hS h0 hlt)
  | case4 fuel a j h0 hlt => exact hinv.stop (Bool.eq_false_iff.mpr hlt)

theorem push_perm (less : α → α → Bool) (a : Array α) (x : α) : (push less a x).toList.Perm (x :: a.toList) := by
  unfold push
  refine (up_perm _ _ _).trans ?_
  rw [Array.toList_push]
  exact List.perm_append_singleton x a.toList

theorem UpInv.push {a : Array α} (h : HeapInv less a) (x : α) : UpInv less (a.push x) a.size := by
  constructor
  · intro p c hpc hc
    by_cases hcs : c < a.size
    · have hps : p < a.size := Nat.lt_trans hpc.lt hcs
      rw [← h p c hpc]
      exact lessAt_congr (by rw [Array.getElem?_push, if_neg (Nat.ne_of_lt hcs)])
        (by rw [Array.getElem?_push, if_neg (Nat.ne_of_lt hps)])
    · exact lessAt_oob_left (by rw [Array.size_push]; omega)
  · intro g c _ hjc
    exact lessAt_oob_left (by rw [Array.size_push]; exact hjc.lt)

theorem push_heap (ho : StrictTotal less S) (a : Array α) (x : α) (hS : ∀ y ∈ a.toList, S y) (hx : S x)
    (h : HeapInv less a) : HeapInv less (push less a x) := by
  refine up_heap ho _ _ _ (fun y hy => ?_) (Nat.le_refl _) (UpInv.push h x)
  rw [Array.toList_push, List.mem_append, List.mem_singleton] at hy
  rcases hy with hy | rfl
  · exact hS y hy
  · exact hx

theorem HeapInv.root_min (ho : StrictTotal less S) {a : Array α} (hS : ∀ x ∈ a.toList, S x) (h : HeapInv less a) :
    ∀ k, lessAt less a k 0 = false := by
  intro k
  induction k using Nat.strongRecOn with
  | ind k ih =>
    by_cases hk0 : k = 0
    · subst hk0; exact lessAt_irrefl ho a 0
    · by_cases hk : k < a.size
      · have hc := child_parent hk0
        have hlt := hc.lt
        exact lessAt_ntrans ho hS (by omega) (h _ _ hc) (ih _ hlt)
      · exact lessAt_oob_left (Nat.le_of_not_lt hk)

theorem DownInv.swap_last {a : Array α} (h : HeapInv less a) (h0 : 0 < a.size) :
    DownInv less (a.swapIfInBounds 0 (a.size - 1)) (a.size - 1) 0 := by
  constructor
  · intro p c hc hpc hp0
    rw [lessAt_swap less a h0 (Nat.sub_lt h0 Nat.one_pos), tr_ne (Nat.ne_of_gt (Nat.zero_lt_of_lt hpc.lt)) (Nat.ne_of_lt hc),
      tr_ne hp0 (Nat.ne_of_lt (Nat.lt_trans hpc.lt hc))]
    exact h p c hpc
  · intro g c hg
    exact absurd hg.lt (Nat.not_lt_zero g)

theorem HeapUpto.pop {a : Array α} (h : HeapUpto less a (a.size - 1)) : HeapInv less a.pop := by
  intro p c hpc
  by_cases hc : c < a.size - 1
  · rw [← h p c hc hpc]
    exact lessAt_congr (by rw [Array.getElem?_pop, if_pos hc]) (by rw [Array.getElem?_pop, if_pos (Nat.lt_trans hpc.lt hc)])
  · exact lessAt_oob_left (by rw [Array.size_pop]; omega)

theorem popArr_spec (ho : StrictTotal less S) (a : Array α) (hS : ∀ x ∈ a.toList, S x) (h0 : 0 < a.size)
    (h : HeapInv less a) :
    (popArr less a).size = a.size ∧ (popArr less a).toList.Perm a.toList ∧
      (popArr less a)[a.size - 1]? = some a[0] ∧ HeapUpto less (popArr less a) (a.size - 1) := by
  have hsz1 : (a.swapIfInBounds 0 (a.size - 1)).size = a.size := Array.size_swapIfInBounds
  have hle : a.size - 1 ≤ (a.swapIfInBounds 0 (a.size - 1)).size := by rw [hsz1]; exact Nat.sub_le _ _
  have hperm1 := swap_perm a 0 (a.size - 1)
  obtain ⟨hsz, hperm, hlast⟩ := down_frame (less := less) (a.size - 1) (a.size - 1) _ 0 hle
  refine ⟨hsz.trans hsz1, hperm.trans hperm1, ?_, ?_⟩
  · unfold popArr
    rw [hlast _ (Nat.le_refl _), getElem?_swap a _ h0 (Nat.sub_lt h0 Nat.one_pos), tr_right]
    exact Array.getElem?_eq_getElem h0
  · exact down_heap ho _ _ _ 0 hle (fun x hx => hS x (hperm1.mem_iff.mp hx)) (Nat.le_of_eq (Nat.zero_add _).symm)
      (DownInv.swap_last h h0)

/-- `heap.Pop` on a non-empty heap: returns the root `x` and a heap `r` with `x :: r` a permutation of the old
    content; no element of `r` beats `x` -/
theorem pop_spec (ho : StrictTotal less S) (a : Array α) (hS : ∀ x ∈ a.toList, S x) (hne : a.size ≠ 0)
    (h : HeapInv less a) :
    ∃ x r, pop less a = some (x, r) ∧ a[0]? = some x ∧ (x :: r.toList).Perm a.toList ∧ HeapInv less r ∧
      ∀ y ∈ r.toList, less y x = false := by
  have h0 : 0 < a.size := Nat.pos_of_ne_zero hne
  obtain ⟨hsz, hperm, hlast, hheap⟩ := popArr_spec ho a hS h0 h
  have hback : (popArr less a).back? = some a[0] := by rw [Array.back?_eq_getElem?, hsz]; exact hlast
  have hpermr : (a[0] :: (popArr less a).pop.toList).Perm a.toList := by
    obtain ⟨r, hr⟩ := Array.back?_eq_some_iff.mp hback
    refine List.Perm.trans ?_ hperm
    rw [hr, Array.pop_push, Array.toList_push]
    exact (List.perm_append_singleton _ _).symm
  refine ⟨a[0], (popArr less a).pop, ?_, Array.getElem?_eq_getElem h0, hpermr, ?_, ?_⟩
  · unfold pop
    rw [if_neg hne, hback]; rfl
  · apply HeapUpto.pop
    rw [hsz]; exact hheap
  · intro y hy
    obtain ⟨k, hk⟩ := Array.mem_iff_getElem?.mp (Array.mem_toList_iff.mp (hpermr.mem_iff.mp (List.mem_cons_of_mem _ hy)))
    rw [← lessAt_eq (less := less) hk (Array.getElem?_eq_getElem h0)]
    exact h.root_min ho hS k

theorem pop_none (less : α → α → Bool) (a : Array α) (h : a.size = 0) : pop less a = none := by
  unfold pop
  rw [if_pos h]

theorem pop_best (ho : StrictTotal less S) (a : Array α) (hS : ∀ x ∈ a.toList, S x) (hd : a.toList.Nodup)
    (h : HeapInv less a) (x : α) (r : Array α) (hp : pop less a = some (x, r)) :
    ∀ y ∈ r.toList, less x y = true := by
  have hne : a.size ≠ 0 := fun e => by rw [pop_none less a e] at hp; cases hp
  obtain ⟨x', r', hp', _, hperm, _, hmin⟩ := pop_spec ho a hS hne h
  rw [hp] at hp'
  simp only [Option.some.injEq, Prod.mk.injEq] at hp'
  obtain ⟨rfl, rfl⟩ := hp'
  intro y hy
  have hd' : (x :: r.toList).Nodup := hperm.nodup_iff.mpr hd
  have hne : x ≠ y := fun e => (List.nodup_cons.mp hd').1 (e ▸ hy)
  have hx : S x := hS x (hperm.mem_iff.mp List.mem_cons_self)
  have hy' : S y := hS y (hperm.mem_iff.mp (List.mem_cons_of_mem _ hy))
  exact (ho.total x y hx hy' hne).resolve_right (Bool.eq_false_iff.mp (hmin y hy))

end proofs

/-! ### the link to the model: `heap.Pop` returns what `popBy` returns -/

/-- the comparison of the transactions heap: items are compared by their current transaction -/
def lessH (better : Tx → Tx → Bool) (a b : HItem) : Bool := better a.cur b.cur

theorem strictTotal_lessH (better : Tx → Tx → Bool) (l : List HItem) (ho : StrictTotalOn better l)
    (hd : (l.map (·.cur.hash)).Nodup) : StrictTotal (lessH better) (· ∈ l) := by
  refine ⟨fun a => ho.irrefl a.cur, fun a b c => ho.trans a.cur b.cur c.cur, fun a b ha hb hne => ho.total a ha b hb ?_⟩
  -- two items of `l` with the same hash are the same item
  have hp : l.Pairwise (fun a b => a.cur.hash = b.cur.hash → a = b) :=
    (List.pairwise_map.mp hd).imp fun h e => absurd e h
  exact fun e => hne (hp.forall_of_forall_of_flip (fun _ _ _ => rfl) (hp.imp fun h e => (h e.symm).symm) ha hb e)

/-- `heap.Pop` on a heap whose content is (a permutation of) `l` returns the item `popBy` extracts from `l`; the
    remaining contents are permutations of each other and the remaining slice is again a heap -/
theorem pop_eq_popBy (better : Tx → Tx → Bool) (l : List HItem) (a : Array HItem)
    (ho : StrictTotalOn better l) (hd : (l.map (·.cur.hash)).Nodup)
    (hp : a.toList.Perm l) (hinv : HeapInv (lessH better) a)
    (b : HItem) (r : List HItem) (h : popBy better l = some (b, r)) :
    ∃ r', pop (lessH better) a = some (b, r') ∧ r'.toList.Perm r ∧ HeapInv (lessH better) r' := by
  have hst := strictTotal_lessH better l ho hd
  have hS : ∀ x ∈ a.toList, x ∈ l := fun x hx => hp.mem_iff.mp hx
  have hne : a.size ≠ 0 := by
    rw [← Array.length_toList, hp.length_eq]
    intro e
    rw [List.eq_nil_of_length_eq_zero e] at h
    cases h
  obtain ⟨x, r', hpop, _, hperm, hheap, hmin⟩ := pop_spec hst a hS hne hinv
  have hbr := popBy_perm better l b r h
  have hbest := popBy_best better l b r ho hd h
  have hP : (x :: r'.toList).Perm (b :: r) := hperm.trans (hp.trans hbr.symm)
  have hxb : x = b := by
    rcases List.mem_cons.mp (hP.mem_iff.mp List.mem_cons_self) with e | hxr
    · exact e
    · rcases List.mem_cons.mp (hP.mem_iff.mpr List.mem_cons_self) with e | hbr'
      · exact e.symm
      · exact absurd (hbest x hxr) (Bool.eq_false_iff.mp (hmin b hbr'))
  subst hxb
  exact ⟨r', hpop, hP.cons_inv, hheap⟩

theorem pop_none_of_popBy (better : Tx → Tx → Bool) (l : List HItem) (a : Array HItem) (hp : a.toList.Perm l)
    (h : popBy better l = none) : pop (lessH better) a = none := by
  have e := (popBy_none better l).mp h
  subst e
  exact pop_none _ a (by rw [← Array.length_toList]; exact hp.length_eq)

/-! ### the selection loop on the real heap -/

/-- the comparison installed by `newMaxTransactionsHeap` -/
def lessV (v : Variant) : HItem → HItem → Bool := lessH (moreValuable v)

/-- building a heap by successive `heap.Push` -/
def ofPushes (less : α → α → Bool) (l : List α) : Array α := l.foldl (push less) #[]

theorem foldl_push {less : α → α → Bool} {S : α → Prop} (ho : StrictTotal less S) : ∀ (l : List α) (a : Array α),
    (∀ x ∈ a.toList, S x) → (∀ x ∈ l, S x) → HeapInv less a →
    HeapInv less (l.foldl (push less) a) ∧ (l.foldl (push less) a).toList.Perm (a.toList ++ l)
  | [], a, _, _, h => ⟨h, by simp⟩
  | x :: xs, a, hS, hl, h => by
    have hx : S x := hl x List.mem_cons_self
    have hp := push_perm less a x
    obtain ⟨h1, h2⟩ := foldl_push ho xs (push less a x)
      (fun y hy => (List.mem_cons.mp (hp.mem_iff.mp hy)).elim (fun e => e ▸ hx) (hS y))
      (fun y hy => hl y (List.mem_cons_of_mem _ hy)) (push_heap ho a x hS hx h)
    exact ⟨h1, h2.trans ((hp.append_right xs).trans List.perm_middle.symm)⟩

theorem ofPushes_spec {less : α → α → Bool} {S : α → Prop} (ho : StrictTotal less S) (l : List α) (hl : ∀ x ∈ l, S x) :
    HeapInv less (ofPushes less l) ∧ (ofPushes less l).toList.Perm l := by
  have := foldl_push ho l #[] (by simp) hl (heapInv_empty less)
  simpa [ofPushes] using this

/-- `selectLoop` of Model.lean, threading a `container/heap` instead of the abstract `popBest` -/
def selectLoopHeap (v : Variant) (s : Session) (q : SelParams) :
    Nat → Array HItem → (Bytes → Nat) → Nat → List Tx → List Tx × Nat
  | 0, _, _, acc, out => (out, acc)
  | fuel + 1, heap, consumed, acc, out =>
    match pop (lessV v) heap with
    | none => (out, acc)
    | some (it, heap') =>
      if gasExceeded v acc it.cur.gasLimit q.gasReq then (out, acc)
      else if out.length ≥ q.maxNum then (out, acc)
      else if out.length % q.interval = 0 && q.stop out.length then (out, acc)
      else
        match classify s consumed it with
        | .dropSender => selectLoopHeap v s q fuel heap' consumed acc out
        | .skipTx =>
          match it.advance with
          | none => selectLoopHeap v s q fuel heap' consumed acc out
          | some it' => selectLoopHeap v s q fuel (push (lessV v) heap' it') consumed acc out
        | .take =>
          let t := it.cur
          let consumed' := bump (bump consumed t.sender t.value) t.payer t.fee
          let acc' := if v.gasWraps then (acc + t.gasLimit) % two64 else acc + t.gasLimit
          let itS := { it with latest := some t.nonce }
          match itS.advance with
          | none => selectLoopHeap v s q fuel heap' consumed' acc' (out ++ [t])
          | some it' => selectLoopHeap v s q fuel (push (lessV v) heap' it') consumed' acc' (out ++ [t])

/-- `selectTransactionsFromBunches` with the real heap: `heap.Init` on the empty heap, one `heap.Push` per bunch -/
def selectFromBunchesHeap (v : Variant) (s : Session) (q : SelParams) (bunches : List (List Tx)) : List Tx × Nat :=
  selectLoopHeap v s q (bunchesTotal bunches + 1) (ofPushes (lessV v) (initHeap bunches)) (fun _ => 0) 0 []

theorem strictTotal_lessV (v : Variant) (l : List HItem) (hn : NodupH l) : StrictTotal (lessV v) (· ∈ l) :=
  strictTotal_lessH (moreValuable v) l (popBest_strictTotalOn v l) hn.curs

structure HeapOf (v : Variant) (a : Array HItem) (l : List HItem) : Prop where
  perm : a.toList.Perm l
  nodup : NodupH l
  heap : HeapInv (lessV v) a

theorem HeapOf.pop {v : Variant} {a : Array HItem} {l : List HItem} (h : HeapOf v a l) {it : HItem} {r : List HItem}
    (hpk : popBest v l = some (it, r)) : ∃ r', pop (lessV v) a = some (it, r') ∧ HeapOf v r' r ∧ NodupH (it :: r) := by
  obtain ⟨r', hpop, hrr, hheap⟩ :=
    pop_eq_popBy (moreValuable v) l a (popBest_strictTotalOn v l) h.nodup.curs h.perm h.heap it r hpk
  have hn1 : NodupH (it :: r) := h.nodup.perm (popBy_perm _ l it r hpk).symm
  exact ⟨r', hpop, ⟨hrr, hn1.tail, hheap⟩, hn1⟩

theorem HeapOf.push {v : Variant} {a : Array HItem} {l : List HItem} (h : HeapOf v a l) {it : HItem}
    (hn : NodupH (it :: l)) : HeapOf v (push (lessV v) a it) (it :: l) :=
  ⟨(push_perm _ _ _).trans (h.perm.cons it), hn,
   push_heap (strictTotal_lessV v _ hn) a it (fun _ hy => List.mem_cons_of_mem _ (h.perm.mem_iff.mp hy))
     List.mem_cons_self h.heap⟩

/-- the loop on the real heap computes what the model's loop computes on any list with the same content -/
theorem selectLoopHeap_eq (v : Variant) (s : Session) (q : SelParams) :
    ∀ (fuel : Nat) (a : Array HItem) (l : List HItem) (consumed : Bytes → Nat) (acc : Nat) (out : List Tx),
      HeapOf v a l →
      selectLoopHeap v s q fuel a consumed acc out = selectLoop v (popBest v) s q fuel l consumed acc out := by
  intro fuel
  induction fuel with
  | zero => intros; rfl
  | succ n ih =>
    intro a l consumed acc out h
    cases hpk : popBest v l with
    | none =>
      have hpop : pop (lessV v) a = none := pop_none_of_popBy (moreValuable v) l a h.perm hpk
      simp only [selectLoop_none hpk, selectLoopHeap, hpop]
    | some p =>
      obtain ⟨it, r⟩ := p
      obtain ⟨r', hpop, hr, hn1⟩ := h.pop hpk
      rw [selectLoop_some hpk, selectLoopHeap, hpop]
      dsimp only
      rw [ite_chain_or]
      refine ite_congr rfl (fun _ => rfl) fun _ => ?_
      cases classify s consumed it with
      | dropSender => exact ih _ _ _ _ _ hr
      | skipTx =>
        dsimp only
        cases ha : it.advance with
        | none => exact ih _ _ _ _ _ hr
        | some it' => exact ih _ _ _ _ _ (hr.push (hn1.advance rfl ha))
      | take =>
        dsimp only
        cases ha : HItem.advance { it with latest := some it.cur.nonce } with
        | none => exact ih _ _ _ _ _ hr
        | some it' =>
          exact ih _ _ _ _ _ (hr.push (hn1.advance (it2 := { it with latest := some it.cur.nonce }) rfl ha))

/-- end to end: selection with the real `container/heap` returns exactly what the model (`selectFromBunches`, with the
    abstract `popBest`) returns, for bunches whose transactions have pairwise distinct hashes -/
theorem selectFromBunchesHeap_eq (v : Variant) (s : Session) (q : SelParams) (bunches : List (List Tx))
    (hn : (bunches.flatten.map (·.hash)).Nodup) :
    selectFromBunchesHeap v s q bunches = selectFromBunches v s q bunches := by
  have hN := NodupH.initHeap hn
  obtain ⟨h1, h2⟩ := ofPushes_spec (strictTotal_lessV v _ hN) (initHeap bunches) (fun _ hx => hx)
  unfold selectFromBunchesHeap selectFromBunches
  exact selectLoopHeap_eq v s q _ _ _ _ _ _ ⟨h2, hN, h1⟩

/-! ### concrete runs (the slices are those printed by Go's `container/heap` for the same operations) -/

example : ofPushes (fun a b : Nat => decide (a < b)) [5, 3, 8, 1, 9, 2, 7, 3, 6, 4, 0, 11, 10]
    = #[0, 1, 2, 3, 3, 8, 7, 5, 6, 9, 4, 11, 10] := by decide +kernel

example : pop (fun a b : Nat => decide (a < b)) #[0, 1, 2, 3, 3, 8, 7, 5, 6, 9, 4, 11, 10]
    = some (0, #[1, 3, 2, 5, 3, 8, 7, 10, 6, 9, 4, 11]) := by decide +kernel

example : pop (fun a b : Nat => decide (a < b)) #[1, 3, 2, 5, 3, 8, 7, 10, 6, 9, 4, 11]
    = some (1, #[2, 3, 7, 5, 3, 8, 11, 10, 6, 9, 4]) := by decide +kernel

end SV.TxCache.Heap
