/-
  SV.TxCache.GoList — Go's `container/list` is modelled, not assumed.

  Part 1: an executable, pointer-level model of `container/list` (the part the mempool uses): a heap of
          `Element` records addressed by never-reused ids, the sentinel `root` at address 0, and the
          library functions transcribed statement by statement.
  Part 2: the per-sender list code of `txcache/txListForSender.go` transcribed over that model.
  Part 3: the representation invariant (`Rep g cs`: the heap of `g` holds the cells `cs`; `WF g` = `Rep g g.cells`), its
          preservation by every library operation and the effect of the operations on the abstract content
          (`cells` / `toList`).
  Part 4: refinement of the transcribed mempool code to the hand-written list model of `SV.TxCache.Model`
          (`insertTx`, `trim1`, `dropLowerOrEqual`, `keepLower`).  In particular finding F3 ("at most one
          transaction is dropped per insertion") is a THEOREM about the transcribed loop and library.

  Pointers: `Option Nat`; `none` = nil, `some 0` = `&l.root`, `some (k+1)` = the (k+1)-th element ever
  created.  `Element.list` can only be `l` or nil here (a sender owns one list): `inList`.
  Dereferencing nil inside the library sets the flag `panicked` (`WF` contains `panicked = false`, hence
  preservation of `WF` proves the absence of nil dereferences).
-/
import SV.TxCache.Model
namespace SV.TxCache.GoList
open SV SV.TxCache

/-! ## Part 1 — `container/list` -/

/-- `list.Element` (`list` is `l` or nil). -/
structure Node where
  next : Option Nat
  prev : Option Nat
  inList : Bool
  value : Tx

/-- value held by the sentinel and by never-allocated addresses (Go: `nil`; it is never read: `Front`, `Back`,
    `Next`, `Prev` never return `&l.root`) -/
def noTx : Tx := ⟨[], [], 0, 0, 0, 0, 0, 0, []⟩

def blank : Node := ⟨none, none, false, noTx⟩

def upd (h : Nat → Node) (a : Nat) (n : Node) : Nat → Node := fun i => if i = a then n else h i

/-- `list.List` together with the heap its elements live in. -/
structure GoList where
  heap : Nat → Node   -- address 0: `l.root`
  alloc : Nat         -- elements created so far (their ids are 1 … alloc; ids are never reused)
  len : Nat           -- `l.len`
  panicked : Bool     -- a nil pointer was dereferenced

/-- `p.next = v` -/
def GoList.setNext (g : GoList) (p : Option Nat) (v : Option Nat) : GoList :=
  match p with
  | none => { g with panicked := true }
  | some a => { g with heap := upd g.heap a { g.heap a with next := v } }

/-- `p.prev = v` -/
def GoList.setPrev (g : GoList) (p : Option Nat) (v : Option Nat) : GoList :=
  match p with
  | none => { g with panicked := true }
  | some a => { g with heap := upd g.heap a { g.heap a with prev := v } }

/-- `e.list = l` (`b = true`) / `e.list = nil` (`b = false`) -/
def GoList.setList (g : GoList) (e : Nat) (b : Bool) : GoList :=
  { g with heap := upd g.heap e { g.heap e with inList := b } }

/-- `&Element{Value: v}` : a fresh element (all pointers nil); its id is the new value of `alloc` -/
def GoList.newElem (g : GoList) (v : Tx) : GoList :=
  { g with alloc := g.alloc + 1, heap := upd g.heap (g.alloc + 1) { blank with value := v } }

/-- `l.Init()` : `l.root.next = &l.root; l.root.prev = &l.root; l.len = 0` -/
def GoList.init (g : GoList) : GoList :=
  let g := g.setNext (some 0) (some 0)
  let g := g.setPrev (some 0) (some 0)
  { g with len := 0 }

/-- `l.lazyInit()` : `if l.root.next == nil { l.Init() }` -/
def GoList.lazyInit (g : GoList) : GoList := if (g.heap 0).next = none then g.init else g

/-- `list.New()` = `new(List).Init()` -/
def GoList.new : GoList := GoList.init { heap := fun _ => blank, alloc := 0, len := 0, panicked := false }

/-- `l.Len()` -/
def GoList.Len (g : GoList) : Nat := g.len

/-- `l.Front()` -/
def GoList.front (g : GoList) : Option Nat := if g.len = 0 then none else (g.heap 0).next

/-- `l.Back()` -/
def GoList.back (g : GoList) : Option Nat := if g.len = 0 then none else (g.heap 0).prev

/-- `e.Next()` : `if p := e.next; e.list != nil && p != &e.list.root { return p }; return nil` -/
def GoList.next (g : GoList) (e : Nat) : Option Nat :=
  let p := (g.heap e).next
  if (g.heap e).inList && p != some 0 then p else none

/-- `e.Prev()` -/
def GoList.prev (g : GoList) (e : Nat) : Option Nat :=
  let p := (g.heap e).prev
  if (g.heap e).inList && p != some 0 then p else none

/-- `l.insertValue(v, at)` = `l.insert(&Element{Value: v}, at)`; returns the new element. -/
def GoList.insertValue (g : GoList) (v : Tx) (at_ : Nat) : GoList × Nat :=
  let e := g.alloc + 1
  let g := g.newElem v                                  -- &Element{Value: v}
  let g := g.setPrev (some e) (some at_)                -- e.prev = at
  let g := g.setNext (some e) (g.heap at_).next         -- e.next = at.next
  let g := g.setNext (g.heap e).prev (some e)           -- e.prev.next = e
  let g := g.setPrev (g.heap e).next (some e)           -- e.next.prev = e
  let g := g.setList e true                             -- e.list = l
  ({ g with len := g.len + 1 }, e)                      -- l.len++

/-- `l.remove(e)` -/
def GoList.removeRaw (g : GoList) (e : Nat) : GoList :=
  let g := g.setNext (g.heap e).prev (g.heap e).next    -- e.prev.next = e.next
  let g := g.setPrev (g.heap e).next (g.heap e).prev    -- e.next.prev = e.prev
  let g := g.setNext (some e) none                      -- e.next = nil
  let g := g.setPrev (some e) none                      -- e.prev = nil
  let g := g.setList e false                            -- e.list = nil
  { g with len := g.len - 1 }                           -- l.len--

/-- `l.Remove(e)` : `if e.list == l { l.remove(e) }` (the returned `e.Value` is `(g.heap e).value`) -/
def GoList.remove (g : GoList) (e : Nat) : GoList :=
  if (g.heap e).inList then g.removeRaw e else g

/-- `l.PushFront(v)` : `l.lazyInit(); return l.insertValue(v, &l.root)` -/
def GoList.pushFront (g : GoList) (v : Tx) : GoList × Nat := g.lazyInit.insertValue v 0

/-- `l.InsertAfter(v, mark)` : `if mark.list != l { return nil }; return l.insertValue(v, mark)` -/
def GoList.insertAfter (g : GoList) (v : Tx) (mark : Nat) : GoList × Option Nat :=
  if (g.heap mark).inList then
    let r := g.insertValue v mark
    (r.1, some r.2)
  else (g, none)

/-- walk `for e := start; e != nil; e = e.Next()` collecting `(e, e.Value)`; `fuel` bounds the number of iterations -/
def GoList.walk (g : GoList) : Nat → Option Nat → List (Nat × Tx)
  | 0, _ => []
  | _, none => []
  | f + 1, some e => (e, (g.heap e).value) :: g.walk f (g.next e)

/-- the elements of the list with their values, front to back (fuel `len`; `walk_fuel` shows any larger fuel gives the same) -/
def GoList.cells (g : GoList) : List (Nat × Tx) := g.walk g.len g.front

def GoList.toIds (g : GoList) : List Nat := g.cells.map (·.1)
def GoList.toList (g : GoList) : List Tx := g.cells.map (·.2)

/-! ## Part 2 — `txListForSender` -/

/-- `txListForSender` : `items` and the byte counter `totalBytes` (`atomic.Counter`, an int64; no wrap-around modelled) -/
structure SenderList where
  items : GoList
  totalBytes : Int

/-- `newTxListForSender` -/
def SenderList.new : SenderList := ⟨GoList.new, 0⟩

/-- `isCapacityExceeded` -/
def SenderList.isCapacityExceeded (cfg : Config) (s : SenderList) : Bool :=
  let tooManyBytes := decide (s.totalBytes > (cfg.numBytesPerSender : Int))
  let tooManyTxs := decide (s.items.Len > cfg.countPerSender)
  tooManyBytes || tooManyTxs

/-- result of `findInsertionPlace` -/
inductive Place where
  | err                         -- `nil, errItemAlreadyInCache`
  | at_ (e : Option Nat)        -- `element, nil` / `nil, nil`
  deriving DecidableEq, Repr

/-- the loop of `findInsertionPlace` : `for element := …; element != nil; element = element.Prev()` -/
def findLoop (g : GoList) (t : Tx) : Nat → Option Nat → Place
  | 0, _ => .at_ none
  | _, none => .at_ none
  | f + 1, some e =>
    let c := (g.heap e).value
    if c.nonce = t.nonce then
      if c.gasPrice > t.gasPrice then .at_ (some e)
      else if c.gasPrice = t.gasPrice then
        if c.hash = t.hash then .err                       -- comparison == 0
        else if bytesLt c.hash t.hash then .at_ (some e)   -- comparison < 0
        else findLoop g t f (g.prev e)
      else findLoop g t f (g.prev e)                       -- continue
    else if c.nonce < t.nonce then .at_ (some e)
    else findLoop g t f (g.prev e)

/-- `findInsertionPlace` -/
def SenderList.findInsertionPlace (s : SenderList) (t : Tx) : Place :=
  findLoop s.items t s.items.Len s.items.back

/-- the loop of `applySizeConstraints`, exactly as written:
    `for element := Back(); element != nil; element = element.Prev() { if !exceeded {break}; Remove(element); onRemoved(element); append hash }`
    — `element.Prev()` is evaluated AFTER `Remove(element)`. -/
def applyLoop (cfg : Config) : Nat → SenderList → Option Nat → List Bytes → SenderList × List Bytes
  | 0, s, _, acc => (s, acc)
  | _, s, none, acc => (s, acc)
  | f + 1, s, some e, acc =>
    if !s.isCapacityExceeded cfg then (s, acc)
    else
      let items := s.items.remove e                                          -- items.Remove(element)
      let s : SenderList := ⟨items, s.totalBytes - ((items.heap e).value.size : Int)⟩   -- onRemovedListElement(element)
      let acc := acc ++ [(s.items.heap e).value.hash]                        -- append(evicted, value.TxHash)
      applyLoop cfg f s (s.items.prev e) acc                                 -- element = element.Prev()

/-- `applySizeConstraints` -/
def SenderList.applySizeConstraints (cfg : Config) (s : SenderList) : SenderList × List Bytes :=
  applyLoop cfg s.items.Len s s.items.back []

/-- the insertion part of `AddTx` (up to and including `onAddedTransaction`); `false` = `err != nil` -/
def SenderList.insert (s : SenderList) (t : Tx) : SenderList × Bool :=
  match s.findInsertionPlace t with
  | .err => (s, false)
  | .at_ none => (⟨(s.items.pushFront t).1, s.totalBytes + (t.size : Int)⟩, true)
  | .at_ (some p) => (⟨(s.items.insertAfter t p).1, s.totalBytes + (t.size : Int)⟩, true)

/-- `AddTx` → (list, added, evicted hashes) -/
def SenderList.addTx (cfg : Config) (s : SenderList) (t : Tx) : SenderList × Bool × List Bytes :=
  match s.insert t with
  | (s, false) => (s, false, [])
  | (s1, true) =>
    let r := s1.applySizeConstraints cfg
    (r.1, true, r.2)

/-- the loop of `removeTransactionsWithLowerOrEqualNonceReturnHashes` (`Next()` is saved BEFORE `Remove`) -/
def lowerLoop (n : Nat) : Nat → SenderList → Option Nat → List Bytes → SenderList × List Bytes
  | 0, s, _, acc => (s, acc)
  | _, s, none, acc => (s, acc)
  | f + 1, s, some e, acc =>
    let tx := (s.items.heap e).value
    if tx.nonce > n then (s, acc)
    else
      let nextElement := s.items.next e
      let items := s.items.remove e
      let s : SenderList := ⟨items, s.totalBytes - ((items.heap e).value.size : Int)⟩
      lowerLoop n f s nextElement (acc ++ [tx.hash])

def SenderList.removeLowerOrEqual (n : Nat) (s : SenderList) : SenderList × List Bytes :=
  lowerLoop n s.items.Len s s.items.front []

/-- the loop of `removeTransactionsWithHigherOrEqualNonce` (`Prev()` is saved BEFORE `Remove`) -/
def higherLoop (n : Nat) : Nat → SenderList → Option Nat → List Bytes → SenderList × List Bytes
  | 0, s, _, acc => (s, acc)
  | _, s, none, acc => (s, acc)
  | f + 1, s, some e, acc =>
    let tx := (s.items.heap e).value
    if tx.nonce < n then (s, acc)
    else
      let prevElement := s.items.prev e
      let items := s.items.remove e
      let s : SenderList := ⟨items, s.totalBytes - ((items.heap e).value.size : Int)⟩
      higherLoop n f s prevElement (acc ++ [tx.hash])

def SenderList.removeHigherOrEqual (n : Nat) (s : SenderList) : SenderList × List Bytes :=
  higherLoop n s.items.Len s s.items.back []

/-- loop of `getTxs` : `for element := Front(); element != nil; element = element.Next() { result = append(result, value) }` -/
def getLoopFwd (g : GoList) : Nat → Option Nat → List Tx → List Tx
  | 0, _, acc => acc
  | _, none, acc => acc
  | f + 1, some e, acc => getLoopFwd g f (g.next e) (acc ++ [(g.heap e).value])

/-- loop of `getTxsReversed` -/
def getLoopBwd (g : GoList) : Nat → Option Nat → List Tx → List Tx
  | 0, _, acc => acc
  | _, none, acc => acc
  | f + 1, some e, acc => getLoopBwd g f (g.prev e) (acc ++ [(g.heap e).value])

def SenderList.getTxs (s : SenderList) : List Tx := getLoopFwd s.items s.items.Len s.items.front []
def SenderList.getTxsReversed (s : SenderList) : List Tx := getLoopBwd s.items s.items.Len s.items.back []

/-! ## Part 3 — the representation invariant -/

theorem upd_apply {α : Type} (f : Node → α) (h : Nat → Node) {a i : Nat} (n : Node) :
    f (upd h a n i) = if i = a then f n else f (h i) := by
  unfold upd; split <;> rfl

theorem upd_same {α : Type} (f : Node → α) (h : Nat → Node) {a i : Nat} (n : Node) (hf : f n = f (h a)) :
    f (upd h a n i) = f (h i) := by
  unfold upd; split
  · next e => rw [e, hf]
  · rfl

section heapLemmas
variable (g : GoList) (a i : Nat) (v : Option Nat) (b : Bool) (t : Tx)

@[simp] theorem setNext_next : ((g.setNext (some a) v).heap i).next = if i = a then v else (g.heap i).next :=
  upd_apply Node.next ..
@[simp] theorem setNext_prev : ((g.setNext (some a) v).heap i).prev = (g.heap i).prev := upd_same Node.prev _ _ rfl
@[simp] theorem setNext_inList : ((g.setNext (some a) v).heap i).inList = (g.heap i).inList := upd_same Node.inList _ _ rfl
@[simp] theorem setNext_value : ((g.setNext (some a) v).heap i).value = (g.heap i).value := upd_same Node.value _ _ rfl
@[simp] theorem setNext_len : (g.setNext (some a) v).len = g.len := rfl
@[simp] theorem setNext_alloc : (g.setNext (some a) v).alloc = g.alloc := rfl
@[simp] theorem setNext_panicked : (g.setNext (some a) v).panicked = g.panicked := rfl

@[simp] theorem setPrev_prev : ((g.setPrev (some a) v).heap i).prev = if i = a then v else (g.heap i).prev :=
  upd_apply Node.prev ..
@[simp] theorem setPrev_next : ((g.setPrev (some a) v).heap i).next = (g.heap i).next := upd_same Node.next _ _ rfl
@[simp] theorem setPrev_inList : ((g.setPrev (some a) v).heap i).inList = (g.heap i).inList := upd_same Node.inList _ _ rfl
@[simp] theorem setPrev_value : ((g.setPrev (some a) v).heap i).value = (g.heap i).value := upd_same Node.value _ _ rfl
@[simp] theorem setPrev_len : (g.setPrev (some a) v).len = g.len := rfl
@[simp] theorem setPrev_alloc : (g.setPrev (some a) v).alloc = g.alloc := rfl
@[simp] theorem setPrev_panicked : (g.setPrev (some a) v).panicked = g.panicked := rfl

@[simp] theorem setList_inList : ((g.setList a b).heap i).inList = if i = a then b else (g.heap i).inList :=
  upd_apply Node.inList ..
@[simp] theorem setList_next : ((g.setList a b).heap i).next = (g.heap i).next := upd_same Node.next _ _ rfl
@[simp] theorem setList_prev : ((g.setList a b).heap i).prev = (g.heap i).prev := upd_same Node.prev _ _ rfl
@[simp] theorem setList_value : ((g.setList a b).heap i).value = (g.heap i).value := upd_same Node.value _ _ rfl
@[simp] theorem setList_len : (g.setList a b).len = g.len := rfl
@[simp] theorem setList_alloc : (g.setList a b).alloc = g.alloc := rfl
@[simp] theorem setList_panicked : (g.setList a b).panicked = g.panicked := rfl

@[simp] theorem newElem_next : ((g.newElem t).heap i).next = if i = g.alloc + 1 then none else (g.heap i).next :=
  upd_apply Node.next ..
@[simp] theorem newElem_prev : ((g.newElem t).heap i).prev = if i = g.alloc + 1 then none else (g.heap i).prev :=
  upd_apply Node.prev ..
@[simp] theorem newElem_inList : ((g.newElem t).heap i).inList = if i = g.alloc + 1 then false else (g.heap i).inList :=
  upd_apply Node.inList ..
@[simp] theorem newElem_value : ((g.newElem t).heap i).value = if i = g.alloc + 1 then t else (g.heap i).value :=
  upd_apply Node.value ..
@[simp] theorem newElem_len : (g.newElem t).len = g.len := rfl
@[simp] theorem newElem_alloc : (g.newElem t).alloc = g.alloc + 1 := rfl
@[simp] theorem newElem_panicked : (g.newElem t).panicked = g.panicked := rfl

end heapLemmas

theorem insertValue_snd (g : GoList) (v : Tx) (a : Nat) : (g.insertValue v a).2 = g.alloc + 1 := rfl

theorem insertValue_heap (g : GoList) (v : Tx) (a nx : Nat) (hnx : (g.heap a).next = some nx)
    (ha : a ≠ g.alloc + 1) (hx : nx ≠ g.alloc + 1) :
    (∀ i, ((g.insertValue v a).1.heap i).next
        = (if i = g.alloc + 1 then some nx else if i = a then some (g.alloc + 1) else (g.heap i).next))
    ∧ (∀ i, ((g.insertValue v a).1.heap i).prev
        = (if i = g.alloc + 1 then some a else if i = nx then some (g.alloc + 1) else (g.heap i).prev))
    ∧ (∀ i, ((g.insertValue v a).1.heap i).inList = (if i = g.alloc + 1 then true else (g.heap i).inList))
    ∧ (∀ i, ((g.insertValue v a).1.heap i).value = (if i = g.alloc + 1 then v else (g.heap i).value))
    ∧ (g.insertValue v a).1.len = g.len + 1 ∧ (g.insertValue v a).1.alloc = g.alloc + 1
    ∧ (g.insertValue v a).1.panicked = g.panicked := by
  -- the pointers the statements of `insertValue` read back from the heap, resolved
  have e1 : (g.insertValue v a).1 =
      { ((((((g.newElem v).setPrev (some (g.alloc + 1)) (some a)).setNext (some (g.alloc + 1)) (some nx)).setNext
          (some a) (some (g.alloc + 1))).setPrev (some nx) (some (g.alloc + 1))).setList (g.alloc + 1) true)
        with len := g.len + 1 } := by
    simp only [GoList.insertValue, setNext_prev, setPrev_prev, setPrev_next, setNext_next, newElem_next, if_pos, if_neg ha,
      if_neg ha.symm, hnx, setList_len, setPrev_len, setNext_len, newElem_len]
  rw [e1]
  refine ⟨fun i => ?_, fun i => ?_, fun i => ?_, fun i => ?_, rfl, rfl, rfl⟩
  · simp only [setList_next, setPrev_next, setNext_next, newElem_next]
    by_cases hi : i = g.alloc + 1
    · rw [if_neg (hi ▸ ha.symm), if_pos hi, if_pos hi]
    · simp only [if_neg hi]
  · simp only [setList_prev, setPrev_prev, setNext_prev, newElem_prev]
    by_cases hi : i = g.alloc + 1
    · rw [if_neg (hi ▸ hx.symm), if_pos hi, if_pos hi]
    · simp only [if_neg hi]
  · simp only [setList_inList, setPrev_inList, setNext_inList, newElem_inList]
    by_cases hi : i = g.alloc + 1
    · simp only [if_pos hi]
    · simp only [if_neg hi]
  · simp only [setList_value, setPrev_value, setNext_value, newElem_value]

theorem removeRaw_heap (g : GoList) (e a b : Nat) (hp : (g.heap e).prev = some a) (hn : (g.heap e).next = some b)
    (hae : a ≠ e) :
    (∀ i, ((g.removeRaw e).heap i).next = (if i = e then none else if i = a then some b else (g.heap i).next))
    ∧ (∀ i, ((g.removeRaw e).heap i).prev = (if i = e then none else if i = b then some a else (g.heap i).prev))
    ∧ (∀ i, ((g.removeRaw e).heap i).inList = (if i = e then false else (g.heap i).inList))
    ∧ (∀ i, ((g.removeRaw e).heap i).value = (g.heap i).value)
    ∧ (g.removeRaw e).len = g.len - 1 ∧ (g.removeRaw e).alloc = g.alloc
    ∧ (g.removeRaw e).panicked = g.panicked := by
  have hae' : e ≠ a := Ne.symm hae
  simp [GoList.removeRaw, hp, hn, hae']

/-! ### linked paths -/

/-- `a.next = b` and `b.prev = a` -/
def Link (g : GoList) (a b : Nat) : Prop := (g.heap a).next = some b ∧ (g.heap b).prev = some a

/-- consecutive addresses of the list are linked in both directions -/
def Path (g : GoList) : List Nat → Prop
  | a :: b :: r => Link g a b ∧ Path g (b :: r)
  | _ => True

theorem path_append (g : GoList) (X Y : List Nat) :
    Path g (X ++ Y) ↔ Path g X ∧ Path g Y ∧ ∀ a ∈ X.getLast?, ∀ b ∈ Y.head?, Link g a b := by
  induction X with
  | nil => exact ⟨fun h => ⟨trivial, h, fun _ ha => nomatch ha⟩, fun h => h.2.1⟩
  | cons x X ih =>
    cases X with
    | nil =>
      cases Y with
      | nil => exact ⟨fun _ => ⟨trivial, trivial, fun _ _ _ hb => nomatch hb⟩, fun _ => trivial⟩
      | cons b Y =>
        exact ⟨fun h => ⟨trivial, h.2, fun _ ha _ hb => by cases ha; cases hb; exact h.1⟩,
          fun h => ⟨h.2.2 x rfl b rfl, h.2.1⟩⟩
    | cons y X =>
      show Link g x y ∧ Path g ((y :: X) ++ Y) ↔ (Link g x y ∧ Path g (y :: X)) ∧ _
      rw [ih, and_assoc]; rfl

/-- frame: a path without repetition reads `next` of all its nodes but the last and `prev` of all but the first -/
theorem path_frame {g g' : GoList} {a : Nat} {S : List Nat} :
    ∀ {b : Nat}, S.Nodup → S.getLast? = some a → S.head? = some b →
    (∀ i ∈ S, i ≠ a → (g'.heap i).next = (g.heap i).next) →
    (∀ i ∈ S, i ≠ b → (g'.heap i).prev = (g.heap i).prev) → Path g S → Path g' S := by
  induction S with
  | nil => exact fun _ _ _ _ _ _ => trivial
  | cons x S ih =>
    cases S with
    | nil => exact fun _ _ _ _ _ _ => trivial
    | cons y r =>
      intro b hS ha hb hn hp h
      obtain ⟨hx, hS'⟩ := List.nodup_cons.1 hS
      cases Option.some.inj hb
      rw [List.getLast?_cons_cons] at ha
      have hy : y ∈ y :: r := List.mem_cons_self ..
      refine ⟨⟨?_, ?_⟩, ih hS' ha rfl (fun i hi => hn i (List.mem_cons_of_mem _ hi))
        (fun i hi _ => hp i (List.mem_cons_of_mem _ hi) (ne_of_mem_of_not_mem hi hx)) h.2⟩
      · rw [hn x (List.mem_cons_self ..) (ne_of_mem_of_not_mem (List.mem_of_getLast? ha) hx).symm]; exact h.1.1
      · rw [hp y (List.mem_cons_of_mem _ hy) (ne_of_mem_of_not_mem hy hx)]; exact h.1.2

/-- cutting the ring `root → A → B → root` between `A` and `B` leaves one path, from the first node of `B` round through
    the sentinel to the last node of `A` (the sentinel itself where `A` or `B` is empty), and the link that was cut -/
theorem path_ring (g : GoList) (A B : List Nat) :
    Path g (0 :: (A ++ B) ++ [0]) ↔ Path g (B ++ 0 :: A) ∧ Link g (A.getLast?.getD 0) (B.head?.getD 0) := by
  rw [← List.cons_append, List.append_assoc, path_append, path_append g B, path_append g B]
  simp only [List.getLast?_cons, List.head?_append, List.head?_cons, Option.or_some, Option.mem_def, Option.some.injEq,
    forall_eq', Path, true_and]
  exact ⟨fun ⟨h1, ⟨h2, h3⟩, h4⟩ => ⟨⟨h2, h1, h3⟩, h4⟩, fun ⟨⟨h2, h1, h3⟩, h4⟩ => ⟨h1, ⟨h2, h3⟩, h4⟩⟩

theorem ring_last (A B : List Nat) : (B ++ 0 :: A).getLast? = some (A.getLast?.getD 0) := by
  simp [List.getLast?_cons]

theorem ring_head (A B : List Nat) : (B ++ 0 :: A).head? = some (B.head?.getD 0) := by simp

theorem ring_perm (A B : List Nat) : (B ++ 0 :: A).Perm (0 :: (A ++ B)) := List.perm_append_comm

theorem path_cons {g : GoList} {e b : Nat} {S : List Nat} (hb : S.head? = some b) :
    Path g (e :: S) ↔ Link g e b ∧ Path g S := by
  cases S with
  | nil => nomatch hb
  | cons c r => cases hb; exact Iff.rfl

theorem path_ring_mid (g : GoList) (A B : List Nat) (e : Nat) :
    Path g (0 :: (A ++ e :: B) ++ [0])
      ↔ Path g (B ++ 0 :: A) ∧ Link g (A.getLast?.getD 0) e ∧ Link g e (B.head?.getD 0) := by
  rw [path_ring, List.cons_append, path_cons (ring_head A B)]
  exact ⟨fun ⟨⟨h1, h2⟩, h3⟩ => ⟨h2, h3, h1⟩, fun ⟨h2, h3, h1⟩ => ⟨⟨h1, h2⟩, h3⟩⟩

/-! ### the invariant -/

abbrev ids (cs : List (Nat × Tx)) : List Nat := cs.map (·.1)

/-- `Rep g cs` : the heap of `g` represents the list whose elements are, front to back, the cells `cs`
    (address, value): no nil dereference happened; the addresses are distinct, allocated and different from the
    sentinel; `root → cs → root` is linked by `next` and back by `prev` (so `next`/`prev` are mutually inverse
    along the ring); `e.list == l` exactly for the addresses of `cs`; `len` is their number. -/
structure Rep (g : GoList) (cs : List (Nat × Tx)) : Prop where
  noPanic : g.panicked = false
  nodup : (0 :: ids cs).Nodup
  bound : ∀ i ∈ ids cs, i ≤ g.alloc
  path : Path g (0 :: ids cs ++ [0])
  inl : ∀ i, (g.heap i).inList = true ↔ i ∈ ids cs
  vals : ∀ c ∈ cs, (g.heap c.1).value = c.2
  len : g.len = cs.length

theorem rep_new : Rep GoList.new [] := by
  refine ⟨rfl, by simp, by simp, ?_, ?_, by simp, rfl⟩
  · simp [Path, Link, GoList.new, GoList.init]
  · intro i; simp [GoList.new, GoList.init, blank]

theorem ids_mid (pre : List (Nat × Tx)) (c : Nat × Tx) (post : List (Nat × Tx)) :
    ids (pre ++ c :: post) = ids pre ++ c.1 :: ids post := by simp

theorem mem_mid_iff {i e : Nat} (hi : i ≠ e) (A B : List Nat) : i ∈ A ++ e :: B ↔ i ∈ A ++ B := by
  simp only [List.mem_append, List.mem_cons, hi, false_or]

theorem rep_ring {g : GoList} {pre post : List (Nat × Tx)} (h : Rep g (pre ++ post)) :
    (ids post ++ 0 :: ids pre).Nodup ∧ Path g (ids post ++ 0 :: ids pre)
      ∧ Link g ((ids pre).getLast?.getD 0) ((ids post).head?.getD 0) := by
  have hn := h.nodup
  have hp := h.path
  rw [ids, List.map_append] at hn hp
  exact ⟨(ring_perm ..).nodup_iff.2 hn, (path_ring g _ _).1 hp⟩

theorem rep_ring_mid {g : GoList} {pre post : List (Nat × Tx)} {e : Nat} {v : Tx} (h : Rep g (pre ++ (e, v) :: post)) :
    (e :: (ids post ++ 0 :: ids pre)).Nodup ∧ Path g (ids post ++ 0 :: ids pre)
      ∧ Link g ((ids pre).getLast?.getD 0) e ∧ Link g e ((ids post).head?.getD 0) := by
  have hn := h.nodup
  have hp := h.path
  rw [ids_mid] at hn hp
  exact ⟨(ring_perm _ (e :: ids post)).nodup_iff.2 hn, (path_ring_mid g _ _ e).1 hp⟩

theorem rep_mid_notMem {g : GoList} {pre post : List (Nat × Tx)} {e : Nat} {v : Tx} (h : Rep g (pre ++ (e, v) :: post)) :
    e ∉ ids (pre ++ post) := fun hm =>
  (List.nodup_cons.1 (rep_ring_mid h).1).1 ((ring_perm ..).mem_iff.2 (List.mem_cons_of_mem _ (List.map_append ▸ hm)))

theorem rep_remove {g : GoList} {pre post : List (Nat × Tx)} {e : Nat} {v : Tx}
    (h : Rep g (pre ++ (e, v) :: post)) : Rep (g.remove e) (pre ++ post) := by
  obtain ⟨hnd, hpath, hae, heb⟩ := rep_ring_mid h
  obtain ⟨he, hS⟩ := List.nodup_cons.1 hnd
  have ha := ring_last (ids pre) (ids post)
  have hb := ring_head (ids pre) (ids post)
  have hae' := ne_of_mem_of_not_mem (List.mem_of_getLast? ha) he
  have hbe' := ne_of_mem_of_not_mem (List.mem_of_head? hb) he
  obtain ⟨hn, hp, hl, hv, hlen, hal, hpan⟩ := removeRaw_heap g e _ _ hae.2 heb.1 hae'
  have hsub : (pre ++ post).Sublist (pre ++ (e, v) :: post) := (List.sublist_cons_self ..).append_left pre
  rw [GoList.remove, if_pos ((h.inl e).2 (ids_mid .. ▸ List.mem_append_right _ (List.mem_cons_self ..)))]
  refine ⟨hpan.trans h.noPanic, ?_, ?_, ?_, ?_, ?_, ?_⟩
  · rw [ids, List.map_append]
    exact (ring_perm ..).nodup_iff.1 hS
  · intro i hi
    rw [hal]
    exact h.bound i ((hsub.map _).subset hi)
  · rw [ids, List.map_append]
    refine (path_ring _ _ _).2 ⟨path_frame hS ha hb ?_ ?_ hpath, ?_, ?_⟩
    · intro i hi hia
      rw [hn, if_neg (ne_of_mem_of_not_mem hi he), if_neg hia]
    · intro i hi hib
      rw [hp, if_neg (ne_of_mem_of_not_mem hi he), if_neg hib]
    · rw [hn, if_neg hae', if_pos rfl]
    · rw [hp, if_neg hbe', if_pos rfl]
  · intro i
    rw [hl, ids, List.map_append]
    by_cases hi : i = e
    · subst hi
      rw [if_pos rfl]
      exact ⟨(nomatch ·), fun hm => absurd ((ring_perm ..).mem_iff.2 (List.mem_cons_of_mem _ hm)) he⟩
    · rw [if_neg hi, h.inl i, ids_mid]; exact mem_mid_iff hi ..
  · intro c hc
    rw [hv]
    exact h.vals c (hsub.subset hc)
  · rw [hlen, h.len, List.length_append, List.length_append, List.length_cons, ← Nat.add_assoc, Nat.add_sub_cancel]

theorem remove_not_inList (g : GoList) (e : Nat) (h : (g.heap e).inList = false) : g.remove e = g := by
  simp [GoList.remove, h]

theorem rep_insert {g : GoList} {pre post : List (Nat × Tx)} (h : Rep g (pre ++ post)) (v : Tx) {a : Nat}
    (ha : (ids pre).getLast?.getD 0 = a) : Rep (g.insertValue v a).1 (pre ++ (g.alloc + 1, v) :: post) := by
  subst ha
  obtain ⟨hS, hpath, hab⟩ := rep_ring h
  have he : g.alloc + 1 ∉ ids post ++ 0 :: ids pre := fun hm => by
    rw [(ring_perm ..).mem_iff, ← List.map_append] at hm
    rcases List.mem_cons.1 hm with h0 | hm
    · exact Nat.succ_ne_zero _ h0
    · exact Nat.not_succ_le_self _ (h.bound _ hm)
  have ha := ring_last (ids pre) (ids post)
  have hb := ring_head (ids pre) (ids post)
  have hae' := ne_of_mem_of_not_mem (List.mem_of_getLast? ha) he
  have hbe' := ne_of_mem_of_not_mem (List.mem_of_head? hb) he
  obtain ⟨hn, hp, hl, hv, hlen, hal, hpan⟩ := insertValue_heap g v _ _ hab.1 hae' hbe'
  refine ⟨hpan.trans h.noPanic, ?_, ?_, ?_, ?_, ?_, ?_⟩
  · rw [ids_mid]
    exact (ring_perm _ (_ :: ids post)).nodup_iff.1 (List.nodup_cons.2 ⟨he, hS⟩)
  · intro i hi
    rw [hal]
    by_cases hie : i = g.alloc + 1
    · exact Nat.le_of_eq hie
    · rw [ids_mid, mem_mid_iff hie, ← List.map_append] at hi
      exact Nat.le_succ_of_le (h.bound i hi)
  · rw [ids_mid]
    refine (path_ring_mid _ _ _ _).2 ⟨path_frame hS ha hb ?_ ?_ hpath, ⟨?_, ?_⟩, ?_, ?_⟩
    · intro i hi hia
      rw [hn, if_neg (ne_of_mem_of_not_mem hi he), if_neg hia]
    · intro i hi hib
      rw [hp, if_neg (ne_of_mem_of_not_mem hi he), if_neg hib]
    · rw [hn, if_neg hae', if_pos rfl]
    · rw [hp, if_pos rfl]
    · rw [hn, if_pos rfl]
    · rw [hp, if_neg hbe', if_pos rfl]
  · intro i
    rw [hl, ids_mid]
    by_cases hi : i = g.alloc + 1
    · subst hi
      rw [if_pos rfl]
      exact ⟨fun _ => List.mem_append_right _ (List.mem_cons_self ..), fun _ => rfl⟩
    · rw [if_neg hi, h.inl i, ids, List.map_append]; exact (mem_mid_iff hi ..).symm
  · intro c hc
    rw [hv]
    have hold : c ∈ pre ++ post → (if c.1 = g.alloc + 1 then v else (g.heap c.1).value) = c.2 := fun hc => by
      rw [if_neg (Nat.ne_of_lt (Nat.lt_succ_of_le (h.bound _ (List.mem_map_of_mem hc))))]; exact h.vals c hc
    rcases List.mem_append.1 hc with hc | hc
    · exact hold (List.mem_append_left _ hc)
    · rcases List.mem_cons.1 hc with rfl | hc
      · exact if_pos rfl
      · exact hold (List.mem_append_right _ hc)
  · rw [hlen, h.len, List.length_append, List.length_append, List.length_cons, Nat.add_assoc]

theorem rep_zero_notMem {g : GoList} {cs : List (Nat × Tx)} (h : Rep g cs) : 0 ∉ ids cs :=
  (List.nodup_cons.1 h.nodup).1

theorem rep_front {g : GoList} {cs : List (Nat × Tx)} (h : Rep g cs) : g.front = cs.head?.map (·.1) := by
  have := (rep_ring (pre := []) h).2.2.1
  cases cs with
  | nil => simp [GoList.front, h.len]
  | cons c r => simpa [GoList.front, h.len] using this

theorem rep_back {g : GoList} {cs : List (Nat × Tx)} (h : Rep g cs) : g.back = cs.getLast?.map (·.1) := by
  have := (rep_ring (post := []) (List.append_nil cs ▸ h)).2.2.2
  rcases List.eq_nil_or_concat cs with rfl | ⟨r, c, rfl⟩
  · simp [GoList.back, h.len]
  · simpa [GoList.back, h.len] using this

theorem rep_mid {g : GoList} {pre post : List (Nat × Tx)} {e : Nat} {v : Tx} (h : Rep g (pre ++ (e, v) :: post)) :
    (g.heap e).inList = true ∧ (g.heap e).value = v ∧ e ≠ 0 := by
  have hm : e ∈ ids (pre ++ (e, v) :: post) := ids_mid .. ▸ List.mem_append_right _ (List.mem_cons_self ..)
  exact ⟨(h.inl e).2 hm, h.vals (e, v) (List.mem_append_right _ (List.mem_cons_self ..)),
    fun he => rep_zero_notMem h (he ▸ hm)⟩

/-- `Next()`, `Prev()` hand out nil in place of the sentinel -/
theorem unroot {o : Option Nat} (h : 0 ∉ o) : (if (some (o.getD 0) != some 0) = true then some (o.getD 0) else none) = o := by
  cases o with
  | none => rfl
  | some i => simpa using fun hi : i = 0 => h (hi ▸ rfl)

theorem rep_next {g : GoList} {pre post : List (Nat × Tx)} {e : Nat} {v : Tx} (h : Rep g (pre ++ (e, v) :: post)) :
    g.next e = post.head?.map (·.1) := by
  rw [GoList.next, (rep_mid h).1, (rep_ring_mid h).2.2.2.1, ← List.head?_map]
  exact unroot fun h0 => rep_zero_notMem h
    (ids_mid .. ▸ List.mem_append_right _ (List.mem_cons_of_mem _ (List.mem_of_mem_head? h0)))

theorem rep_prev {g : GoList} {pre post : List (Nat × Tx)} {e : Nat} {v : Tx} (h : Rep g (pre ++ (e, v) :: post)) :
    g.prev e = pre.getLast?.map (·.1) := by
  rw [GoList.prev, (rep_mid h).1, (rep_ring_mid h).2.2.1.2, ← List.getLast?_map]
  exact unroot fun h0 => rep_zero_notMem h (ids_mid .. ▸ List.mem_append_left _ (List.mem_of_mem_getLast? h0))

theorem fuel_succ {P : Nat → Prop} {m : Nat} (h : ∀ n, m ≤ n → P (n + 1)) (n : Nat) (hn : m + 1 ≤ n) : P n := by
  obtain ⟨n, rfl⟩ := Nat.exists_eq_add_one_of_ne_zero (Nat.ne_zero_of_lt hn)
  exact h n (Nat.le_of_succ_le_succ hn)

theorem rep_walk {g : GoList} (post : List (Nat × Tx)) : ∀ (pre : List (Nat × Tx)), Rep g (pre ++ post) →
    ∀ n, post.length ≤ n → g.walk n (post.head?.map (·.1)) = post := by
  induction post with
  | nil => intro _ _ n _; cases n <;> rfl
  | cons c r ih =>
    obtain ⟨e, v⟩ := c
    intro pre h
    refine fuel_succ fun n hn => ?_
    simp only [List.head?_cons, Option.map_some, GoList.walk, rep_next h, (rep_mid h).2.1,
      ih (pre ++ [(e, v)]) (by simpa using h) n hn]

theorem Rep.le_Len {g : GoList} {cs : List (Nat × Tx)} (h : Rep g cs) : cs.length ≤ g.Len := Nat.le_of_eq h.len.symm

theorem rep_cells {g : GoList} {cs : List (Nat × Tx)} (h : Rep g cs) : g.cells = cs := by
  rw [GoList.cells, rep_front h]
  exact rep_walk cs [] h g.len (Nat.le_of_eq h.len.symm)

/-- THE INVARIANT: the heap represents the list that the walk from `Front()` produces. -/
def WF (g : GoList) : Prop := Rep g g.cells

theorem WF.of_rep {g : GoList} {cs : List (Nat × Tx)} (h : Rep g cs) : WF g := by
  unfold WF; rw [rep_cells h]; exact h

theorem wf_iff (g : GoList) : WF g ↔ ∃ cs, Rep g cs := ⟨fun h => ⟨_, h⟩, fun ⟨_, h⟩ => WF.of_rep h⟩

/-- the fuel `len` of `cells` suffices: more fuel yields the same walk (the walk ended with `Next() == nil`) -/
theorem walk_fuel {g : GoList} (h : WF g) (n : Nat) (hn : g.len ≤ n) : g.walk n g.front = g.cells := by
  have hr : Rep g g.cells := h
  rw [rep_front hr]
  exact rep_walk g.cells [] hr n (hr.len ▸ hn)

theorem wf_new : WF GoList.new := WF.of_rep rep_new
theorem cells_new : GoList.new.cells = [] := rfl

theorem wf_len {g : GoList} (h : WF g) : g.Len = g.toList.length := by
  have hr : Rep g g.cells := h
  simp [GoList.Len, GoList.toList, hr.len]

theorem wf_noPanic {g : GoList} (h : WF g) : g.panicked = false := Rep.noPanic h

/-! ### the library operations under `WF` -/

theorem toIds_split {g : GoList} {pre post : List Nat} {m : Nat} (hc : g.toIds = pre ++ m :: post) :
    ∃ cpre vm cpost, g.cells = cpre ++ (m, vm) :: cpost ∧ cpre.length = pre.length := by
  obtain ⟨cpre, cr, hsp, hpre, hr⟩ := List.map_eq_append_iff.1 hc
  obtain ⟨⟨m', vm⟩, cpost, rfl, rfl, -⟩ := List.map_eq_cons_iff.1 hr
  exact ⟨cpre, vm, cpost, hsp, by rw [← hpre, List.length_map]⟩

theorem wf_inList_iff {g : GoList} (h : WF g) (e : Nat) : (g.heap e).inList = true ↔ e ∈ g.toIds := Rep.inl h e

/-- `next` and `prev` are mutually inverse on the in-list elements (the sentinel `0` closes the ring) -/
theorem wf_next_prev {g : GoList} (h : WF g) (e : Nat) (he : (g.heap e).inList = true) :
    (∃ n, (g.heap e).next = some n ∧ (g.heap n).prev = some e ∧ (n = 0 ∨ (g.heap n).inList = true)) ∧
    (∃ p, (g.heap e).prev = some p ∧ (g.heap p).next = some e ∧ (p = 0 ∨ (g.heap p).inList = true)) := by
  have hr : Rep g g.cells := h
  obtain ⟨_, _, hids⟩ := List.append_of_mem ((wf_inList_iff h e).1 he)
  obtain ⟨pre, v, post, hsp, -⟩ := toIds_split hids
  rw [hsp] at hr
  obtain ⟨-, -, hae, heb⟩ := rep_ring_mid hr
  refine ⟨⟨_, heb.1, heb.2, ?_⟩, ⟨_, hae.2, hae.1, ?_⟩⟩
  · cases hh : (ids post).head? with
    | none => exact Or.inl rfl
    | some n =>
      exact Or.inr ((hr.inl n).2 (ids_mid .. ▸ List.mem_append_right _ (List.mem_cons_of_mem _ (List.mem_of_head? hh))))
  · cases hh : (ids pre).getLast? with
    | none => exact Or.inl rfl
    | some p => exact Or.inr ((hr.inl p).2 (ids_mid .. ▸ List.mem_append_left _ (List.mem_of_getLast? hh)))

/-- what a walk from `Back()` via `Prev()` starts from: all cells, listed from the back -/
theorem wf_from_back {g : GoList} (h : WF g) :
    Rep g (g.cells.reverse.reverse ++ []) ∧ g.back = g.cells.reverse.head?.map (·.1) ∧ g.cells.reverse.length ≤ g.Len := by
  refine ⟨?_, by rw [rep_back h, List.head?_reverse], by rw [List.length_reverse]; exact Rep.le_Len h⟩
  rw [List.reverse_reverse, List.append_nil]; exact h

/-- `lazyInit` does nothing on a well-formed list (`root.next` is never nil) -/
theorem rep_lazyInit {g : GoList} {cs : List (Nat × Tx)} (h : Rep g cs) : g.lazyInit = g := by
  have : (g.heap 0).next = some _ := (rep_ring (pre := []) h).2.2.1
  rw [GoList.lazyInit, if_neg (this ▸ Option.some_ne_none _)]

theorem pushFront_eq {g : GoList} (h : WF g) (v : Tx) : g.pushFront v = g.insertValue v 0 := by
  simp [GoList.pushFront, rep_lazyInit h]

theorem wf_pushFront {g : GoList} (h : WF g) (v : Tx) :
    WF (g.pushFront v).1 ∧ (g.pushFront v).1.cells = ((g.pushFront v).2, v) :: g.cells
      ∧ (g.pushFront v).2 ∉ g.toIds ∧ (g.pushFront v).2 ≠ 0 := by
  have h' := rep_insert (pre := []) h v rfl
  rw [pushFront_eq h]
  exact ⟨WF.of_rep h', rep_cells h', fun hmem => Nat.not_succ_le_self _ (Rep.bound h _ hmem), Nat.succ_ne_zero _⟩

theorem toList_pushFront {g : GoList} (h : WF g) (v : Tx) : (g.pushFront v).1.toList = v :: g.toList := by
  simp [GoList.toList, (wf_pushFront h v).2.1]

theorem wf_insertAfter {g : GoList} (h : WF g) (v : Tx) {pre post : List (Nat × Tx)} {m : Nat} {vm : Tx}
    (hc : g.cells = pre ++ (m, vm) :: post) :
    WF (g.insertAfter v m).1 ∧ (g.insertAfter v m).2 = some (g.alloc + 1)
      ∧ (g.insertAfter v m).1.cells = pre ++ (m, vm) :: (g.alloc + 1, v) :: post
      ∧ g.alloc + 1 ∉ g.toIds := by
  have hr : Rep g (pre ++ (m, vm) :: post) := hc ▸ (h : Rep g g.cells)
  have hin := (rep_mid hr).1
  have hr2 : Rep g ((pre ++ [(m, vm)]) ++ post) := by simpa using hr
  have h' := rep_insert (a := m) hr2 v (by simp)
  have h'' : Rep (g.insertAfter v m).1 (pre ++ (m, vm) :: (g.alloc + 1, v) :: post) := by
    simpa [GoList.insertAfter, hin] using h'
  exact ⟨WF.of_rep h'', by simp [GoList.insertAfter, hin, insertValue_snd], rep_cells h'',
    fun hmem => Nat.not_succ_le_self _ (Rep.bound h _ hmem)⟩

theorem toList_insertAfter {g : GoList} (h : WF g) (v : Tx) {pre post : List Nat} {m : Nat}
    (hc : g.toIds = pre ++ m :: post) :
    (g.insertAfter v m).1.toList
      = g.toList.take (pre.length + 1) ++ v :: g.toList.drop (pre.length + 1) := by
  obtain ⟨cpre, vm, cpost, hsp, hlen⟩ := toIds_split hc
  have hA : (cpre.map (·.2) ++ [vm]).length = pre.length + 1 := by simp [hlen]
  have e1 : g.toList = (cpre.map (·.2) ++ [vm]) ++ cpost.map (·.2) := by simp [GoList.toList, hsp]
  rw [GoList.toList, (wf_insertAfter h v hsp).2.2.1, e1, List.take_left' hA, List.drop_left' hA]; simp

theorem insertAfter_not_inList (g : GoList) (v : Tx) (m : Nat) (h : (g.heap m).inList = false) :
    g.insertAfter v m = (g, none) := by simp [GoList.insertAfter, h]

theorem wf_remove {g : GoList} (h : WF g) {pre post : List (Nat × Tx)} {e : Nat} {v : Tx}
    (hc : g.cells = pre ++ (e, v) :: post) :
    WF (g.remove e) ∧ (g.remove e).cells = pre ++ post := by
  have hr : Rep g g.cells := h
  rw [hc] at hr
  have h' := rep_remove hr
  exact ⟨WF.of_rep h', rep_cells h'⟩

theorem toList_remove {g : GoList} (h : WF g) {pre post : List Nat} {e : Nat} (hc : g.toIds = pre ++ e :: post) :
    (g.remove e).toList = g.toList.eraseIdx pre.length := by
  obtain ⟨cpre, vm, cpost, hsp, hlen⟩ := toIds_split hc
  rw [GoList.toList, (wf_remove h hsp).2, GoList.toList, hsp, ← hlen]
  simp [List.eraseIdx_append_of_length_le]

/-- `setNext_value` for any pointer, nil included (`setNext` then only raises the flag) -/
theorem setNext_value' (g : GoList) (p v : Option Nat) (i : Nat) :
    ((g.setNext p v).heap i).value = (g.heap i).value := by
  cases p with
  | none => rfl
  | some a => simp

theorem setPrev_value' (g : GoList) (p v : Option Nat) (i : Nat) :
    ((g.setPrev p v).heap i).value = (g.heap i).value := by
  cases p with
  | none => rfl
  | some a => simp

theorem remove_value (g : GoList) (e i : Nat) : ((g.remove e).heap i).value = (g.heap i).value := by
  unfold GoList.remove
  split
  · simp only [GoList.removeRaw, setList_value, setNext_value', setPrev_value']
  · rfl

/-! ## Part 4 — refinement of `txListForSender` to the list model -/

/-- invariant of `txListForSender`: the list is well formed and the byte counter is the sum of the sizes -/
def SWF (s : SenderList) : Prop := WF s.items ∧ s.totalBytes = (listBytes s.items.toList : Int)

/-- same, relative to explicit cells -/
def SRep (s : SenderList) (cs : List (Nat × Tx)) : Prop :=
  Rep s.items cs ∧ s.totalBytes = (listBytes (cs.map (·.2)) : Int)

theorem SWF.srep {s : SenderList} (h : SWF s) : SRep s s.items.cells := ⟨h.1, h.2⟩

theorem SRep.swf {s : SenderList} {cs : List (Nat × Tx)} (h : SRep s cs) : SWF s := by
  refine ⟨WF.of_rep h.1, ?_⟩
  rw [GoList.toList, rep_cells h.1]; exact h.2

theorem SRep.toList {s : SenderList} {cs : List (Nat × Tx)} (h : SRep s cs) : s.items.toList = cs.map (·.2) := by
  rw [GoList.toList, rep_cells h.1]

theorem swf_new : SWF SenderList.new := ⟨wf_new, rfl⟩

theorem listBytes_append (a b : List Tx) : listBytes (a ++ b) = listBytes a + listBytes b := by
  simp [listBytes, List.sum_append]

theorem listBytes_cons (a : Tx) (b : List Tx) : listBytes (a :: b) = a.size + listBytes b := by
  simp [listBytes]

theorem srep_exceeded {s : SenderList} {cs : List (Nat × Tx)} (h : SRep s cs) (cfg : Config) :
    s.isCapacityExceeded cfg = senderExceeded cfg (cs.map (·.2)) := by
  simp only [SenderList.isCapacityExceeded, senderExceeded, GoList.Len, h.1.len, h.2, List.length_map]
  congr 1
  exact decide_eq_decide.2 (by omega)

theorem swf_exceeded {s : SenderList} (h : SWF s) (cfg : Config) :
    s.isCapacityExceeded cfg = senderExceeded cfg s.items.toList := srep_exceeded h.srep cfg

/-- `Remove(e)` followed by `onRemovedListElement(e)` -/
theorem srep_remove {s : SenderList} {pre post : List (Nat × Tx)} {e : Nat} {v : Tx} (h : SRep s (pre ++ (e, v) :: post)) :
    SRep ⟨s.items.remove e, s.totalBytes - (((s.items.remove e).heap e).value.size : Int)⟩ (pre ++ post) := by
  refine ⟨rep_remove h.1, ?_⟩
  have := h.2
  rw [remove_value, (rep_mid h.1).2.1]
  simp only [List.map_append, List.map_cons, listBytes_append, listBytes_cons] at this ⊢
  omega

theorem applyLoop_none (cfg : Config) (n : Nat) (s : SenderList) (acc : List Bytes) :
    applyLoop cfg n s none acc = (s, acc) := by cases n <;> rfl

theorem trim1_concat (cfg : Config) (l : List Tx) (x : Tx) :
    trim1 cfg (l ++ [x]) = if senderExceeded cfg (l ++ [x]) then (l, [x]) else (l ++ [x], []) := by
  simp [trim1]

/-- the loop of `applySizeConstraints` is `trim1`, whatever the fuel ≥ `len`: `element.Prev()` is evaluated after
    `Remove(element)`, which has set `element.list = nil`, so it is nil and the loop ends after its first removal -/
theorem srep_applyLoop {s : SenderList} {cs : List (Nat × Tx)} (h : SRep s cs) (cfg : Config) :
    ∃ s', (∀ n, cs.length ≤ n →
            applyLoop cfg n s s.items.back [] = (s', (trim1 cfg (cs.map (·.2))).2.map (·.hash)))
      ∧ ∃ cs', SRep s' cs' ∧ cs'.map (·.2) = (trim1 cfg (cs.map (·.2))).1 := by
  have hex := srep_exceeded h cfg
  have hb := rep_back h.1
  rcases List.eq_nil_or_concat cs with rfl | ⟨r, ⟨e, v⟩, rfl⟩
  · exact ⟨s, fun n _ => by rw [hb]; simp [applyLoop_none, trim1], [], h, by simp [trim1]⟩
  · rw [List.concat_eq_append] at h hex hb ⊢
    rw [List.getLast?_concat] at hb
    rw [List.map_append, List.map_cons, List.map_nil, trim1_concat, List.length_append]
    rw [List.map_append, List.map_cons, List.map_nil] at hex
    cases hx : senderExceeded cfg (r.map (·.2) ++ [v])
    · refine ⟨s, fuel_succ fun n _ => ?_, _, h, by simp⟩
      simp [hb, applyLoop, hex, hx]
    · have h' := srep_remove (post := []) h
      rw [List.append_nil] at h'
      refine ⟨_, fuel_succ fun n _ => ?_, r, h', by simp⟩
      have hnl : ((s.items.remove e).heap e).inList = false :=
        Bool.eq_false_iff.2 (mt ((rep_remove h.1).inl e).1 (rep_mid_notMem h.1))
      have hprev : (s.items.remove e).prev e = none := by simp [GoList.prev, hnl]
      simp [hb, applyLoop, hex, hx, hprev, applyLoop_none, remove_value, (rep_mid h.1).2.1]

/-- REFINEMENT of `applySizeConstraints` to `trim1` — finding F3 is a theorem about the transcribed loop (the reason is
    at `srep_applyLoop`). -/
theorem applySizeConstraints_refines (cfg : Config) {s : SenderList} (h : SWF s) :
    SWF (s.applySizeConstraints cfg).1
    ∧ (s.applySizeConstraints cfg).1.items.toList = (trim1 cfg s.items.toList).1
    ∧ (s.applySizeConstraints cfg).2 = (trim1 cfg s.items.toList).2.map (·.hash) := by
  obtain ⟨s', hrun, cs', hs', hl⟩ := srep_applyLoop h.srep cfg
  rw [SenderList.applySizeConstraints, hrun _ h.1.le_Len]
  exact ⟨hs'.swf, by rw [hs'.toList, hl]; rfl, rfl⟩

theorem applyLoop_fuel (cfg : Config) {s : SenderList} (h : SWF s) (n : Nat) (hn : s.items.Len ≤ n) :
    applyLoop cfg n s s.items.back [] = s.applySizeConstraints cfg := by
  obtain ⟨s', hrun, _⟩ := srep_applyLoop h.srep cfg
  rw [SenderList.applySizeConstraints, hrun n (Nat.le_trans h.1.le_Len hn),
    hrun _ h.1.le_Len]

/-- F3 as a theorem: one call of `applySizeConstraints` removes AT MOST ONE transaction, and it is the last one -/
theorem applySizeConstraints_removes_at_most_one (cfg : Config) {s : SenderList} (h : SWF s) :
    (s.applySizeConstraints cfg).2.length ≤ 1
    ∧ ((s.applySizeConstraints cfg).1.items.toList = s.items.toList ∧ (s.applySizeConstraints cfg).2 = []
       ∨ ∃ x, s.items.toList = (s.applySizeConstraints cfg).1.items.toList ++ [x]
             ∧ (s.applySizeConstraints cfg).2 = [x.hash]) := by
  obtain ⟨_, h1, h2⟩ := applySizeConstraints_refines cfg h
  rw [h1, h2]
  rcases List.eq_nil_or_concat s.items.toList with hl | ⟨r, x, hl⟩
  · rw [hl]; simp [trim1]
  · rw [hl, List.concat_eq_append, trim1_concat]
    cases senderExceeded cfg (r ++ [x]) <;> simp

/-! ### the two nonce-directed removals -/

theorem take_of_eq_append {α : Type} {l A B : List α} (h : l = A ++ B) : l.take (l.length - B.length) = A := by
  subst h; rw [List.length_append, Nat.add_sub_cancel, List.take_left' rfl]

theorem drop_of_eq_append {α : Type} {l A B : List α} (h : l = A ++ B) : l.drop A.length = B := by
  subst h; exact List.drop_left' rfl

theorem lowerLoop_none (k n : Nat) (s : SenderList) (acc : List Bytes) : lowerLoop k n s none acc = (s, acc) := by
  cases n <;> rfl

theorem srep_lowerLoop (k : Nat) (cs : List (Nat × Tx)) : ∀ (s : SenderList) (acc : List Bytes), SRep s cs →
    ∃ s' rm cs', cs = rm ++ cs' ∧ cs'.map (·.2) = dropLowerOrEqual k (cs.map (·.2)) ∧ SRep s' cs'
      ∧ ∀ n, cs.length ≤ n → lowerLoop k n s (cs.head?.map (·.1)) acc = (s', acc ++ rm.map (·.2.hash)) := by
  induction cs with
  | nil => exact fun s acc h => ⟨s, [], [], rfl, rfl, h, fun n _ => by simp [lowerLoop_none]⟩
  | cons c r ih =>
    obtain ⟨e, v⟩ := c
    intro s acc h
    have hrep : Rep s.items ([] ++ (e, v) :: r) := h.1
    have hval : (s.items.heap e).value = v := (rep_mid hrep).2.1
    by_cases hk : v.nonce > k
    · refine ⟨s, [], _, rfl, by simp [dropLowerOrEqual, hk], h, fuel_succ fun n _ => ?_⟩
      simp [lowerLoop, hval, hk]
    · obtain ⟨s', rm, cs', hsp, hd, hs', hrun⟩ := ih _ (acc ++ [v.hash]) (srep_remove (pre := []) h)
      refine ⟨s', (e, v) :: rm, cs', by rw [hsp]; rfl, by simpa [dropLowerOrEqual, hk] using hd, hs',
        fuel_succ fun n hn => ?_⟩
      have := hrun n hn
      simp only [List.head?_cons, Option.map_some, lowerLoop, hval, hk, if_false, rep_next hrep, this]
      simp

/-- REFINEMENT of `removeTransactionsWithLowerOrEqualNonceReturnHashes` to `dropLowerOrEqual`; the returned hashes
    are those of the dropped prefix, in list order -/
theorem removeLowerOrEqual_refines (k : Nat) {s : SenderList} (h : SWF s) :
    SWF (s.removeLowerOrEqual k).1
    ∧ (s.removeLowerOrEqual k).1.items.toList = dropLowerOrEqual k s.items.toList
    ∧ (s.removeLowerOrEqual k).2
        = (s.items.toList.take (s.items.toList.length - (dropLowerOrEqual k s.items.toList).length)).map (·.hash) := by
  obtain ⟨s', rm, cs', hsp, hd, hs', hrun⟩ := srep_lowerLoop k _ s [] h.srep
  have hd : cs'.map (·.2) = dropLowerOrEqual k s.items.toList := hd
  have hl : s.items.toList = rm.map (·.2) ++ dropLowerOrEqual k s.items.toList := by
    rw [← hd, ← List.map_append, ← hsp]; rfl
  rw [SenderList.removeLowerOrEqual, rep_front h.1, hrun _ h.1.le_Len]
  refine ⟨hs'.swf, by rw [hs'.toList, hd], ?_⟩
  rw [take_of_eq_append hl]
  simp

theorem lowerLoop_fuel (k : Nat) {s : SenderList} (h : SWF s) (n : Nat) (hn : s.items.Len ≤ n) :
    lowerLoop k n s s.items.front [] = s.removeLowerOrEqual k := by
  obtain ⟨s', _, _, _, _, _, hrun⟩ := srep_lowerLoop k _ s [] h.srep
  rw [SenderList.removeLowerOrEqual, rep_front h.1, hrun n (Nat.le_trans h.1.le_Len hn),
    hrun _ h.1.le_Len]

theorem higherLoop_none (k n : Nat) (s : SenderList) (acc : List Bytes) : higherLoop k n s none acc = (s, acc) := by
  cases n <;> rfl

/-- the loop of `removeTransactionsWithHigherOrEqualNonce` from the back; `rcs` lists the cells from the back -/
theorem srep_higherLoop (k : Nat) (rcs : List (Nat × Tx)) : ∀ (s : SenderList) (acc : List Bytes), SRep s rcs.reverse →
    ∃ s' rm rcs', rcs = rm ++ rcs' ∧ rcs'.map (·.2) = dropHigherRev k (rcs.map (·.2)) ∧ SRep s' rcs'.reverse
      ∧ ∀ n, rcs.length ≤ n → higherLoop k n s (rcs.head?.map (·.1)) acc = (s', acc ++ rm.map (·.2.hash)) := by
  induction rcs with
  | nil => exact fun s acc h => ⟨s, [], [], rfl, rfl, h, fun n _ => by simp [higherLoop_none]⟩
  | cons c r ih =>
    obtain ⟨e, v⟩ := c
    intro s acc h
    have h' : SRep s (r.reverse ++ (e, v) :: []) := by simpa using h
    have hval : (s.items.heap e).value = v := (rep_mid h'.1).2.1
    by_cases hk : v.nonce < k
    · refine ⟨s, [], _, rfl, by simp [dropHigherRev, hk], h, fuel_succ fun n _ => ?_⟩
      simp [higherLoop, hval, hk]
    · obtain ⟨s', rm, cs', hsp, hd, hs', hrun⟩ := ih _ (acc ++ [v.hash]) (by simpa using srep_remove h')
      refine ⟨s', (e, v) :: rm, cs', by rw [hsp]; rfl, by simpa [dropHigherRev, hk] using hd, hs',
        fuel_succ fun n hn => ?_⟩
      have := hrun n hn
      simp only [List.head?_cons, Option.map_some, higherLoop, hval, hk, if_false, rep_prev h'.1,
        List.getLast?_reverse, this]
      simp

/-- REFINEMENT of `removeTransactionsWithHigherOrEqualNonce` to `keepLower`; the returned hashes are those of the
    dropped suffix in the order the code appends them: from the back -/
theorem removeHigherOrEqual_refines (k : Nat) {s : SenderList} (h : SWF s) :
    SWF (s.removeHigherOrEqual k).1
    ∧ (s.removeHigherOrEqual k).1.items.toList = keepLower k s.items.toList
    ∧ (s.removeHigherOrEqual k).2
        = ((s.items.toList.drop (keepLower k s.items.toList).length).reverse).map (·.hash) := by
  obtain ⟨s', rm, rcs', hsp, hd, hs', hrun⟩ :=
    srep_higherLoop k s.items.cells.reverse s [] (by simpa using h.srep)
  have hk : keepLower k s.items.toList = rcs'.reverse.map (·.2) := by
    rw [keepLower, GoList.toList, ← List.map_reverse, ← hd, List.map_reverse]
  have hl : s.items.toList = keepLower k s.items.toList ++ (rm.map (·.2)).reverse := by
    rw [hk, ← List.map_reverse, ← List.map_append, ← List.reverse_append, ← hsp, List.reverse_reverse]; rfl
  rw [SenderList.removeHigherOrEqual, rep_back h.1, ← List.head?_reverse,
    hrun _ (by rw [List.length_reverse]; exact h.1.le_Len)]
  refine ⟨hs'.swf, by rw [hs'.toList, hk], ?_⟩
  rw [drop_of_eq_append hl]
  simp

theorem higherLoop_fuel (k : Nat) {s : SenderList} (h : SWF s) (n : Nat) (hn : s.items.Len ≤ n) :
    higherLoop k n s s.items.back [] = s.removeHigherOrEqual k := by
  obtain ⟨s', _, _, _, _, _, hrun⟩ := srep_higherLoop k s.items.cells.reverse s [] (by simpa using h.srep)
  have hlen : s.items.cells.reverse.length ≤ s.items.Len := by
    rw [List.length_reverse]; exact h.1.le_Len
  rw [SenderList.removeHigherOrEqual, rep_back h.1, ← List.head?_reverse, hrun n (Nat.le_trans hlen hn), hrun _ hlen]

/-! ### `findInsertionPlace` and the sorted insertion -/

/-- the tests one iteration of the loop of `findInsertionPlace` makes on the transaction `c` of its element, with what
    follows in each case: `here` = `return element, nil`, `dup` = `return nil, errItemAlreadyInCache`, `on` = `continue` -/
def probe {α : Type} (t c : Tx) (here dup on : α) : α :=
  if c.nonce = t.nonce then
    if c.gasPrice > t.gasPrice then here
    else if c.gasPrice = t.gasPrice then
      if c.hash = t.hash then dup
      else if bytesLt c.hash t.hash then here
      else on
    else on
  else if c.nonce < t.nonce then here
  else on

theorem findLoop_succ (g : GoList) (t : Tx) (f e : Nat) :
    findLoop g t (f + 1) (some e) = probe t (g.heap e).value (.at_ (some e)) .err (findLoop g t f (g.prev e)) := rfl

theorem insertRev_cons (t c : Tx) (rest : List Tx) :
    insertRev t (c :: rest) = probe t c (some (t :: c :: rest)) none ((insertRev t rest).map (c :: ·)) := rfl

/-- `probe` returns one of its three arguments, the same one at every type: this is what carries the decision of the
    loop (`findLoop_succ`) over to the model's `insertRev` (`insertRev_cons`) -/
theorem probe_cases (t c : Tx) :
    (∀ {α : Type} (h d o : α), probe t c h d o = h) ∨ (∀ {α : Type} (h d o : α), probe t c h d o = d)
      ∨ (∀ {α : Type} (h d o : α), probe t c h d o = o) := by
  unfold probe
  by_cases h1 : c.nonce = t.nonce
  · by_cases h2 : c.gasPrice > t.gasPrice
    · exact .inl fun _ _ _ => by rw [if_pos h1, if_pos h2]
    · by_cases h3 : c.gasPrice = t.gasPrice
      · by_cases h4 : c.hash = t.hash
        · exact .inr (.inl fun _ _ _ => by rw [if_pos h1, if_neg h2, if_pos h3, if_pos h4])
        · by_cases h5 : bytesLt c.hash t.hash = true
          · exact .inl fun _ _ _ => by rw [if_pos h1, if_neg h2, if_pos h3, if_neg h4, if_pos h5]
          · exact .inr (.inr fun _ _ _ => by rw [if_pos h1, if_neg h2, if_pos h3, if_neg h4, if_neg h5])
      · exact .inr (.inr fun _ _ _ => by rw [if_pos h1, if_neg h2, if_neg h3])
  · by_cases h6 : c.nonce < t.nonce
    · exact .inl fun _ _ _ => by rw [if_neg h1, if_pos h6]
    · exact .inr (.inr fun _ _ _ => by rw [if_neg h1, if_neg h6])

/-- `findInsertionPlace` on the cells listed from the back -/
def findRev (t : Tx) : List (Nat × Tx) → Place
  | [] => .at_ none
  | (e, c) :: r => probe t c (.at_ (some e)) .err (findRev t r)

theorem findLoop_none (g : GoList) (t : Tx) (n : Nat) : findLoop g t n none = .at_ none := by cases n <;> rfl

theorem rep_findLoop {g : GoList} (t : Tx) (rcs : List (Nat × Tx)) : ∀ (post : List (Nat × Tx)),
    Rep g (rcs.reverse ++ post) → ∀ n, rcs.length ≤ n → findLoop g t n (rcs.head?.map (·.1)) = findRev t rcs := by
  induction rcs with
  | nil => intros; simp [findLoop_none, findRev]
  | cons c r ih =>
    obtain ⟨e, c⟩ := c
    intro post h
    have hrep : Rep g (r.reverse ++ (e, c) :: post) := by simpa using h
    refine fuel_succ fun n hn => ?_
    simp only [List.head?_cons, Option.map_some, findLoop_succ, findRev, (rep_mid hrep).2.1, rep_prev hrep,
      List.getLast?_reverse, ih _ hrep n hn]

theorem findRev_spec (t : Tx) (rcs : List (Nat × Tx)) :
    match findRev t rcs with
    | .err => insertRev t (rcs.map (·.2)) = none
    | .at_ none => insertRev t (rcs.map (·.2)) = some (rcs.map (·.2) ++ [t])
    | .at_ (some m) => ∃ R1 cm R2, rcs = R1 ++ (m, cm) :: R2
        ∧ insertRev t (rcs.map (·.2)) = some (R1.map (·.2) ++ t :: cm :: R2.map (·.2)) := by
  induction rcs with
  | nil => simp [findRev, insertRev]
  | cons c r ih =>
    obtain ⟨e, c⟩ := c
    rw [findRev, List.map_cons, insertRev_cons]
    rcases probe_cases t c with hp | hp | hp <;> rw [hp, hp]
    · exact ⟨[], c, r, rfl, rfl⟩
    · cases hf : findRev t r with
      | err => rw [hf] at ih; simp only at ih ⊢; rw [ih]; rfl
      | at_ p =>
        cases p with
        | none => rw [hf] at ih; simp only at ih ⊢; rw [ih]; simp
        | some m =>
          rw [hf] at ih; simp only at ih ⊢
          obtain ⟨R1, cm, R2, hr, hi⟩ := ih
          exact ⟨(e, c) :: R1, cm, R2, by rw [hr]; rfl, by rw [hi]; simp⟩

theorem wf_findLoop {g : GoList} (h : WF g) (t : Tx) (n : Nat) (hn : g.Len ≤ n) :
    findLoop g t n g.back = findRev t g.cells.reverse := by
  obtain ⟨hr, hb, hl⟩ := wf_from_back h
  rw [hb]
  exact rep_findLoop t _ [] hr n (Nat.le_trans hl hn)

/-- `insertValue` followed by `onAddedTransaction` -/
theorem srep_insert {s : SenderList} {pre post : List (Nat × Tx)} (h : SRep s (pre ++ post)) (t : Tx) {a : Nat}
    (ha : (ids pre).getLast?.getD 0 = a) :
    SRep ⟨(s.items.insertValue t a).1, s.totalBytes + (t.size : Int)⟩ (pre ++ (s.items.alloc + 1, t) :: post) := by
  refine ⟨rep_insert h.1 t ha, ?_⟩
  have := h.2
  simp only [List.map_append, List.map_cons, listBytes_append, listBytes_cons] at this ⊢
  omega

/-- REFINEMENT of the insertion of `AddTx` (`findInsertionPlace`, `PushFront`/`InsertAfter`, `onAddedTransaction`)
    to `insertTx`: the error is returned exactly when `insertTx` returns `none` (then nothing changes),
    otherwise the new content is the one `insertTx` computes. -/
theorem insert_refines {s : SenderList} (h : SWF s) (t : Tx) :
    match insertTx t s.items.toList with
    | none => s.insert t = (s, false)
    | some l' => (s.insert t).2 = true ∧ SWF (s.insert t).1 ∧ (s.insert t).1.items.toList = l' := by
  have hspec := findRev_spec t s.items.cells.reverse
  have hrev : s.items.toList.reverse = s.items.cells.reverse.map (·.2) := List.map_reverse.symm
  rw [insertTx, hrev, SenderList.insert, SenderList.findInsertionPlace, wf_findLoop h.1 t _ (Nat.le_refl _)]
  cases hf : findRev t s.items.cells.reverse with
  | err => rw [hf] at hspec; simp only at hspec ⊢; rw [hspec]; trivial
  | at_ p =>
    cases p with
    | none =>
      rw [hf] at hspec; simp only at hspec ⊢
      rw [hspec, pushFront_eq h.1]
      have hs := srep_insert (pre := []) (post := s.items.cells) h.srep t rfl
      exact ⟨trivial, hs.swf, hs.toList.trans (by simp)⟩
    | some m =>
      rw [hf] at hspec; simp only at hspec ⊢
      obtain ⟨R1, cm, R2, hsplit, hins⟩ := hspec
      have hs := h.srep
      rw [← List.reverse_reverse s.items.cells, hsplit, List.reverse_append, List.reverse_cons] at hs
      have hs' := srep_insert (a := m) hs t (by simp)
      rw [hins, GoList.insertAfter, if_pos (rep_mid (by simpa using hs.1)).1]
      exact ⟨trivial, hs'.swf, hs'.toList.trans (by simp)⟩

theorem toList_insert {s : SenderList} (h : SWF s) (t : Tx) :
    (s.insert t).1.items.toList = (insertTx t s.items.toList).getD s.items.toList
    ∧ ((s.insert t).2 = false ↔ insertTx t s.items.toList = none)
    ∧ SWF (s.insert t).1 := by
  have := insert_refines h t
  cases hi : insertTx t s.items.toList with
  | none => rw [hi] at this; simp only at this; rw [this]; exact ⟨rfl, by simp, h⟩
  | some l' => rw [hi] at this; simp only at this; exact ⟨by simp [this.2.2], by simp [this.1], this.2.1⟩

theorem addTx_eq (cfg : Config) (s : SenderList) (t : Tx) :
    s.addTx cfg t = if (s.insert t).2 then
        (((s.insert t).1.applySizeConstraints cfg).1, true, ((s.insert t).1.applySizeConstraints cfg).2)
      else ((s.insert t).1, false, []) := by
  unfold SenderList.addTx
  rcases s.insert t with ⟨s1, _ | _⟩ <;> rfl

/-- REFINEMENT of the whole `txListForSender.AddTx` to the fragment `match insertTx t l with … trim1 …` of
    `SV.TxCache.addTx` -/
theorem addTx_refines (cfg : Config) {s : SenderList} (h : SWF s) (t : Tx) :
    match insertTx t s.items.toList with
    | none => s.addTx cfg t = (s, false, [])
    | some l' => SWF (s.addTx cfg t).1 ∧ (s.addTx cfg t).1.items.toList = (trim1 cfg l').1
        ∧ (s.addTx cfg t).2 = (true, (trim1 cfg l').2.map (·.hash)) := by
  have := insert_refines h t
  rw [addTx_eq]
  cases hi : insertTx t s.items.toList with
  | none => rw [hi] at this; simp only at this ⊢; rw [this]; rfl
  | some l' =>
    rw [hi] at this; simp only at this ⊢
    obtain ⟨h1, h2, h3⟩ := this
    obtain ⟨a1, a2, a3⟩ := applySizeConstraints_refines cfg h2
    rw [h1, if_pos rfl]
    exact ⟨a1, by rw [a2, h3], by rw [a3, h3]⟩

/-! ### the read-outs `getTxs`, `getTxsReversed` return the content, forwards and backwards -/

theorem getLoopFwd_eq (g : GoList) : ∀ (n : Nat) (p : Option Nat) (acc : List Tx),
    getLoopFwd g n p acc = acc ++ (g.walk n p).map (·.2)
  | 0, _, acc => by simp [getLoopFwd, GoList.walk]
  | n + 1, none, acc => by simp [getLoopFwd, GoList.walk]
  | n + 1, some e, acc => by simp [getLoopFwd, GoList.walk, getLoopFwd_eq g n]

theorem getTxs_eq (s : SenderList) : s.getTxs = s.items.toList := by
  simp [SenderList.getTxs, getLoopFwd_eq, GoList.toList, GoList.cells, GoList.Len]

theorem getLoopFwd_fuel {s : SenderList} (h : WF s.items) (n : Nat) (hn : s.items.Len ≤ n) :
    getLoopFwd s.items n s.items.front [] = s.items.toList := by
  rw [getLoopFwd_eq, walk_fuel h n hn]; simp [GoList.toList]

theorem getLoopBwd_none (g : GoList) (n : Nat) (acc : List Tx) : getLoopBwd g n none acc = acc := by cases n <;> rfl

theorem rep_getLoopBwd {g : GoList} (rcs : List (Nat × Tx)) : ∀ (post : List (Nat × Tx)) (acc : List Tx),
    Rep g (rcs.reverse ++ post) → ∀ n, rcs.length ≤ n →
    getLoopBwd g n (rcs.head?.map (·.1)) acc = acc ++ rcs.map (·.2) := by
  induction rcs with
  | nil => intros; simp [getLoopBwd_none]
  | cons c r ih =>
    obtain ⟨e, c⟩ := c
    intro post acc h
    have hrep : Rep g (r.reverse ++ (e, c) :: post) := by simpa using h
    refine fuel_succ fun n hn => ?_
    simp only [List.head?_cons, Option.map_some, getLoopBwd, (rep_mid hrep).2.1, rep_prev hrep, List.getLast?_reverse,
      ih _ (acc ++ [c]) hrep n hn]
    simp

theorem getTxsReversed_eq {s : SenderList} (h : WF s.items) :
    s.getTxsReversed = s.items.toList.reverse
    ∧ ∀ n, s.items.Len ≤ n → getLoopBwd s.items n s.items.back [] = s.items.toList.reverse := by
  obtain ⟨hr, hb, hl⟩ := wf_from_back h
  have key : ∀ n, s.items.Len ≤ n → getLoopBwd s.items n s.items.back [] = s.items.toList.reverse := fun n hn => by
    rw [hb, rep_getLoopBwd _ [] [] hr n (Nat.le_trans hl hn), GoList.toList, List.map_reverse]; rfl
  exact ⟨key _ (Nat.le_refl _), key⟩

/-! ## Non-vacuity: concrete runs of the transcribed code -/

def mkTx (h : UInt8) (nonce price size : Nat) : Tx := ⟨[h], [1], nonce, price, 50000, size, 0, 0, []⟩

/-- 250 bytes per sender, 100 transactions per sender -/
def demoCfg : Config := ⟨true, 1000000, 250, 1000, 100, 1⟩

/-- nonces 1, 3, 2 inserted in this order (elements 1, 2, 3) : content `[1, 2, 3]` held by elements `[1, 3, 2]` -/
def demo3 : SenderList :=
  (((SenderList.new.insert (mkTx 1 1 10 100)).1.insert (mkTx 3 3 10 100)).1.insert (mkTx 2 2 10 100)).1

/-- the hypotheses `SWF`/`WF` of the theorems are satisfiable: every state built by the code satisfies them -/
theorem swf_demo3 : SWF demo3 :=
  (toList_insert (toList_insert (toList_insert swf_new _).2.2 _).2.2 _).2.2

example : demo3.items.toList.map (·.nonce) = [1, 2, 3] ∧ demo3.items.toIds = [1, 3, 2] ∧ demo3.items.Len = 3
    ∧ demo3.totalBytes = 300 := by decide +kernel

/-- `PushFront` (nonce 0 goes to the front), `InsertAfter` in the middle (nonce 2 above), duplicate refused -/
example : ((demo3.insert (mkTx 0 0 10 100)).1.items.toList.map (·.nonce) = [0, 1, 2, 3])
    ∧ (demo3.insert (mkTx 2 2 10 100)).2 = false
    ∧ insertTx (mkTx 2 2 10 100) demo3.items.toList = none
    ∧ (insertTx (mkTx 0 0 10 100) demo3.items.toList).map (·.map (·.nonce)) = some [0, 1, 2, 3] := by decide +kernel

/-- instance of the hypothesis of `wf_insertAfter` / `wf_remove` (mark / element 3 in the middle) and their effect -/
example : demo3.items.cells = [(1, mkTx 1 1 10 100)] ++ (3, mkTx 2 2 10 100) :: [(2, mkTx 3 3 10 100)]
    ∧ (demo3.items.insertAfter (mkTx 9 9 9 9) 3).1.toList.map (·.nonce) = [1, 2, 9, 3]
    ∧ (demo3.items.remove 3).toList.map (·.nonce) = [1, 3]
    ∧ (demo3.items.remove 3).toIds = [1, 2] := by decide +kernel

/-- the library's guards: a removed element has `next = prev = list = nil`; `Remove` again and `InsertAfter` with it
    as mark do nothing; its `Prev()`/`Next()` are nil -/
example : ((demo3.items.remove 3).remove 3).toList = (demo3.items.remove 3).toList
    ∧ ((demo3.items.remove 3).insertAfter (mkTx 9 9 9 9) 3).2 = none
    ∧ ((demo3.items.remove 3).insertAfter (mkTx 9 9 9 9) 3).1.toList = (demo3.items.remove 3).toList
    ∧ (demo3.items.remove 3).prev 3 = none ∧ (demo3.items.remove 3).next 3 = none
    ∧ demo3.items.prev 3 = some 1 ∧ demo3.items.next 3 = some 2 := by decide +kernel

/-- F3, concretely: the 4th transaction brings the sender to 400 bytes against a limit of 250, so TWO drops would be
    needed; the transcribed `AddTx` (library + loop) drops exactly ONE (the last), the list stays over the limit,
    and this is what `trim1` says. -/
example :
    let r := demo3.addTx demoCfg (mkTx 4 4 10 100)
    r.1.items.toList.map (·.nonce) = [1, 2, 3] ∧ r.2 = (true, [[4]])
    ∧ senderExceeded demoCfg r.1.items.toList = true
    ∧ (insertTx (mkTx 4 4 10 100) demo3.items.toList).map (fun l => (trim1 demoCfg l).1.map (·.nonce)) = some [1, 2, 3]
    ∧ (insertTx (mkTx 4 4 10 100) demo3.items.toList).map (fun l => (trim1 demoCfg l).2.map (·.hash)) = some [[4]] := by
  decide +kernel

/-- the same on a 4-element list directly: `applySizeConstraints` with a limit two drops away -/
def demo4 : SenderList := (demo3.insert (mkTx 4 4 10 100)).1

example : demo4.items.toList.map (·.nonce) = [1, 2, 3, 4] ∧ demo4.totalBytes = 400
    ∧ (demo4.applySizeConstraints demoCfg).1.items.toList.map (·.nonce) = [1, 2, 3]
    ∧ (demo4.applySizeConstraints demoCfg).2 = [[4]]
    ∧ (demo4.applySizeConstraints demoCfg).1.isCapacityExceeded demoCfg = true
    ∧ (trim1 demoCfg demo4.items.toList).1.map (·.nonce) = [1, 2, 3]
    ∧ (trim1 demoCfg demo4.items.toList).2.map (·.hash) = [[4]] := by decide +kernel

/-- the two nonce-directed removals and the two read-outs -/
example : (demo4.removeLowerOrEqual 2).1.items.toList.map (·.nonce) = [3, 4] ∧ (demo4.removeLowerOrEqual 2).2 = [[1], [2]]
    ∧ (demo4.removeHigherOrEqual 2).1.items.toList.map (·.nonce) = [1] ∧ (demo4.removeHigherOrEqual 2).2 = [[4], [3], [2]]
    ∧ (dropLowerOrEqual 2 demo4.items.toList).map (·.nonce) = [3, 4]
    ∧ (keepLower 2 demo4.items.toList).map (·.nonce) = [1]
    ∧ demo4.getTxs.map (·.nonce) = [1, 2, 3, 4] ∧ demo4.getTxsReversed.map (·.nonce) = [4, 3, 2, 1] := by decide +kernel

end SV.TxCache.GoList
