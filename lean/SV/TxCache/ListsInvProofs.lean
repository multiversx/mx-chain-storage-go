/-
  SV.TxCache.ListsInvProofs — the list lemmas of `ListProofs` lifted to the pool: every public operation keeps every
  sender list strictly sorted and within the per-sender count limit (`ListsInv`, C04/C06), never changes the
  configuration, and eviction only cuts nonce-suffixes (C07).  All statements hold for every `Variant`.
  The operations are taken apart here once, for all the proof files: `removeTxByHash` and `applyThreshold` by their
  equations, the insertion into its stages (`addTxCore_eq`).
  Defined here: `ListsSorted` (the `sorted` half of `ListsInv`, the companion `Inv` needs to be inductive), the stages
  `Sections.hashAdd`, `Sections.fetchList`, `listAdd`, and `addTxCore` (`addTx` after its eviction step).
-/
import SV.TxCache.ListProofs
import SV.AssocList
namespace SV.TxCache

/-- a weak form of the forward direction of `mem_aset` that needs no `Nodup` keys -/
theorem mem_of_mem_aset {α β} [BEq α] {k s : α} {v x : β} {l : List (α × β)} (h : (s, x) ∈ aset k v l) :
    (s, x) ∈ l ∨ (s = k ∧ x = v) := by
  induction l with
  | nil => exact .inr (Prod.mk.inj (List.mem_singleton.mp h))
  | cons c r ih =>
    obtain ⟨k', v'⟩ := c
    rw [aset] at h
    by_cases hk : k' == k
    · rw [if_pos hk] at h
      exact (List.mem_cons.mp h).elim (fun e => .inr (Prod.mk.inj e)) fun h => .inl (List.mem_cons_of_mem _ h)
    · rw [if_neg hk] at h
      rcases List.mem_cons.mp h with e | h
      · exact .inl (e ▸ List.mem_cons_self)
      · exact (ih h).imp_left (List.mem_cons_of_mem _)

/-! ### the hash index and the sender registry: which fields they leave alone -/

namespace C5

@[simp] theorem byHashRemove_lists (p : Pool) (h : Bytes) : (byHashRemove p h).lists = p.lists := by
  unfold byHashRemove; split <;> rfl
@[simp] theorem byHashRemove_cntSenders (p : Pool) (h : Bytes) : (byHashRemove p h).cntSenders = p.cntSenders := by
  unfold byHashRemove; split <;> rfl
@[simp] theorem byHashRemove_cfg (p : Pool) (h : Bytes) : (byHashRemove p h).cfg = p.cfg := by
  unfold byHashRemove; split <;> rfl

@[simp] theorem removeBulk_nil (p : Pool) : removeBulk p [] = p := rfl
@[simp] theorem removeBulk_cons (p : Pool) (h : Bytes) (hs : List Bytes) :
    removeBulk p (h :: hs) = removeBulk (byHashRemove p h) hs := rfl

@[simp] theorem removeBulk_lists (p : Pool) (hs : List Bytes) : (removeBulk p hs).lists = p.lists := by
  induction hs generalizing p with
  | nil => rfl
  | cons h hs ih => rw [removeBulk_cons, ih, byHashRemove_lists]
@[simp] theorem removeBulk_cntSenders (p : Pool) (hs : List Bytes) : (removeBulk p hs).cntSenders = p.cntSenders := by
  induction hs generalizing p with
  | nil => rfl
  | cons h hs ih => rw [removeBulk_cons, ih, byHashRemove_cntSenders]
@[simp] theorem removeBulk_cfg (p : Pool) (hs : List Bytes) : (removeBulk p hs).cfg = p.cfg := by
  induction hs generalizing p with
  | nil => rfl
  | cons h hs ih => rw [removeBulk_cons, ih, byHashRemove_cfg]

@[simp] theorem removeSenderIfEmpty_byHash (p : Pool) (s : Bytes) : (removeSenderIfEmpty p s).byHash = p.byHash := by
  unfold removeSenderIfEmpty; split <;> rfl
@[simp] theorem removeSenderIfEmpty_cntTx (p : Pool) (s : Bytes) : (removeSenderIfEmpty p s).cntTx = p.cntTx := by
  unfold removeSenderIfEmpty; split <;> rfl
@[simp] theorem removeSenderIfEmpty_numBytes (p : Pool) (s : Bytes) : (removeSenderIfEmpty p s).numBytes = p.numBytes := by
  unfold removeSenderIfEmpty; split <;> rfl
@[simp] theorem removeSenderIfEmpty_cfg (p : Pool) (s : Bytes) : (removeSenderIfEmpty p s).cfg = p.cfg := by
  unfold removeSenderIfEmpty; split <;> rfl

theorem byHashRemove_le (p : Pool) (h : Bytes) :
    (byHashRemove p h).cntTx ≤ p.cntTx ∧ (byHashRemove p h).numBytes ≤ p.numBytes := by
  unfold byHashRemove
  cases alookup h p.byHash <;> dsimp only <;> omega

theorem removeBulk_le (p : Pool) (hs : List Bytes) :
    (removeBulk p hs).cntTx ≤ p.cntTx ∧ (removeBulk p hs).numBytes ≤ p.numBytes := by
  induction hs generalizing p with
  | nil => exact ⟨Int.le_refl _, Int.le_refl _⟩
  | cons h hs ih =>
    have h1 := byHashRemove_le p h
    have h2 := ih (byHashRemove p h)
    rw [removeBulk_cons]
    omega

theorem removeSenderIfEmpty_cntSenders_le (p : Pool) (s : Bytes) : (removeSenderIfEmpty p s).cntSenders ≤ p.cntSenders := by
  unfold removeSenderIfEmpty; split
  · dsimp only; omega
  · exact Int.le_refl _

theorem alookup_removeSenderIfEmpty_ne (p : Pool) {s s' : Bytes} (hne : s' ≠ s) :
    alookup s' (removeSenderIfEmpty p s).lists = alookup s' p.lists := by
  unfold removeSenderIfEmpty
  split
  · exact alookup_aerase_ne _ hne
  · rfl

theorem alookup_removeSenderIfEmpty_self (p : Pool) (s : Bytes) :
    (alookup s (removeSenderIfEmpty p s).lists).getD [] = (alookup s p.lists).getD [] := by
  unfold removeSenderIfEmpty
  split
  · next h => rw [h, alookup_aerase_self]; rfl
  · rfl

end C5
open C5

theorem mem_lists_removeSenderIfEmpty (p : Pool) (k s : Bytes) (x : List Tx)
    (h : (s, x) ∈ (removeSenderIfEmpty p k).lists) : (s, x) ∈ p.lists := by
  unfold removeSenderIfEmpty at h
  split at h
  · exact (mem_aerase.mp h).1
  · exact h

/-! ### relations between the `lists` of two pools; properties of every sender list that pass to sub-lists -/

/-- every list of `L'` is a sublist of a list of the same sender in `L` -/
def SubLists (L' L : List (Bytes × List Tx)) : Prop :=
  ∀ s x, (s, x) ∈ L' → ∃ y, (s, y) ∈ L ∧ x.Sublist y

/-- every list of `L'` is a prefix of a list of the same sender in `L`, cut at a nonce boundary -/
def PreLists (L' L : List (Bytes × List Tx)) : Prop :=
  ∀ s x, (s, x) ∈ L' → ∃ y suf, (s, y) ∈ L ∧ y = x ++ suf ∧ ∀ a ∈ x, ∀ b ∈ suf, a.nonce < b.nonce

theorem SubLists.of_subset {L' L : List (Bytes × List Tx)} (h : ∀ s x, (s, x) ∈ L' → (s, x) ∈ L) : SubLists L' L :=
  fun s x hx => ⟨x, h s x hx, List.Sublist.refl x⟩

theorem PreLists.of_subset {L' L : List (Bytes × List Tx)} (h : ∀ s x, (s, x) ∈ L' → (s, x) ∈ L) : PreLists L' L :=
  fun s x hx => ⟨x, [], h s x hx, by simp, by simp⟩

theorem SubLists.refl (L : List (Bytes × List Tx)) : SubLists L L := .of_subset fun _ _ h => h

theorem PreLists.refl (L : List (Bytes × List Tx)) : PreLists L L := .of_subset fun _ _ h => h

theorem PreLists.trans {L₁ L₂ L₃ : List (Bytes × List Tx)} (h₁ : PreLists L₁ L₂) (h₂ : PreLists L₂ L₃) :
    PreLists L₁ L₃ := by
  intro s x hx
  obtain ⟨y, suf₁, hy, ey, hlt₁⟩ := h₁ s x hx
  obtain ⟨z, suf₂, hz, ez, hlt₂⟩ := h₂ s y hy
  refine ⟨z, suf₁ ++ suf₂, hz, by rw [ez, ey, List.append_assoc], ?_⟩
  intro a ha b hb
  rcases List.mem_append.mp hb with hb | hb
  · exact hlt₁ a ha b hb
  · exact hlt₂ a (by rw [ey]; exact List.mem_append_left _ ha) b hb

theorem PreLists.toSub {L' L : List (Bytes × List Tx)} (h : PreLists L' L) : SubLists L' L := by
  intro s x hx
  obtain ⟨y, suf, hy, ey, -⟩ := h s x hx
  exact ⟨y, hy, by rw [ey]; exact List.sublist_append_left x suf⟩

/-- `P` holds of every sender list: the form of `ListsSorted` and of the two fields of `ListsInv` -/
def EachList (P : List Tx → Prop) (p : Pool) : Prop := ∀ s l, (s, l) ∈ p.lists → P l

/-- every sender list is strictly sorted (nonce ↑, gas price ↓, hash ↑) — the `sorted` part of `ListsInv` -/
def ListsSorted (p : Pool) : Prop := ∀ s l, (s, l) ∈ p.lists → ListSorted l

theorem EachList.of_sub {P : List Tx → Prop} {p q : Pool} (hP : ∀ {x y : List Tx}, x.Sublist y → P y → P x)
    (h : EachList P p) (hs : SubLists q.lists p.lists) : EachList P q := by
  intro s l hl
  obtain ⟨y, hy, hsub⟩ := hs s l hl
  exact hP hsub (h s y hy)

theorem ListsSorted.of_sub {p q : Pool} (h : ListsSorted p) (hs : SubLists q.lists p.lists) : ListsSorted q :=
  EachList.of_sub (fun hsub hy => hy.sublist hsub) h hs

theorem ListsInv.of_sub {p q : Pool} (hi : ListsInv p) (hcfg : q.cfg = p.cfg) (hs : SubLists q.lists p.lists) :
    ListsInv q :=
  ⟨ListsSorted.of_sub hi.sorted hs,
    hcfg ▸ EachList.of_sub (fun hsub hy => Nat.le_trans hsub.length_le hy) hi.count hs⟩

/-! ### one sender's list is cut down

  `RemoveTxByHash` and each threshold of an eviction pass do the same to the sender index: sender `s` gets a shorter
  list `l'`, is unregistered if `l'` is empty, and hashes leave the hash index. -/

theorem mem_lists_shrunk {p q0 : Pool} {s : Bytes} {l' : List Tx} (e1 : q0.lists = aset s l' p.lists) (hs : List Bytes)
    {s0 : Bytes} {x : List Tx} (hx : (s0, x) ∈ (removeBulk (removeSenderIfEmpty q0 s) hs).lists) :
    (s0, x) ∈ p.lists ∨ (s0 = s ∧ x = l') := by
  rw [removeBulk_lists] at hx
  have hx' := mem_lists_removeSenderIfEmpty _ _ _ _ hx
  rw [e1] at hx'
  exact mem_of_mem_aset hx'

theorem applyThreshold_none {v : Variant} {p : Pool} {sn : Bytes × Nat} (hl : alookup sn.1 p.lists = none) :
    applyThreshold v p sn = p := by
  unfold applyThreshold; rw [hl]

theorem applyThreshold_some {v : Variant} {p : Pool} {sn : Bytes × Nat} {l : List Tx}
    (hl : alookup sn.1 p.lists = some l) :
    applyThreshold v p sn =
      removeBulk (removeSenderIfEmpty { p with lists := aset sn.1 (keepLower sn.2 l) p.lists } sn.1)
        (if v.evictionGhosts then [] else (l.drop (keepLower sn.2 l).length).map (·.hash)) := by
  unfold applyThreshold; rw [hl]
  cases v.evictionGhosts <;> rfl

theorem removeTxByHash_none {p : Pool} {h : Bytes} (hb : alookup h p.byHash = none) : removeTxByHash p h = (p, false) := by
  unfold removeTxByHash; rw [hb]

theorem removeTxByHash_unlisted {p : Pool} {h : Bytes} {t : Tx} (hb : alookup h p.byHash = some t)
    (hl : alookup t.sender p.lists = none) : removeTxByHash p h = (byHashRemove p h, true) := by
  unfold removeTxByHash; rw [hb]; dsimp only; rw [byHashRemove_lists, hl]

theorem removeTxByHash_some {p : Pool} {h : Bytes} {t : Tx} {l : List Tx} (hb : alookup h p.byHash = some t)
    (hl : alookup t.sender p.lists = some l) :
    removeTxByHash p h =
      (removeBulk
        (removeSenderIfEmpty { byHashRemove p h with lists := aset t.sender (dropLowerOrEqual t.nonce l) p.lists } t.sender)
        ((l.take (l.length - (dropLowerOrEqual t.nonce l).length)).map (·.hash)), true) := by
  unfold removeTxByHash; rw [hb]; dsimp only; rw [byHashRemove_lists, hl]

/-! ### eviction -/

theorem cfg_applyThreshold (v : Variant) (p : Pool) (sn : Bytes × Nat) : (applyThreshold v p sn).cfg = p.cfg := by
  cases hl : alookup sn.1 p.lists with
  | none => rw [applyThreshold_none hl]
  | some l => rw [applyThreshold_some hl, removeBulk_cfg, removeSenderIfEmpty_cfg]

theorem lists_applyThreshold (v : Variant) (p : Pool) (sn : Bytes × Nat) (hso : ListsSorted p) :
    PreLists (applyThreshold v p sn).lists p.lists := by
  cases hl : alookup sn.1 p.lists with
  | none => rw [applyThreshold_none hl]; exact PreLists.refl _
  | some l =>
    rw [applyThreshold_some hl]
    intro s x hx
    rcases mem_lists_shrunk rfl _ hx with hx | ⟨rfl, rfl⟩
    · exact PreLists.refl _ s x hx
    · have hmem : (sn.1, l) ∈ p.lists := mem_of_alookup hl
      obtain ⟨hsuf, hge⟩ := keepLower_prefix_all sn.2 l
      refine ⟨l, _, hmem, hsuf, fun a ha b hb => ?_⟩
      have := keepLower_lt (hso _ _ hmem).nonceSorted a ha
      have := hge b hb
      omega

theorem cfg_foldl_applyThreshold (v : Variant) (ths : List (Bytes × Nat)) (p : Pool) :
    (ths.foldl (applyThreshold v) p).cfg = p.cfg := by
  induction ths generalizing p with
  | nil => rfl
  | cons sn ths ih => rw [List.foldl_cons, ih, cfg_applyThreshold]

theorem lists_foldl_applyThreshold (v : Variant) (ths : List (Bytes × Nat)) (p : Pool) (hso : ListsSorted p) :
    PreLists (ths.foldl (applyThreshold v) p).lists p.lists := by
  induction ths generalizing p with
  | nil => exact PreLists.refl _
  | cons sn ths ih =>
    rw [List.foldl_cons]
    have h1 := lists_applyThreshold v p sn hso
    exact (ih _ (hso.of_sub h1.toSub)).trans h1

theorem cfg_applyVictims (v : Variant) (p : Pool) (victims : List Tx) : (applyVictims v p victims).cfg = p.cfg := by
  unfold applyVictims
  dsimp only
  rw [removeBulk_cfg, cfg_foldl_applyThreshold]

theorem lists_applyVictims (v : Variant) (p : Pool) (victims : List Tx) (hso : ListsSorted p) :
    PreLists (applyVictims v p victims).lists p.lists := by
  unfold applyVictims
  dsimp only
  rw [removeBulk_lists]
  exact lists_foldl_applyThreshold v _ p hso

theorem cfg_evictLoop (v : Variant) (fuel : Nat) (p : Pool) (heap : List HItem) :
    (evictLoop v fuel p heap).cfg = p.cfg := by
  fun_induction evictLoop v fuel p heap with
  | case3 _ p _ _ victims _ _ _ ih => rw [ih, cfg_applyVictims]
  | _ => rfl

theorem lists_evictLoop (v : Variant) (fuel : Nat) (p : Pool) (heap : List HItem) (hso : ListsSorted p) :
    PreLists (evictLoop v fuel p heap).lists p.lists := by
  fun_induction evictLoop v fuel p heap with
  | case3 _ p _ _ victims _ _ _ ih =>
    have h1 := lists_applyVictims v p victims hso
    exact (ih (hso.of_sub h1.toSub)).trans h1
  | _ => exact PreLists.refl _

theorem cfg_evict (v : Variant) (p : Pool) : (evict v p).cfg = p.cfg := by
  unfold evict
  split
  · exact cfg_evictLoop ..
  · rfl

theorem lists_evict (v : Variant) (p : Pool) (hso : ListsSorted p) : PreLists (evict v p).lists p.lists := by
  unfold evict
  split
  · exact lists_evictLoop v _ p _ hso
  · exact PreLists.refl _

theorem ListsSorted.evict (v : Variant) (p : Pool) (hso : ListsSorted p) : ListsSorted (evict v p) :=
  hso.of_sub (lists_evict v p hso).toSub

theorem ListsInv.evict (v : Variant) (p : Pool) (hi : ListsInv p) : ListsInv (evict v p) :=
  hi.of_sub (cfg_evict v p) (lists_evict v p hi.sorted).toSub

/-- C07 (suffix removal): eviction leaves every surviving sender list a PREFIX of its old list, cut at a nonce boundary:
    every removed transaction has a nonce strictly above every kept one -/
theorem evict_lists_prefix (v : Variant) (p : Pool) (hi : ListsInv p) (s : Bytes) (l' : List Tx)
    (h : (s, l') ∈ (evict v p).lists) :
    ∃ l suf, (s, l) ∈ p.lists ∧ l = l' ++ suf ∧ ∀ a ∈ l', ∀ b ∈ suf, a.nonce < b.nonce :=
  lists_evict v p hi.sorted s l' h

/-- C07: nothing is evicted while the pool is within its thresholds -/
theorem evict_noop (v : Variant) (p : Pool) (h : p.exceeded = false) : evict v p = p := by
  unfold evict
  simp [h]

/-! ### init, clear, removal -/

theorem ListsInv.init (cfg : Config) : ListsInv (Pool.init cfg) := by
  constructor <;> intro s l hl <;> simp [Pool.init] at hl

theorem ListsSorted.init (cfg : Config) : ListsSorted (Pool.init cfg) := (ListsInv.init cfg).sorted

theorem cfg_clear (v : Variant) (p : Pool) : (clear v p).cfg = p.cfg := rfl

theorem ListsInv.clear (v : Variant) (p : Pool) : ListsInv (clear v p) := by
  constructor <;> intro s l hl <;> simp [SV.TxCache.clear] at hl

theorem ListsSorted.clear (v : Variant) (p : Pool) : ListsSorted (SV.TxCache.clear v p) := (ListsInv.clear v p).sorted

theorem cfg_removeTxByHash (p : Pool) (h : Bytes) : (removeTxByHash p h).1.cfg = p.cfg := by
  cases hb : alookup h p.byHash with
  | none => rw [removeTxByHash_none hb]
  | some t =>
    cases hl : alookup t.sender p.lists with
    | none => rw [removeTxByHash_unlisted hb hl]; exact byHashRemove_cfg p h
    | some l => rw [removeTxByHash_some hb hl, removeBulk_cfg, removeSenderIfEmpty_cfg]; exact byHashRemove_cfg p h

theorem lists_removeTxByHash (p : Pool) (h : Bytes) : SubLists (removeTxByHash p h).1.lists p.lists := by
  cases hb : alookup h p.byHash with
  | none => rw [removeTxByHash_none hb]; exact SubLists.refl _
  | some t =>
    cases hl : alookup t.sender p.lists with
    | none => rw [removeTxByHash_unlisted hb hl, byHashRemove_lists]; exact SubLists.refl _
    | some l =>
      rw [removeTxByHash_some hb hl]
      intro s x hx
      rcases mem_lists_shrunk rfl _ hx with hx | ⟨rfl, rfl⟩
      · exact ⟨x, hx, List.Sublist.refl x⟩
      · exact ⟨l, mem_of_alookup hl, dropLowerOrEqual_sublist _ _⟩

theorem ListsInv.removeTxByHash (p : Pool) (h : Bytes) (hi : ListsInv p) : ListsInv (removeTxByHash p h).1 :=
  hi.of_sub (cfg_removeTxByHash p h) (lists_removeTxByHash p h)

theorem ListsInv.removeSenderIfEmpty {p : Pool} (hi : ListsInv p) (s : Bytes) : ListsInv (removeSenderIfEmpty p s) :=
  hi.of_sub (removeSenderIfEmpty_cfg p s) (SubLists.of_subset (mem_lists_removeSenderIfEmpty p s))

/-! ### insertion in stages

  `AddTx` after its optional eviction step is three stages: the hash index takes the transaction (`hashAdd`), the
  sender's list is fetched or created (`fetchList`), the list takes the transaction and is trimmed (`listAdd`).
  The stages are defined here, ahead of `Sections.lean` whose namespace the first two belong to, because this
  decomposition of `addTx` (`addTx_eq_core`, `addTxCore_eq`) is what every proof about insertion goes through. -/

namespace Sections

/-- `txByHash.addTx` -/
def hashAdd (p : Pool) (t : Tx) : Pool × Bool :=
  match alookup t.hash p.byHash with
  | some _ => (p, false)
  | none => ({ p with byHash := p.byHash ++ [(t.hash, t)], cntTx := p.cntTx + 1, numBytes := p.numBytes + t.size }, true)

/-- `getOrAddListForSender` -/
def fetchList (p : Pool) (s : Bytes) : Pool × List Tx :=
  match alookup s p.lists with
  | some l => (p, l)
  | none => ({ p with lists := p.lists ++ [(s, [])], cntSenders := p.cntSenders + 1 }, [])

end Sections
open Sections (hashAdd fetchList)

/-- the rest of `txListBySender.addTxReturnEvicted`, on the fetched list `l`, and `txByHash.RemoveTxsBulk` of what was
    trimmed -/
def listAdd (v : Variant) (p : Pool) (t : Tx) (l : List Tx) (added : Bool) : Pool × Bool :=
  match insertTx t l with
  | none => (p, added)
  | some l' =>
    let (l'', dropped) := trim1 p.cfg l'
    let p := { p with lists := aset t.sender l'' p.lists }
    let p := if v.keepsEmptySender then p else removeSenderIfEmpty p t.sender
    (removeBulk p (dropped.map (·.hash)), true)

/-- `addTx` after its optional eviction step (a literal copy of the rest of the definition) -/
def addTxCore (v : Variant) (p : Pool) (t : Tx) : Pool × Bool :=
  let (p, addedByHash) :=
    match alookup t.hash p.byHash with
    | some _ => (p, false)
    | none => ({ p with byHash := p.byHash ++ [(t.hash, t)], cntTx := p.cntTx + 1, numBytes := p.numBytes + t.size }, true)
  let (p, l) :=
    match alookup t.sender p.lists with
    | some l => (p, l)
    | none => ({ p with lists := p.lists ++ [(t.sender, [])], cntSenders := p.cntSenders + 1 }, [])
  match insertTx t l with
  | none => (p, addedByHash)
  | some l' =>
    let (l'', dropped) := trim1 p.cfg l'
    let p := { p with lists := aset t.sender l'' p.lists }
    let p := if v.keepsEmptySender then p else removeSenderIfEmpty p t.sender
    (removeBulk p (dropped.map (·.hash)), true)

theorem addTx_eq_core (v : Variant) (p0 : Pool) (t : Tx) :
    addTx v p0 t = addTxCore v (if p0.cfg.evictionEnabled then evict v p0 else p0) t := by
  unfold addTx
  generalize (if p0.cfg.evictionEnabled then evict v p0 else p0) = p
  unfold addTxCore
  rfl

theorem addTxCore_eq (v : Variant) (p : Pool) (t : Tx) :
    addTxCore v p t =
      listAdd v (fetchList (hashAdd p t).1 t.sender).1 t (fetchList (hashAdd p t).1 t.sender).2 (hashAdd p t).2 := by
  unfold addTxCore listAdd fetchList hashAdd
  rfl

/-- the second half of the last stage: sender `s` gets `l'` trimmed, is unregistered if that leaves nothing, and the
    trimmed hashes leave the hash index -/
def setTrimmed (v : Variant) (p : Pool) (s : Bytes) (l' : List Tx) : Pool :=
  removeBulk
    (if v.keepsEmptySender then { p with lists := aset s (trim1 p.cfg l').1 p.lists }
     else removeSenderIfEmpty { p with lists := aset s (trim1 p.cfg l').1 p.lists } s)
    ((trim1 p.cfg l').2.map (·.hash))

theorem listAdd_none {v : Variant} {p : Pool} {t : Tx} {l : List Tx} {added : Bool} (h : insertTx t l = none) :
    listAdd v p t l added = (p, added) := by
  unfold listAdd; rw [h]

theorem listAdd_some {v : Variant} {p : Pool} {t : Tx} {l l' : List Tx} {added : Bool} (h : insertTx t l = some l') :
    listAdd v p t l added = (setTrimmed v p t.sender l', true) := by
  unfold listAdd setTrimmed; rw [h]

theorem setTrimmed_current (p : Pool) (s : Bytes) (l' : List Tx) :
    setTrimmed Variant.current p s l' =
      removeBulk (removeSenderIfEmpty { p with lists := aset s (trim1 p.cfg l').1 p.lists } s)
        ((trim1 p.cfg l').2.map (·.hash)) := rfl

theorem hashAdd_some {p : Pool} {t x : Tx} (h : alookup t.hash p.byHash = some x) : hashAdd p t = (p, false) := by
  unfold hashAdd; rw [h]

theorem hashAdd_none {p : Pool} {t : Tx} (h : alookup t.hash p.byHash = none) :
    hashAdd p t =
      ({ p with byHash := p.byHash ++ [(t.hash, t)], cntTx := p.cntTx + 1, numBytes := p.numBytes + t.size }, true) := by
  unfold hashAdd; rw [h]

theorem fetchList_some {p : Pool} {s : Bytes} {l : List Tx} (h : alookup s p.lists = some l) :
    fetchList p s = (p, l) := by
  unfold fetchList; rw [h]

/-! #### what each stage does to the configuration, the counters and the lookups -/

theorem cfg_hashAdd (p : Pool) (t : Tx) : (hashAdd p t).1.cfg = p.cfg := by
  unfold hashAdd; split <;> rfl

theorem lists_hashAdd (p : Pool) (t : Tx) : (hashAdd p t).1.lists = p.lists := by
  unfold hashAdd; split <;> rfl

theorem hashAdd_counters (p : Pool) (t : Tx) :
    (hashAdd p t).1.cntTx ≤ p.cntTx + 1 ∧ (hashAdd p t).1.cntSenders = p.cntSenders ∧
    (hashAdd p t).1.numBytes ≤ p.numBytes + t.size := by
  unfold hashAdd
  cases alookup t.hash p.byHash <;> dsimp only <;> omega

theorem cfg_fetchList (p : Pool) (s : Bytes) : (fetchList p s).1.cfg = p.cfg := by
  unfold fetchList; split <;> rfl

theorem fetchList_snd (p : Pool) (s : Bytes) : (fetchList p s).2 = (alookup s p.lists).getD [] := by
  unfold fetchList; cases alookup s p.lists <;> rfl

theorem fetchList_hashPart (p : Pool) (s : Bytes) :
    (fetchList p s).1.byHash = p.byHash ∧ (fetchList p s).1.cntTx = p.cntTx ∧ (fetchList p s).1.numBytes = p.numBytes := by
  unfold fetchList
  cases alookup s p.lists <;> exact ⟨rfl, rfl, rfl⟩

theorem fetchList_cntSenders_le (p : Pool) (s : Bytes) : (fetchList p s).1.cntSenders ≤ p.cntSenders + 1 := by
  unfold fetchList
  cases alookup s p.lists <;> dsimp only <;> omega

theorem alookup_fetchList (p : Pool) (s s' : Bytes) :
    alookup s' (fetchList p s).1.lists = if s' = s then some (fetchList p s).2 else alookup s' p.lists := by
  unfold fetchList
  cases h : alookup s p.lists with
  | some l => by_cases e : s' = s <;> simp [e, h]
  | none =>
    dsimp only
    rw [alookup_append]
    by_cases e : s' = s
    · simp [e, h, alookup]
    · have : (s == s') = false := beq_false_of_ne fun e' => e e'.symm
      simp [e, alookup, this]

theorem cfg_setTrimmed (v : Variant) (p : Pool) (s : Bytes) (l' : List Tx) : (setTrimmed v p s l').cfg = p.cfg := by
  unfold setTrimmed
  rw [removeBulk_cfg]
  split
  · rfl
  · rw [removeSenderIfEmpty_cfg]

theorem setTrimmed_counters (v : Variant) (p : Pool) (s : Bytes) (l' : List Tx) :
    (setTrimmed v p s l').cntTx ≤ p.cntTx ∧ (setTrimmed v p s l').cntSenders ≤ p.cntSenders ∧
    (setTrimmed v p s l').numBytes ≤ p.numBytes := by
  unfold setTrimmed
  cases v.keepsEmptySender
  · have h1 := removeBulk_le (removeSenderIfEmpty { p with lists := aset s (trim1 p.cfg l').1 p.lists } s)
      ((trim1 p.cfg l').2.map (·.hash))
    have h2 := removeSenderIfEmpty_cntSenders_le { p with lists := aset s (trim1 p.cfg l').1 p.lists } s
    rw [removeSenderIfEmpty_cntTx, removeSenderIfEmpty_numBytes] at h1
    simpa using ⟨h1.1, h2, h1.2⟩
  · have h1 := removeBulk_le { p with lists := aset s (trim1 p.cfg l').1 p.lists } ((trim1 p.cfg l').2.map (·.hash))
    simpa using h1

theorem alookup_setTrimmed_ne (v : Variant) (p : Pool) {s s' : Bytes} (l' : List Tx) (hne : s' ≠ s) :
    alookup s' (setTrimmed v p s l').lists = alookup s' p.lists := by
  unfold setTrimmed
  rw [removeBulk_lists]
  split
  · exact alookup_aset_ne _ _ hne
  · rw [alookup_removeSenderIfEmpty_ne _ hne]
    exact alookup_aset_ne _ _ hne

theorem alookup_setTrimmed_self (v : Variant) (p : Pool) (s : Bytes) (l' : List Tx) :
    (alookup s (setTrimmed v p s l').lists).getD [] = (trim1 p.cfg l').1 := by
  unfold setTrimmed
  rw [removeBulk_lists]
  split
  · dsimp only; rw [alookup_aset_self]; rfl
  · rw [alookup_removeSenderIfEmpty_self]
    dsimp only; rw [alookup_aset_self]; rfl

theorem cfg_listAdd (v : Variant) (p : Pool) (t : Tx) (l : List Tx) (added : Bool) :
    (listAdd v p t l added).1.cfg = p.cfg := by
  cases h : insertTx t l with
  | none => rw [listAdd_none h]
  | some l' => rw [listAdd_some h]; exact cfg_setTrimmed ..

theorem listAdd_counters (v : Variant) (p : Pool) (t : Tx) (l : List Tx) (added : Bool) :
    (listAdd v p t l added).1.cntTx ≤ p.cntTx ∧ (listAdd v p t l added).1.cntSenders ≤ p.cntSenders ∧
    (listAdd v p t l added).1.numBytes ≤ p.numBytes := by
  cases h : insertTx t l with
  | none => rw [listAdd_none h]; exact ⟨Int.le_refl _, Int.le_refl _, Int.le_refl _⟩
  | some l' => rw [listAdd_some h]; exact setTrimmed_counters ..

theorem alookup_listAdd_ne (v : Variant) (p : Pool) (t : Tx) (l : List Tx) (added : Bool) {s : Bytes}
    (hs : s ≠ t.sender) : alookup s (listAdd v p t l added).1.lists = alookup s p.lists := by
  cases h : insertTx t l with
  | none => rw [listAdd_none h]
  | some l' => rw [listAdd_some h]; exact alookup_setTrimmed_ne v p l' hs

theorem cfg_addTxCore (v : Variant) (p : Pool) (t : Tx) : (addTxCore v p t).1.cfg = p.cfg := by
  rw [addTxCore_eq, cfg_listAdd, cfg_fetchList, cfg_hashAdd]

theorem cfg_addTx (v : Variant) (p : Pool) (t : Tx) : (addTx v p t).1.cfg = p.cfg := by
  rw [addTx_eq_core, cfg_addTxCore]
  by_cases he : p.cfg.evictionEnabled = true
  · rw [if_pos he, cfg_evict]
  · rw [if_neg he]

/-! #### a property of every sender list that the new list has is kept -/

theorem EachList.setTrimmed {P : List Tx → Prop} {p : Pool} (h : EachList P p) (v : Variant) (s : Bytes) {l' : List Tx}
    (hx : P (trim1 p.cfg l').1) : EachList P (setTrimmed v p s l') := by
  intro s0 l hl
  unfold SV.TxCache.setTrimmed at hl
  rw [removeBulk_lists] at hl
  have hl' : (s0, l) ∈ aset s (trim1 p.cfg l').1 p.lists := by
    split at hl
    · exact hl
    · exact mem_lists_removeSenderIfEmpty _ _ _ _ hl
  exact (mem_of_mem_aset hl').elim (h s0 l) fun e => e.2 ▸ hx

theorem EachList.fetchList {P : List Tx → Prop} {p : Pool} (h : EachList P p) (h0 : P []) (s : Bytes) :
    EachList P (fetchList p s).1 ∧ P (fetchList p s).2 := by
  unfold Sections.fetchList
  cases hl : alookup s p.lists with
  | some l => exact ⟨h, h s l (mem_of_alookup hl)⟩
  | none =>
    refine ⟨fun s' l hl => (List.mem_append.mp hl).elim (h s' l) fun hl => ?_, h0⟩
    rw [(Prod.mk.inj (List.mem_singleton.mp hl)).2]; exact h0

theorem EachList.addTxCore {P : List Tx → Prop} {p : Pool} (h : EachList P p) (h0 : P []) (v : Variant) (t : Tx)
    (hx : ∀ l l', P l → insertTx t l = some l' → P (trim1 p.cfg l').1) : EachList P (addTxCore v p t).1 := by
  rw [addTxCore_eq]
  have h2 : EachList P (hashAdd p t).1 := fun s l hl => h s l (lists_hashAdd p t ▸ hl)
  obtain ⟨h3, h3l⟩ := h2.fetchList h0 t.sender
  cases hi : insertTx t (Sections.fetchList (hashAdd p t).1 t.sender).2 with
  | none => rw [listAdd_none hi]; exact h3
  | some l' =>
    rw [listAdd_some hi]
    refine h3.setTrimmed v t.sender ?_
    rw [cfg_fetchList, cfg_hashAdd]
    exact hx _ l' h3l hi

theorem ListsSorted.addTxCore (v : Variant) (p : Pool) (t : Tx) (hso : ListsSorted p) :
    ListsSorted (addTxCore v p t).1 :=
  EachList.addTxCore hso .nil v t fun _ _ hl h => (insertTx_trim1 p.cfg hl h).1

theorem ListsInv.addTxCore (v : Variant) (p : Pool) (t : Tx) (hi : ListsInv p) : ListsInv (addTxCore v p t).1 := by
  have h := EachList.addTxCore (P := fun l => ListSorted l ∧ l.length ≤ p.cfg.countPerSender)
    (fun s l hl => ⟨hi.sorted s l hl, hi.count s l hl⟩) ⟨.nil, Nat.zero_le _⟩ v t
    fun _ _ hl h => ⟨(insertTx_trim1 p.cfg hl.1 h).1, (insertTx_trim1 p.cfg hl.1 h).2 hl.2⟩
  exact ⟨fun s l hl => (h s l hl).1, fun s l hl => cfg_addTxCore v p t ▸ (h s l hl).2⟩

/-- C06: after every insertion each sender holds at most CountPerSenderThreshold transactions, and every list stays strictly sorted (C04) -/
theorem ListsInv.addTx (v : Variant) (p : Pool) (t : Tx) (hi : ListsInv p) : ListsInv (addTx v p t).1 := by
  rw [addTx_eq_core]
  by_cases he : p.cfg.evictionEnabled = true
  · rw [if_pos he]; exact (hi.evict v p).addTxCore v _ t
  · rw [if_neg he]; exact hi.addTxCore v p t

end SV.TxCache
