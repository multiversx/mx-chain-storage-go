/-
  SV.TxCache.GreedySpec — the documented selection procedure (README of the Go package), written as an independent
  specification in the README's vocabulary, and the proof that the executable model `selectFromBunches` computes it.

  The README's procedure, condensed: repeatedly take, among the next pending transaction of every sender still in play, the one with the highest
  fee per gas unit (ties: larger gas limit, then lexicographically smaller hash), dropping a sender at its first nonce
  gap or unaffordable fee, skipping a single transaction that is stale, incorrectly guarded or a nonce duplicate, and
  stopping at the first candidate that would break the gas or count budget (or when the time budget is exhausted).
-/
import SV.TxCache.SelOrderProofs
namespace SV.TxCache

/-! ### the specification -/

/-- what is known about the sender's previously selected transactions -/
inductive Expect
  | first              -- nothing selected yet for this sender
  | after (n : Nat)    -- the last transaction selected for this sender has nonce `n`
  deriving DecidableEq, Repr

/-- a sender still in play: its pending transactions (next one first, never empty) -/
structure Player where
  queue : List Tx
  expect : Expect
  pending : queue ≠ []
  deriving DecidableEq

def Player.next (p : Player) : Tx := p.queue.head p.pending

/-- the sender once its next transaction is consumed (selected or skipped); `none`: nothing left, out of play -/
def Player.advance (p : Player) (e : Expect) : Option Player :=
  if h : p.queue.tail ≠ [] then some ⟨p.queue.tail, e, h⟩ else none

/-- the better of two candidates: the challenger replaces the champion only when it is more valuable -/
def keepBetter (v : Variant) (champion challenger : Player) : Player :=
  if moreValuable v challenger.next champion.next then challenger else champion

def argmax (v : Variant) : List Player → Option Player
  | [] => none
  | p :: ps => some (ps.foldl (keepBetter v) p)

/-- the best player, and the OTHER players (in their original order) -/
def best (v : Variant) (players : List Player) : Option (Player × List Player) :=
  (argmax v players).map (fun b => (b, players.erase b))

inductive Decision | stop | dropSender | skipTx | take
  deriving DecidableEq, Repr

/-- initial gap: nothing selected yet and the nonce is above the account nonce -/
def Expect.initialGap : Expect → Nat → Nat → Bool
  | .first, accountNonce, nonce => decide (nonce > accountNonce)
  | .after _, _, _ => false

/-- middle gap: the nonce does not follow the last selected one -/
def Expect.middleGap : Expect → Nat → Bool
  | .first, _ => false
  | .after n, nonce => decide (nonce > n + 1)

/-- nonce duplicate: same nonce as the last selected transaction -/
def Expect.duplicate : Expect → Nat → Bool
  | .first, _ => false
  | .after n, nonce => decide (nonce = n)

/-- accumulated gas after one more transaction (legacy variant: computed in uint64) -/
def addGas (v : Variant) (accGas gasLimit : Nat) : Nat :=
  if v.gasWraps then (accGas + gasLimit) % two64 else accGas + gasLimit

/-- what to do with candidate `t` of a sender whose selection history is `e` -/
def decide? (v : Variant) (s : Session) (committed : Bytes → Nat) (q : SelParams) (accGas count : Nat)
    (t : Tx) (e : Expect) : Decision :=
  -- budgets
  if addGas v accGas t.gasLimit > q.gasReq then .stop
  else if count ≥ q.maxNum then .stop
  else if count % q.interval = 0 ∧ q.stop count = true then .stop
  -- sender-level hazards
  else if e.initialGap (s.nonce t.sender) t.nonce then .dropSender
  else if e.middleGap t.nonce then .dropSender
  else if (t.fee : Int) > (s.balance t.payer : Int) - (committed t.payer : Int) then .dropSender
  -- transaction-level hazards
  else if t.nonce < s.nonce t.sender then .skipTx
  else if s.badGuard t then .skipTx
  else if e.duplicate t.nonce then .skipTx
  else .take

/-- amounts committed by the selected transactions: the sender commits the transferred value, the fee payer the fee -/
def commit (committed : Bytes → Nat) (t : Tx) : Bytes → Nat :=
  fun a => committed a + (if a = t.sender then t.value else 0) + (if a = t.payer then t.fee else 0)

def greedyLoop (v : Variant) (s : Session) (q : SelParams) :
    Nat → List Player → (Bytes → Nat) → Nat → List Tx → List Tx × Nat
  | 0, _, _, accGas, out => (out, accGas)
  | fuel + 1, players, committed, accGas, out =>
    match best v players with
    | none => (out, accGas)
    | some (p, others) =>
      match decide? v s committed q accGas out.length p.next p.expect with
      | .stop => (out, accGas)
      | .dropSender => greedyLoop v s q fuel others committed accGas out
      | .skipTx => greedyLoop v s q fuel (others ++ (p.advance p.expect).toList) committed accGas out
      | .take =>
        greedyLoop v s q fuel (others ++ (p.advance (.after p.next.nonce)).toList)
          (commit committed p.next) (addGas v accGas p.next.gasLimit) (out ++ [p.next])

/-- the documented procedure: every non-empty bunch is a sender in play, nothing selected yet -/
def greedy (v : Variant) (s : Session) (q : SelParams) (bunches : List (List Tx)) : List Tx × Nat :=
  greedyLoop v s q (bunches.flatten.length + 1)
    (bunches.filterMap (fun b => if h : b ≠ [] then some ⟨b, .first, h⟩ else none))
    (fun _ => 0) 0 []

/-! ### the model computes the specification -/

/-- the history of an item, in the specification's vocabulary -/
def expectOf : Option Nat → Expect
  | none => .first
  | some n => .after n

/-- simulation: a heap item is a player -/
def toPlayer (it : HItem) : Player := ⟨it.cur :: it.rest, expectOf it.latest, by simp⟩

@[simp] theorem toPlayer_next (it : HItem) : (toPlayer it).next = it.cur := rfl
@[simp] theorem toPlayer_expect (it : HItem) : (toPlayer it).expect = expectOf it.latest := rfl

theorem expectOf_inj {a b : Option Nat} (h : expectOf a = expectOf b) : a = b := by
  cases a <;> cases b <;> simp_all [expectOf]

theorem toPlayer_inj {a b : HItem} (h : toPlayer a = toPlayer b) : a = b := by
  cases a; cases b
  simp only [toPlayer, Player.mk.injEq, List.cons.injEq] at h
  obtain ⟨⟨h1, h2⟩, h3⟩ := h
  have := expectOf_inj h3
  simp_all

theorem toPlayer_advance (it : HItem) (l : Option Nat) :
    (toPlayer it).advance (expectOf l) = (HItem.advance { it with latest := l }).map toPlayer := by
  unfold Player.advance HItem.advance
  cases hr : it.rest with
  | nil => simp [toPlayer, hr]
  | cons t ts => simp [toPlayer, hr]

/-! #### decisions -/

def Verdict.toDecision : Verdict → Decision
  | .dropSender => .dropSender
  | .skipTx => .skipTx
  | .take => .take

theorem addGas_gt (v : Variant) (acc g r : Nat) : (addGas v acc g > r) ↔ gasExceeded v acc g r = true := by
  unfold addGas gasExceeded
  cases v.gasWraps <;> simp

theorem hazards_eq_verdictOf (latest : Option Nat) (nonce fee accNonce balance consumed : Nat) (bad : Bool) :
    (if (expectOf latest).initialGap accNonce nonce then Decision.dropSender
      else if (expectOf latest).middleGap nonce then .dropSender
      else if (fee : Int) > (balance : Int) - (consumed : Int) then .dropSender
      else if nonce < accNonce then .skipTx
      else if bad then .skipTx
      else if (expectOf latest).duplicate nonce then .skipTx
      else .take) = (verdictOf latest nonce fee accNonce balance consumed bad).toDecision := by
  have hi : ((fee : Int) > (balance : Int) - (consumed : Int)) ↔ (consumed + fee > balance) := by omega
  cases latest with
  | none =>
    simp only [verdictOf_none, expectOf, Expect.initialGap, Expect.middleGap, Expect.duplicate, hi,
      apply_ite Verdict.toDecision, decide_eq_true_eq, Bool.false_eq_true, if_false]
    rfl
  | some l =>
    simp only [verdictOf_some, expectOf, Expect.initialGap, Expect.middleGap, Expect.duplicate, hi,
      apply_ite Verdict.toDecision, decide_eq_true_eq, Bool.false_eq_true, if_false]
    rfl

/-- decision equivalence: `decide?` performs the loop's budget tests, then `classify` -/
theorem decide?_eq_classify (v : Variant) (s : Session) (c : Bytes → Nat) (q : SelParams) (acc : Nat) (out : List Tx)
    (it : HItem) :
    decide? v s c q acc out.length it.cur (expectOf it.latest) =
      if stopsAt v q acc out it then .stop else (classify s c it).toDecision := by
  unfold decide?
  rw [hazards_eq_verdictOf, ← classify_eq, ite_chain_or_prop]
  refine ite_congr (propext ?_) (fun _ => rfl) (fun _ => rfl)
  simp only [stopsAt, addGas_gt, Bool.or_eq_true, Bool.and_eq_true, decide_eq_true_eq, or_assoc]

theorem commit_eq_bump (c : Bytes → Nat) (t : Tx) : commit c t = bump (bump c t.sender t.value) t.payer t.fee := by
  funext a
  simp only [bump_apply, commit, @eq_comm _ a]

/-! #### candidates -/

theorem foldl_keepBetter_le (v : Variant) (y : Tx) (ps : List Player) (c0 : Player)
    (h : moreValuable v y (ps.foldl (keepBetter v) c0).next = true) : moreValuable v y c0.next = true := by
  induction ps generalizing c0 with
  | nil => exact h
  | cons c cs ih =>
    have h1 := ih (keepBetter v c0 c) h
    by_cases hb : moreValuable v c.next c0.next = true
    · rw [keepBetter, if_pos hb] at h1
      exact moreValuable_trans v _ _ _ h1 hb
    · rwa [keepBetter, if_neg hb] at h1

theorem foldl_keepBetter_mem (v : Variant) (ps : List Player) (c0 : Player) : ps.foldl (keepBetter v) c0 ∈ c0 :: ps := by
  induction ps generalizing c0 with
  | nil => exact List.mem_cons_self
  | cons c cs ih =>
    rcases List.mem_cons.mp (ih (keepBetter v c0 c)) with h | h
    · rw [List.foldl_cons, h, keepBetter]
      by_cases hb : moreValuable v c.next c0.next = true
      · rw [if_pos hb]; exact List.mem_cons_of_mem _ List.mem_cons_self
      · rw [if_neg hb]; exact List.mem_cons_self
    · exact List.mem_cons_of_mem _ (List.mem_cons_of_mem _ h)

theorem foldl_keepBetter_max (v : Variant) (ps : List Player) (c0 : Player) {x : Player} (hx : x ∈ ps) :
    moreValuable v x.next (ps.foldl (keepBetter v) c0).next = false := by
  obtain ⟨l1, l2, rfl⟩ := List.append_of_mem hx
  rw [List.foldl_append, List.foldl_cons]
  refine Bool.eq_false_iff.mpr fun hb => ?_
  have h1 := foldl_keepBetter_le v _ l2 _ hb
  by_cases hx : moreValuable v x.next (l1.foldl (keepBetter v) c0).next = true
  · rw [keepBetter, if_pos hx] at h1
    exact Bool.false_ne_true ((moreValuable_irrefl v _).symm.trans h1)
  · rw [keepBetter, if_neg hx] at h1
    exact hx h1

theorem foldl_keepBetter (v : Variant) (ps : List Player) (c0 : Player) :
    ps.foldl (keepBetter v) c0 ∈ c0 :: ps ∧
    ∀ x ∈ c0 :: ps, x.next.hash ≠ (ps.foldl (keepBetter v) c0).next.hash →
      moreValuable v (ps.foldl (keepBetter v) c0).next x.next = true := by
  refine ⟨foldl_keepBetter_mem v ps c0, fun x hx hne => (moreValuable_total v _ _ hne).resolve_left ?_⟩
  rw [Bool.not_eq_true]
  rcases List.mem_cons.mp hx with rfl | hx
  · exact Bool.eq_false_iff.mpr fun hb =>
      Bool.false_ne_true ((moreValuable_irrefl v _).symm.trans (foldl_keepBetter_le v _ ps x hb))
  · exact foldl_keepBetter_max v ps c0 hx

theorem best_spec (v : Variant) (players : List Player) (b : Player) (others : List Player)
    (h : best v players = some (b, others)) :
    b ∈ players ∧ others = players.erase b ∧
    ∀ x ∈ players, x.next.hash ≠ b.next.hash → moreValuable v b.next x.next = true := by
  unfold best at h
  cases players with
  | nil => simp [argmax] at h
  | cons p ps =>
    simp only [argmax, Option.map_some, Option.some.injEq, Prod.mk.injEq] at h
    obtain ⟨rfl, rfl⟩ := h
    obtain ⟨hm, hall⟩ := foldl_keepBetter v ps p
    exact ⟨hm, rfl, hall⟩

theorem best_none (v : Variant) (players : List Player) : best v players = none ↔ players = [] := by
  cases players <;> simp [best, argmax]

theorem erase_toPlayer : ∀ (heap : List HItem) (it : HItem), it ∈ heap →
    ∃ r, r.map toPlayer = (heap.map toPlayer).erase (toPlayer it) ∧ (it :: r).Perm heap
  | [], it, h => by simp at h
  | x :: xs, it, h => by
    by_cases e : x = it
    · subst e
      exact ⟨xs, by simp, List.Perm.refl _⟩
    · have hm : it ∈ xs := by
        rcases List.mem_cons.mp h with h | h
        · exact absurd h.symm e
        · exact h
      obtain ⟨r, hr1, hr2⟩ := erase_toPlayer xs it hm
      refine ⟨x :: r, ?_, ?_⟩
      · have ne : toPlayer x ≠ toPlayer it := fun h' => e (toPlayer_inj h')
        rw [List.map_cons, List.map_cons, List.erase_cons_tail (by simpa using ne), hr1]
      · exact (List.Perm.swap x it r).trans (hr2.cons x)

/-- candidate equivalence: the item popped by the model is the player chosen by the specification -/
theorem popBest_eq_best (v : Variant) (heap : List HItem) (hn : NodupH heap) (it : HItem) (r : List HItem)
    (hpk : popBest v heap = some (it, r)) :
    ∃ r2, best v (heap.map toPlayer) = some (toPlayer it, r2.map toPlayer) ∧ r.Perm r2 := by
  have hperm := popBy_perm _ heap it r hpk
  have hbest := popBy_best _ heap it r (popBest_strictTotalOn v heap) hn.curs hpk
  have hcurs : ((it :: r).map (·.cur.hash)).Nodup := (hn.perm hperm.symm).curs
  cases hb : best v (heap.map toPlayer) with
  | none =>
    have := (best_none v _).mp hb
    have : heap = [] := by simpa using this
    subst this
    simp [popBest, popBy] at hpk
  | some pr =>
    obtain ⟨b, others⟩ := pr
    obtain ⟨hm, ho, hall⟩ := best_spec v _ b others hb
    obtain ⟨j, hj, rfl⟩ := List.mem_map.mp hm
    have hji : j = it := by
      have hj' : j ∈ it :: r := hperm.mem_iff.mpr hj
      rcases List.mem_cons.mp hj' with h | h
      · exact h
      · exfalso
        -- `it` beats `j` in the model, `j` beats `it` in the specification
        have hne : it.cur.hash ≠ j.cur.hash := fun e' =>
          (List.nodup_cons.mp hcurs).1 (List.mem_map.mpr ⟨j, h, e'.symm⟩)
        have h2 := hall (toPlayer it) (List.mem_map_of_mem (hperm.mem_iff.mp List.mem_cons_self)) hne
        exact absurd h2 (Bool.eq_false_iff.mp (moreValuable_asymm v _ _ (hbest j h)))
    subst hji
    obtain ⟨r2, hr1, hr2⟩ := erase_toPlayer heap j hj
    refine ⟨r2, ?_, ?_⟩
    · rw [ho, hr1]
    · exact (hperm.trans hr2.symm).cons_inv

/-! #### the loops -/

theorem selectLoop_eq_greedyLoop (v : Variant) (s : Session) (q : SelParams) :
    ∀ (fuel : Nat) (heap : List HItem) (consumed : Bytes → Nat) (acc : Nat) (out : List Tx), NodupH heap →
      selectLoop v (popBest v) s q fuel heap consumed acc out =
        greedyLoop v s q fuel (heap.map toPlayer) consumed acc out := by
  intro fuel
  induction fuel with
  | zero => intros; rfl
  | succ n ih =>
    intro heap consumed acc out hn
    cases hpk : popBest v heap with
    | none =>
      have e := (popBy_none _ heap).mp hpk
      subst e
      rfl
    | some p =>
      obtain ⟨it, r⟩ := p
      obtain ⟨r2, hb, hrr⟩ := popBest_eq_best v heap hn it r hpk
      have hn1 : NodupH (it :: r) := hn.perm (popBy_perm _ heap it r hpk).symm
      -- the advanced item goes to the front in the model, to the back in the specification
      have moved : ∀ (it2 : HItem) (c : Bytes → Nat) (a : Nat) (o : List Tx), it2.rest = it.rest →
          selectLoop v (popBest v) s q n (it2.advance.toList ++ r) c a o =
            greedyLoop v s q n (r2.map toPlayer ++ (it2.advance.map toPlayer).toList) c a o := by
        intro it2 c a o hr
        have hn' := hn1.requeue hr
        have hp' : (it2.advance.toList ++ r).Perm (r2 ++ it2.advance.toList) :=
          (hrr.append_left _).trans List.perm_append_comm
        rw [selectLoop_perm v s q n _ _ c a o hp' hn', ih _ c a o (hn'.perm hp')]
        cases it2.advance <;> simp
      have stay : ∀ (c : Bytes → Nat) (a : Nat) (o : List Tx),
          selectLoop v (popBest v) s q n r c a o = greedyLoop v s q n (r2.map toPlayer) c a o := by
        intro c a o
        rw [selectLoop_perm v s q n _ _ c a o hrr hn1.tail, ih _ c a o (hn1.tail.perm hrr)]
      rw [selectLoop_some hpk]
      simp only [greedyLoop, hb, toPlayer_next, toPlayer_expect, decide?_eq_classify]
      by_cases hs : stopsAt v q acc out it = true
      · rw [if_pos hs, if_pos hs]
      rw [if_neg hs, if_neg hs]
      cases classify s consumed it with
      | dropSender => exact stay _ _ _
      | skipTx =>
        simp only [Verdict.toDecision]
        rw [toPlayer_advance it it.latest]
        exact moved it _ _ _ rfl
      | take =>
        simp only [Verdict.toDecision]
        rw [show Expect.after it.cur.nonce = expectOf (some it.cur.nonce) from rfl, toPlayer_advance, commit_eq_bump]
        exact moved { it with latest := some it.cur.nonce } _ _ _ rfl

theorem initHeap_toPlayer : ∀ bunches : List (List Tx),
    (initHeap bunches).map toPlayer =
      bunches.filterMap (fun b => if h : b ≠ [] then some (⟨b, .first, h⟩ : Player) else none)
  | [] => rfl
  | b :: bs => by
    rw [initHeap_cons, List.filterMap_cons, ← initHeap_toPlayer bs]
    cases b <;> rfl

/-- the model's selection is the documented greedy procedure (same transactions, same accumulated gas) -/
theorem selectFromBunches_eq_greedy (v : Variant) (s : Session) (q : SelParams) (bunches : List (List Tx))
    (hn : (bunches.flatten.map (·.hash)).Nodup) : selectFromBunches v s q bunches = greedy v s q bunches := by
  unfold selectFromBunches greedy
  have hf : bunchesTotal bunches = bunches.flatten.length := by
    unfold bunchesTotal
    rw [List.length_flatten]
  rw [hf, ← initHeap_toPlayer]
  exact selectLoop_eq_greedyLoop v s q _ _ _ _ _ (NodupH.initHeap hn)

private def exTx (h snd : UInt8) (nonce fee : Nat) : Tx :=
  { hash := [h], sender := [snd], nonce := nonce, gasPrice := 1, gasLimit := 10, size := 0, fee := fee, value := 0,
    relayer := [] }

/-- sender 1: a nonce duplicate (tx 2) and a middle gap (tx 4); sender 2: an initial gap; sender 3 (account nonce 5,
    balance 100): a stale transaction (tx 6) and an unaffordable fee (tx 8); sender 4: nothing special -/
private def exPool : List (List Tx) :=
  [[exTx 1 1 0 90, exTx 2 1 0 80, exTx 3 1 1 70, exTx 4 1 3 100],
   [],
   [exTx 5 2 2 500],
   [exTx 6 3 3 60, exTx 7 3 5 50, exTx 8 3 6 1000],
   [exTx 9 4 0 40, exTx 10 4 1 30]]

private def exSession : Session :=
  ⟨fun a => if a = [3] then 5 else 0, fun a => if a = [3] then 100 else 1000, fun _ => false⟩

example :
    greedy Variant.current exSession { gasReq := 1000, maxNum := 10, stop := fun _ => false } exPool
      = ([exTx 1 1 0 90, exTx 3 1 1 70, exTx 7 3 5 50, exTx 9 4 0 40, exTx 10 4 1 30], 50) := by
  decide +kernel

/-- gas budget: stops at the first candidate (tx 9) that would exceed 35 -/
example :
    greedy Variant.current exSession { gasReq := 35, maxNum := 10, stop := fun _ => false } exPool
      = ([exTx 1 1 0 90, exTx 3 1 1 70, exTx 7 3 5 50], 30) := by
  decide +kernel

/-- count budget -/
example :
    greedy Variant.current exSession { gasReq := 1000, maxNum := 2, stop := fun _ => false } exPool
      = ([exTx 1 1 0 90, exTx 3 1 1 70], 20) := by
  decide +kernel

/-- the hypothesis of `selectFromBunches_eq_greedy` is needed: with a repeated hash "the most valuable" is ambiguous
    (the model pops the last of two equal candidates, the specification keeps the first) -/
theorem greedy_needs_distinct_hashes :
    ∃ (s : Session) (q : SelParams) (bunches : List (List Tx)),
      selectFromBunches Variant.current s q bunches ≠ greedy Variant.current s q bunches := by
  refine ⟨⟨fun _ => 0, fun _ => 100000, fun _ => false⟩, { gasReq := 1000, maxNum := 10, stop := fun _ => false },
    [[exTx 1 1 0 50, exTx 2 1 1 90], [exTx 1 1 0 50, exTx 3 1 1 10]], ?_⟩
  decide

end SV.TxCache
