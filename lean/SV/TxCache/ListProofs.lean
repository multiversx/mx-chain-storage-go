/-
  SV.TxCache.ListProofs — the per-sender list (C04, C06): the order `listLt`, the back-to-front insertion of the code
  against the reference `orderedInsert`, the one-step trimming `trim1` against the reference `trimAll` (finding F3),
  and the two removal helpers `dropLowerOrEqual` / `keepLower`.
-/
import SV.TxCache.Spec
import SV.CommonProofs
namespace SV.TxCache

/-! ### the order `listLt`: a strict total order on transactions that differ in (nonce, gasPrice, hash) -/

theorem listLt_iff (a b : Tx) :
    listLt a b = true ↔
      a.nonce < b.nonce ∨ (a.nonce = b.nonce ∧
        (b.gasPrice < a.gasPrice ∨ (b.gasPrice = a.gasPrice ∧ bytesLt a.hash b.hash = true))) := by
  simp only [listLt, Bool.or_eq_true, Bool.and_eq_true, decide_eq_true_eq, gt_iff_lt, eq_comm (a := a.gasPrice)]

theorem listLt_key_ne (a b : Tx) (h : listLt a b = true) :
    ¬ (a.nonce = b.nonce ∧ a.gasPrice = b.gasPrice ∧ a.hash = b.hash) := by
  rintro ⟨h1, h2, h3⟩
  rw [listLt_iff, h3, bytesLt_irrefl] at h
  simp only [Bool.false_eq_true, and_false, or_false] at h
  omega

theorem listLt_irrefl (a : Tx) : listLt a a = false :=
  Bool.eq_false_iff.mpr fun h => listLt_key_ne a a h ⟨rfl, rfl, rfl⟩

theorem listLt_trans (a b c : Tx) : listLt a b = true → listLt b c = true → listLt a c = true := by
  simp only [listLt_iff]
  exact lex_trans fun p q => lex_trans (fun y x => bytesLt_trans _ _ _ x y) q p

theorem listLt_asymm (a b : Tx) (h : listLt a b = true) : listLt b a = false :=
  Bool.eq_false_iff.mpr fun hb => Bool.false_ne_true ((listLt_irrefl a).symm.trans (listLt_trans a b a h hb))

theorem listLt_total (a b : Tx) (h : ¬ (a.nonce = b.nonce ∧ a.gasPrice = b.gasPrice ∧ a.hash = b.hash)) :
    listLt a b = true ∨ listLt b a = true := by
  rw [listLt_iff, listLt_iff]
  exact lex_total fun e1 => lex_total fun e2 => bytesLt_total _ _ fun e3 => h ⟨e1, e2.symm, e3⟩

theorem listLt_ne (a b : Tx) (h : listLt a b = true) : a ≠ b :=
  fun e => listLt_key_ne a b h (e ▸ ⟨rfl, rfl, rfl⟩)

theorem listLt_nonce_le (a b : Tx) (h : listLt a b = true) : a.nonce ≤ b.nonce := by
  rw [listLt_iff] at h
  omega

/-! ### sorted lists -/

theorem ListSorted.nodup {l : List Tx} (h : ListSorted l) : l.Nodup :=
  List.Pairwise.imp (fun {a b} hab => listLt_ne a b hab) h

theorem ListSorted.keyNodup {l : List Tx} (h : ListSorted l) :
    l.Pairwise (fun a b => ¬ (a.nonce = b.nonce ∧ a.gasPrice = b.gasPrice ∧ a.hash = b.hash)) :=
  List.Pairwise.imp (fun {a b} hab => listLt_key_ne a b hab) h

theorem ListSorted.nonceSorted {l : List Tx} (h : ListSorted l) : l.Pairwise (fun a b => a.nonce ≤ b.nonce) :=
  List.Pairwise.imp (fun {a b} hab => listLt_nonce_le a b hab) h

theorem ListSorted.sublist {l l' : List Tx} (h : ListSorted l) (hs : l'.Sublist l) : ListSorted l' :=
  List.Pairwise.sublist hs h

/-! ### insertion -/

theorem orderedInsert_perm (t : Tx) (l : List Tx) : (orderedInsert t l).Perm (t :: l) := by
  induction l with
  | nil => exact List.Perm.refl _
  | cons c rest ih =>
    simp only [orderedInsert]
    split
    · exact List.Perm.refl _
    · exact ((List.Perm.cons c ih).trans (List.Perm.swap t c rest))

theorem mem_orderedInsert (t x : Tx) (l : List Tx) : x ∈ orderedInsert t l ↔ x = t ∨ x ∈ l := by
  rw [(orderedInsert_perm t l).mem_iff, List.mem_cons]

theorem orderedInsert_eq_append (t : Tx) (l : List Tx) (h : ∀ x ∈ l, listLt t x = false) :
    orderedInsert t l = l ++ [t] := by
  induction l with
  | nil => rfl
  | cons c rest ih =>
    have hc : listLt t c = false := h c (List.mem_cons_self ..)
    simp only [orderedInsert, hc, List.cons_append]
    rw [ih (fun x hx => h x (List.mem_cons_of_mem _ hx))]
    simp

theorem orderedInsert_concat_of_lt (t c : Tx) (xs : List Tx) (h : listLt t c = true) :
    orderedInsert t (xs ++ [c]) = orderedInsert t xs ++ [c] := by
  induction xs with
  | nil => simp [orderedInsert, h]
  | cons x xs ih =>
    simp only [List.cons_append, orderedInsert]
    split
    · rfl
    · rw [ih]; rfl

theorem insertRev_cons (t c : Tx) (rest : List Tx) :
    insertRev t (c :: rest) =
      if listLt c t = true then some (t :: c :: rest)
      else if (c.nonce = t.nonce ∧ c.gasPrice = t.gasPrice ∧ c.hash = t.hash) then none
      else (insertRev t rest).map (c :: ·) := by
  simp only [insertRev, listLt_iff, eq_comm (a := t.gasPrice)]
  by_cases c1 : c.nonce = t.nonce
  · simp only [c1, if_true, Nat.lt_irrefl, false_or, true_and]
    by_cases c2 : c.gasPrice > t.gasPrice
    · simp [c2]
    · simp only [c2, if_false, false_or]
      by_cases c3 : c.gasPrice = t.gasPrice
      · simp only [c3, if_true, true_and]
        by_cases c4 : c.hash = t.hash
        · simp [c4, bytesLt_irrefl]
        · simp only [c4, if_false]
      · simp [c3]
  · simp only [c1, if_false, false_and, or_false]

theorem insertRev_spec (t : Tx) (r : List Tx) (hs : ListSorted r.reverse) :
    (insertRev t r).map List.reverse =
      if (∃ c ∈ r, c.nonce = t.nonce ∧ c.gasPrice = t.gasPrice ∧ c.hash = t.hash) then none
      else some (orderedInsert t r.reverse) := by
  induction r with
  | nil => simp [insertRev, orderedInsert]
  | cons c rest ih =>
    rw [List.reverse_cons] at hs ⊢
    obtain ⟨hsx, -, hxc⟩ := List.pairwise_append.mp hs
    rw [insertRev_cons]
    by_cases h1 : listLt c t = true
    · -- everything is below `t`: there is no duplicate, and `t` goes to the very end
      have hall : ∀ x ∈ c :: rest, listLt x t = true := by
        intro x hx
        rcases List.mem_cons.mp hx with rfl | hx
        · exact h1
        · exact listLt_trans _ _ _ (hxc x (List.mem_reverse.mpr hx) c (List.mem_singleton.mpr rfl)) h1
      have hend := orderedInsert_eq_append t (rest.reverse ++ [c]) fun x hx =>
        listLt_asymm _ _ (hall x (by simpa [or_comm] using hx))
      rw [if_pos h1, if_neg fun ⟨x, hx, hk⟩ => listLt_key_ne _ _ (hall x hx) hk, hend]
      simp
    · rw [if_neg h1]
      by_cases h2 : c.nonce = t.nonce ∧ c.gasPrice = t.gasPrice ∧ c.hash = t.hash
      · rw [if_pos h2, if_pos ⟨c, List.mem_cons_self, h2⟩]; rfl
      · -- `t` has to come before `c`, which therefore plays no role
        rw [if_neg h2, orderedInsert_concat_of_lt t c _ ((listLt_total c t h2).resolve_left h1), Option.map_map]
        have hrev : List.reverse ∘ (c :: ·) = (· ++ [c]) ∘ List.reverse := funext fun _ => List.reverse_cons
        rw [hrev, ← Option.map_map, ih hsx]
        simp only [List.mem_cons, or_and_right, exists_or, exists_eq_left, h2, false_or]
        split <;> rfl

/-- the back-to-front insertion of the code is the reference ordered insertion; it refuses exactly the duplicates
    (same nonce, same gas price, same hash) -/
theorem insertTx_eq_orderedInsert (t : Tx) (l : List Tx) (hs : ListSorted l) :
    insertTx t l =
      if (∃ c ∈ l, c.nonce = t.nonce ∧ c.gasPrice = t.gasPrice ∧ c.hash = t.hash) then none
      else some (orderedInsert t l) := by
  have h := insertRev_spec t l.reverse (by rw [List.reverse_reverse]; exact hs)
  simp only [List.reverse_reverse, List.mem_reverse] at h
  exact h

theorem orderedInsert_sorted (t : Tx) (l : List Tx) (hs : ListSorted l)
    (hn : ¬ ∃ c ∈ l, c.nonce = t.nonce ∧ c.gasPrice = t.gasPrice ∧ c.hash = t.hash) :
    ListSorted (orderedInsert t l) := by
  induction l with
  | nil => simp [orderedInsert, ListSorted]
  | cons c rest ih =>
    unfold ListSorted at hs
    rw [List.pairwise_cons] at hs
    obtain ⟨hc, hrest⟩ := hs
    simp only [orderedInsert]
    split
    · next h1 =>
      unfold ListSorted
      refine List.pairwise_cons.mpr ⟨?_, List.pairwise_cons.mpr ⟨hc, hrest⟩⟩
      intro x hx
      rcases List.mem_cons.mp hx with hx | hx
      · rw [hx]; exact h1
      · exact listLt_trans _ _ _ h1 (hc x hx)
    · next h1 =>
      have hck : ¬ (c.nonce = t.nonce ∧ c.gasPrice = t.gasPrice ∧ c.hash = t.hash) :=
        fun hk => hn ⟨c, List.mem_cons_self .., hk⟩
      have h2 : listLt c t = true := by
        rcases listLt_total c t hck with h | h
        · exact h
        · exact absurd h h1
      have ih' := ih hrest (fun ⟨c', hc', hk⟩ => hn ⟨c', List.mem_cons_of_mem _ hc', hk⟩)
      unfold ListSorted
      refine List.pairwise_cons.mpr ⟨?_, ih'⟩
      intro x hx
      rcases (mem_orderedInsert t x rest).mp hx with hx | hx
      · rw [hx]; exact h2
      · exact hc x hx

/-! ### trimming -/

/-- per-sender trimming as coded (`trim1`): at most ONE transaction, the highest-ordered, is dropped, and only if the list is over a limit -/
theorem trim1_spec (cfg : Config) (l : List Tx) :
    trim1 cfg l = if senderExceeded cfg l then (l.dropLast, (l.getLast?).toList) else (l, []) := by
  unfold trim1
  split
  · obtain ⟨r, rfl⟩ : ∃ r, l = r.reverse := ⟨l.reverse, (List.reverse_reverse l).symm⟩
    rw [List.reverse_reverse]
    cases r with
    | nil => rfl
    | cons last ri =>
      simp only [List.reverse_cons, List.dropLast_concat, List.getLast?_concat, Option.toList]
  · rfl

theorem trim1_append (cfg : Config) (l : List Tx) : (trim1 cfg l).1 ++ (trim1 cfg l).2 = l := by
  rw [trim1_spec]
  split
  · rcases List.eq_nil_or_concat l with rfl | ⟨r, x, rfl⟩
    · rfl
    · rw [List.concat_eq_append, List.dropLast_concat, List.getLast?_concat]; rfl
  · exact List.append_nil l

theorem trim1_fst (cfg : Config) (l : List Tx) :
    (trim1 cfg l).1 = if senderExceeded cfg l then l.dropLast else l := by
  rw [trim1_spec]; split <;> rfl

/-- count limit: one in, at most one out -/
theorem trim1_count (cfg : Config) (l : List Tx) (hc : l.length ≤ cfg.countPerSender + 1) :
    (trim1 cfg l).1.length ≤ cfg.countPerSender := by
  rw [trim1_fst]
  by_cases h : senderExceeded cfg l = true
  · rw [if_pos h, List.length_dropLast]; omega
  · rw [if_neg h]
    simp only [senderExceeded, Bool.or_eq_true, decide_eq_true_eq, not_or] at h
    omega

theorem trimAll_of_not_exceeded (cfg : Config) (n : Nat) (l : List Tx) (h : senderExceeded cfg l = false) :
    trimAll cfg n l = l := by
  cases n with
  | zero => rfl
  | succ n => simp [trimAll, h]

/-- byte limit (PARTIAL, finding F3): when dropping the last element suffices, the coded trim agrees with the reference trim -/
theorem trim1_eq_trimAll_of_one_suffices (cfg : Config) (l : List Tx)
    (h : senderExceeded cfg l.dropLast = false) : (trim1 cfg l).1 = trimAll cfg (l.length + 1) l := by
  rw [trim1_fst]
  simp only [trimAll]
  split
  · rw [trimAll_of_not_exceeded cfg _ _ h]
  · rfl

/-- …and when it does not suffice the coded trim leaves the list over its limit: the deviation is real -/
theorem trim1_incomplete_example :
    ∃ (cfg : Config) (l : List Tx), senderExceeded cfg (trim1 cfg l).1 = true ∧ (trim1 cfg l).1 ≠ trimAll cfg (l.length + 1) l := by
  refine ⟨⟨true, 1000, 100, 1000, 10, 1⟩,
    [⟨[1], [7], 1, 5, 1, 60, 0, 0, []⟩, ⟨[2], [7], 2, 5, 1, 60, 0, 0, []⟩, ⟨[3], [7], 3, 5, 1, 60, 0, 0, []⟩], ?_, ?_⟩
  · decide
  · decide

theorem trim1_sorted (cfg : Config) (l : List Tx) (hs : ListSorted l) : ListSorted (trim1 cfg l).1 := by
  rw [trim1_fst]
  split
  · exact hs.sublist (List.dropLast_sublist l)
  · exact hs

theorem insertTx_trim1 (cfg : Config) {t : Tx} {l l' : List Tx} (hs : ListSorted l) (h : insertTx t l = some l') :
    ListSorted (trim1 cfg l').1 ∧ (l.length ≤ cfg.countPerSender → (trim1 cfg l').1.length ≤ cfg.countPerSender) := by
  rw [insertTx_eq_orderedInsert t l hs] at h
  by_cases hdup : ∃ c ∈ l, c.nonce = t.nonce ∧ c.gasPrice = t.gasPrice ∧ c.hash = t.hash
  · rw [if_pos hdup] at h; cases h
  · rw [if_neg hdup] at h
    cases h
    refine ⟨trim1_sorted cfg _ (orderedInsert_sorted t l hs hdup), fun hc => trim1_count cfg _ ?_⟩
    rw [(orderedInsert_perm t l).length_eq, List.length_cons]
    omega

/-! ### removal helpers

  Both scans drop a prefix: `dropLowerOrEqual n` and `dropHigherRev n` are `List.dropWhile` of the negated test.  On a
  list along which the test, once true, stays true, that is the same as filtering. -/

theorem dropWhile_not_split {α} (q : α → Bool) (l : List α) :
    ∃ pre, l = pre ++ l.dropWhile (fun a => !q a) ∧ ∀ x ∈ pre, q x = false := by
  induction l with
  | nil => exact ⟨[], rfl, nofun⟩
  | cons a l ih =>
    rw [List.dropWhile_cons]
    cases hq : q a
    · obtain ⟨pre, hpre, hall⟩ := ih
      exact ⟨a :: pre, congrArg (a :: ·) hpre, List.forall_mem_cons.mpr ⟨hq, hall⟩⟩
    · exact ⟨[], rfl, nofun⟩

theorem dropWhile_not_eq_filter {α} (q : α → Bool) {l : List α}
    (h : l.Pairwise (fun a b => q a = true → q b = true)) : l.dropWhile (fun a => !q a) = l.filter q := by
  induction l with
  | nil => rfl
  | cons a l ih =>
    rw [List.pairwise_cons] at h
    rw [List.dropWhile_cons]
    cases hq : q a
    · rw [List.filter_cons_of_neg (by simp [hq])]
      exact ih h.2
    · exact (List.filter_eq_self.mpr (List.forall_mem_cons.mpr ⟨hq, fun b hb => h.1 b hb hq⟩)).symm

theorem dropLowerOrEqual_eq_dropWhile (n : Nat) (l : List Tx) :
    dropLowerOrEqual n l = l.dropWhile (fun t => !decide (t.nonce > n)) := by
  induction l with
  | nil => rfl
  | cons c rest ih => by_cases h : c.nonce > n <;> simp [dropLowerOrEqual, h, ih]

theorem dropHigherRev_eq_dropWhile (n : Nat) (l : List Tx) :
    dropHigherRev n l = l.dropWhile (fun t => !decide (t.nonce < n)) := by
  induction l with
  | nil => rfl
  | cons c rest ih => by_cases h : c.nonce < n <;> simp [dropHigherRev, h, ih]

theorem dropLowerOrEqual_eq_filter (n : Nat) (l : List Tx) (hs : l.Pairwise (fun a b => a.nonce ≤ b.nonce)) :
    dropLowerOrEqual n l = l.filter (fun t => decide (t.nonce > n)) := by
  rw [dropLowerOrEqual_eq_dropWhile]
  refine dropWhile_not_eq_filter _ (hs.imp fun {a b} hab ha => ?_)
  simp only [decide_eq_true_eq] at ha ⊢
  omega

/-- the part `RemoveTxByHash` cuts off, as the code computes it: the front, with nonces ≤ n -/
theorem dropLowerOrEqual_suffix (n : Nat) (l : List Tx) :
    l = l.take (l.length - (dropLowerOrEqual n l).length) ++ dropLowerOrEqual n l ∧
    ∀ t ∈ l.take (l.length - (dropLowerOrEqual n l).length), t.nonce ≤ n := by
  rw [dropLowerOrEqual_eq_dropWhile]
  obtain ⟨pre, hpre, hall⟩ := dropWhile_not_split (fun t : Tx => decide (t.nonce > n)) l
  have htake : l.take (l.length - (l.dropWhile fun t => !decide (t.nonce > n)).length) = pre := by
    have hlen := congrArg List.length hpre
    rw [List.length_append] at hlen
    rw [hlen, Nat.add_sub_cancel]
    conv => lhs; rw [hpre]
    exact List.take_left
  rw [htake]
  exact ⟨hpre, fun t ht => Nat.not_lt.mp (of_decide_eq_false (hall t ht))⟩

theorem dropLowerOrEqual_sublist (n : Nat) (l : List Tx) : (dropLowerOrEqual n l).Sublist l := by
  rw [dropLowerOrEqual_eq_dropWhile]
  exact List.dropWhile_sublist _

theorem dropLowerOrEqual_gt {n : Nat} {l : List Tx} (hs : l.Pairwise (fun a b => a.nonce ≤ b.nonce)) :
    ∀ x ∈ dropLowerOrEqual n l, x.nonce > n := by
  intro x hx
  rw [dropLowerOrEqual_eq_filter n l hs, List.mem_filter] at hx
  simpa using hx.2

theorem keepLower_eq_filter (n : Nat) (l : List Tx) (hs : l.Pairwise (fun a b => a.nonce ≤ b.nonce)) :
    keepLower n l = l.filter (fun t => decide (t.nonce < n)) := by
  rw [keepLower, dropHigherRev_eq_dropWhile, dropWhile_not_eq_filter, List.filter_reverse, List.reverse_reverse]
  refine List.pairwise_reverse.mpr (hs.imp fun {a b} hab hb => ?_)
  simp only [decide_eq_true_eq] at hb ⊢
  omega

theorem keepLower_lt {n : Nat} {l : List Tx} (hs : l.Pairwise (fun a b => a.nonce ≤ b.nonce)) :
    ∀ x ∈ keepLower n l, x.nonce < n := by
  intro x hx
  rw [keepLower_eq_filter n l hs, List.mem_filter] at hx
  simpa using hx.2

theorem keepLower_sublist (n : Nat) (l : List Tx) : (keepLower n l).Sublist l := by
  rw [keepLower, dropHigherRev_eq_dropWhile]
  exact List.reverse_sublist.mp (by rw [List.reverse_reverse]; exact List.dropWhile_sublist _)

/-- the part eviction cuts off, as the code computes it: the back, EVERY transaction of it with nonce ≥ n -/
theorem keepLower_prefix_all (n : Nat) (l : List Tx) :
    l = keepLower n l ++ l.drop (keepLower n l).length ∧ ∀ t ∈ l.drop (keepLower n l).length, ¬ t.nonce < n := by
  obtain ⟨pre, hpre, hall⟩ := dropWhile_not_split (fun t : Tx => decide (t.nonce < n)) l.reverse
  have hl : l = keepLower n l ++ pre.reverse := by
    rw [keepLower, dropHigherRev_eq_dropWhile, ← List.reverse_append, ← hpre, List.reverse_reverse]
  have hdrop := congrArg (List.drop (keepLower n l).length) hl
  rw [List.drop_left] at hdrop
  rw [hdrop]
  exact ⟨hl, fun t ht => of_decide_eq_false (hall t (List.mem_reverse.mp ht))⟩

theorem keepLower_prefix (n : Nat) (l : List Tx) : ∃ suf, l = keepLower n l ++ suf ∧ (∀ t ∈ suf, ¬ t.nonce < n → True) ∧
    (suf ≠ [] → ∀ t, suf.head? = some t → ¬ t.nonce < n) := by
  obtain ⟨hl, hge⟩ := keepLower_prefix_all n l
  refine ⟨_, hl, fun _ _ _ => trivial, ?_⟩
  intro _ t ht
  exact hge t (List.mem_of_mem_head? (by rw [ht]; exact rfl))

end SV.TxCache
