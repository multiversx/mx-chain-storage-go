/-
  SV.TxCache.SessionWrapper — the selection session wrapper (`selectionSessionWrapper.go`): ONE lazily filled memo
  table `recordsByAddress : address ↦ {initialNonce, initialBalance, consumedBalance}` in front of an arbitrary
  (stateful, possibly inconsistent) external session.  The loop `selectLoopW` consults the table exactly where
  `selection.go` / `transactionsHeapItem.go` do and in the same order; it is proved to REFINE the pure loop
  `selectLoop` of `Model.lean` for the session made of the first answer the oracle gave for each address
  (properties C01, C02: "all session answers").

  Modelling notes
  * `Oracle n a` is the answer of the `n`-th `GetAccountState` call (counted over the whole run, all addresses)
    when that call is made for address `a`; `none` = error.  Nothing is assumed about it.
  * The Go table holds POINTERS to records; a record is reachable only through the table, is stored once (on the
    miss) and never replaced.  Hence "mutate through the pointer" = "update the entry of that address", and two
    pointers alias exactly when the two addresses are equal (`W.addConsumed` by address, applied twice).
  * Like `classify`, the wrapper loop uses `it.cur.sender` for `item.sender` (one bunch = one sender, `ItemOk`).
  * `IsIncorrectlyGuarded` stays a pure function `guard : Tx → Bool` (asked once per transaction).
-/
import SV.TxCache.SelProofs
import SV.AssocList

namespace SV.TxCache
namespace SW

/-! ### the wrapper state -/

/-- answer of the `n`-th `GetAccountState` call if it is made for this address: `some (nonce, balance)` or an error -/
abbrev Oracle := Nat → Bytes → Option (Nat × Nat)

/-- `accountRecord` -/
structure Rec where
  nonce : Nat
  balance : Nat
  consumed : Nat
  deriving Repr, DecidableEq

/-- the record built from an answer: on error nonce 0, balance 0; consumed balance 0 -/
def Rec.ofAnswer : Option (Nat × Nat) → Rec
  | some (n, b) => ⟨n, b, 0⟩
  | none => ⟨0, 0, 0⟩

/-- `selectionSessionWrapper`: the memo table, and the number of `GetAccountState` calls made so far -/
structure W where
  records : List (Bytes × Rec)
  calls : Nat
  deriving Repr, DecidableEq

def W.empty : W := ⟨[], 0⟩

/-- `getAccountRecord`: memo hit — state unchanged, the oracle is not consulted; miss — ask once, store -/
def W.getRecord (o : Oracle) (w : W) (a : Bytes) : W × Rec :=
  match alookup a w.records with
  | some r => (w, r)
  | none =>
    let r := Rec.ofAnswer (o w.calls a)
    ({ records := aset a r w.records, calls := w.calls + 1 }, r)

/-- `record.consumedBalance.Add(record.consumedBalance, d)` through the pointer stored for address `a` -/
def W.addConsumed (w : W) (a : Bytes) (d : Nat) : W :=
  match alookup a w.records with
  | some r => { w with records := aset a { r with consumed := r.consumed + d } w.records }
  | none => w

/-- `accumulateConsumedBalance`: two `getAccountRecord` calls (sender, then fee payer), then the two updates.
    When sender = fee payer both pointers are the same record: the second update sees the first. -/
def W.accumulate (o : Oracle) (w : W) (t : Tx) : W :=
  let w1 := (w.getRecord o t.sender).1
  let w2 := (w1.getRecord o t.payer).1
  (w2.addConsumed t.sender t.value).addConsumed t.payer t.fee

/-! ### the loop over the wrapper -/

/-- `detectSkippableSender` then `detectSkippableTransaction`, with the table threaded through:
    `getNonce(sender)`; gaps; `detectWillFeeExceedBalance` (record of the fee payer — only reached when there is no
    gap); `getNonce(sender)` again; lower nonce; guard; duplicate. -/
def classifyW (o : Oracle) (guard : Tx → Bool) (w : W) (it : HItem) : W × Verdict :=
  let g1 := w.getRecord o it.cur.sender
  if (it.latest.isNone && decide (it.cur.nonce > g1.2.nonce)) then (g1.1, .dropSender)
  else if (match it.latest with | some l => decide (it.cur.nonce > l + 1) | none => false) then (g1.1, .dropSender)
  else
    let g2 := g1.1.getRecord o it.cur.payer
    if decide (g2.2.consumed + it.cur.fee > g2.2.balance) then (g2.1, .dropSender)
    else
      let g3 := g2.1.getRecord o it.cur.sender
      if decide (it.cur.nonce < g3.2.nonce) then (g3.1, .skipTx)
      else if guard it.cur then (g3.1, .skipTx)
      else if (match it.latest with | some l => decide (it.cur.nonce = l) | none => false) then (g3.1, .skipTx)
      else (g3.1, .take)

/-- the selection loop over the wrapper; returns the result AND the final wrapper state -/
def selectLoopWS (v : Variant) (pick : List HItem → Option (HItem × List HItem)) (o : Oracle) (guard : Tx → Bool)
    (q : SelParams) : Nat → List HItem → W → Nat → List Tx → (List Tx × Nat) × W
  | 0, _, w, acc, out => ((out, acc), w)
  | fuel + 1, heap, w, acc, out =>
    match pick heap with
    | none => ((out, acc), w)
    | some (it, heap') =>
      if gasExceeded v acc it.cur.gasLimit q.gasReq then ((out, acc), w)
      else if out.length ≥ q.maxNum then ((out, acc), w)
      else if out.length % q.interval = 0 && q.stop out.length then ((out, acc), w)
      else
        let c := classifyW o guard w it
        match c.2 with
        | .dropSender => selectLoopWS v pick o guard q fuel heap' c.1 acc out
        | .skipTx =>
          match it.advance with
          | none => selectLoopWS v pick o guard q fuel heap' c.1 acc out
          | some it' => selectLoopWS v pick o guard q fuel (it' :: heap') c.1 acc out
        | .take =>
          let t := it.cur
          let w' := c.1.accumulate o t
          let acc' := if v.gasWraps then (acc + t.gasLimit) % two64 else acc + t.gasLimit
          let itS := { it with latest := some t.nonce }
          match itS.advance with
          | none => selectLoopWS v pick o guard q fuel heap' w' acc' (out ++ [t])
          | some it' => selectLoopWS v pick o guard q fuel (it' :: heap') w' acc' (out ++ [t])

/-- what `selectTransactionsFromBunches` returns: the selected transactions and the accumulated gas -/
def selectLoopW (v : Variant) (pick : List HItem → Option (HItem × List HItem)) (o : Oracle) (guard : Tx → Bool)
    (q : SelParams) (fuel : Nat) (heap : List HItem) (w : W) (acc : Nat) (out : List Tx) : List Tx × Nat :=
  (selectLoopWS v pick o guard q fuel heap w acc out).1

/-- the memo table at the end of the run -/
def finalW (v : Variant) (pick : List HItem → Option (HItem × List HItem)) (o : Oracle) (guard : Tx → Bool)
    (q : SelParams) (fuel : Nat) (heap : List HItem) (w : W) (acc : Nat) (out : List Tx) : W :=
  (selectLoopWS v pick o guard q fuel heap w acc out).2

/-- `selectTransactionsFromBunches` over the wrapper -/
def selectFromBunchesW (v : Variant) (o : Oracle) (guard : Tx → Bool) (q : SelParams) (bunches : List (List Tx)) :
    List Tx × Nat :=
  selectLoopW v (popBest v) o guard q (bunchesTotal bunches + 1) (initHeap bunches) W.empty 0 []

/-! ### the abstraction -/

/-- the pure session a wrapper state stands for: the memo table where it has an entry, `s₀` elsewhere -/
def W.session (w : W) (s₀ : Session) : Session where
  nonce a := match alookup a w.records with | some r => r.nonce | none => s₀.nonce a
  balance a := match alookup a w.records with | some r => r.balance | none => s₀.balance a
  badGuard := s₀.badGuard

/-- the consumed balances a wrapper state stands for -/
def W.consumed (w : W) : Bytes → Nat :=
  fun a => match alookup a w.records with | some r => r.consumed | none => 0

/-- the default session: every account unresolved (nonce 0, balance 0) -/
def zeroSession (guard : Tx → Bool) : Session := ⟨fun _ => 0, fun _ => 0, guard⟩

def Agree (w : W) (s : Session) : Prop :=
  ∀ a r, alookup a w.records = some r → s.nonce a = r.nonce ∧ s.balance a = r.balance

/-- a record as `getRecord` stored it on the miss, before any balance was consumed -/
def Rec.initial (r : Rec) : Rec := ⟨r.nonce, r.balance, 0⟩

/-- the table as it was filled.  A miss appends to it, nothing else changes it. -/
def W.stored (w : W) : List (Bytes × Rec) := w.records.map fun p => (p.1, p.2.initial)

def Grow (w w' : W) : Prop := w.calls ≤ w'.calls ∧ w.stored <+: w'.stored

/-- the table is the log of the oracle calls: entry number `k` was filled by call number `k`, for that address,
    and no address occurs twice -/
structure W.Ok (o : Oracle) (w : W) : Prop where
  calls : w.calls = w.stored.length
  nodup : (w.records.map (·.1)).Nodup
  answers : ∀ a r k, ((a, r), k) ∈ w.stored.zipIdx → r = Rec.ofAnswer (o k a)

theorem Grow.refl (w : W) : Grow w w := ⟨Nat.le_refl _, List.prefix_refl _⟩

theorem Grow.trans {a b c : W} (h1 : Grow a b) (h2 : Grow b c) : Grow a c :=
  ⟨Nat.le_trans h1.1 h2.1, h1.2.trans h2.2⟩

theorem Grow.lookup {w w' : W} (g : Grow w w') {a : Bytes} {r : Rec} (h : alookup a w.records = some r) :
    ∃ r', alookup a w'.records = some r' ∧ r'.nonce = r.nonce ∧ r'.balance = r.balance := by
  obtain ⟨t, ht⟩ := g.2
  have hs : alookup a w'.stored = some r.initial := by
    rw [← ht, alookup_append, W.stored, alookup_map_val, h]; rfl
  rw [W.stored, alookup_map_val] at hs
  cases hr : alookup a w'.records with
  | none => rw [hr] at hs; cases hs
  | some r' =>
    rw [hr] at hs
    have e : r'.initial = r.initial := Option.some.inj hs
    exact ⟨r', rfl, (congrArg Rec.nonce e :), (congrArg Rec.balance e :)⟩

theorem Agree.of_grow {w w' : W} {s : Session} (h : Agree w' s) (g : Grow w w') : Agree w s := by
  intro a r hr
  obtain ⟨r', e', n, b⟩ := g.lookup hr
  have := h a r' e'
  exact ⟨this.1.trans n, this.2.trans b⟩

theorem agree_session (w : W) (s₀ : Session) : Agree w (W.session w s₀) := by
  intro a r h
  simp [W.session, h]

theorem consumed_of_lookup {w : W} {a : Bytes} {r : Rec} (h : alookup a w.records = some r) :
    W.consumed w a = r.consumed := by
  simp [W.consumed, h]

theorem ok_empty (o : Oracle) : W.Ok o W.empty := ⟨rfl, List.nodup_nil, nofun⟩

theorem W.Ok.entry {o : Oracle} {w : W} (h : W.Ok o w) {k : Nat} {a : Bytes} {r : Rec}
    (hk : w.records[k]? = some (a, r)) :
    r.nonce = (Rec.ofAnswer (o k a)).nonce ∧ r.balance = (Rec.ofAnswer (o k a)).balance := by
  have e : r.initial = _ :=
    h.answers a r.initial k (List.mem_zipIdx_iff_getElem?.mpr (by rw [W.stored, List.getElem?_map, hk]; rfl))
  exact ⟨(congrArg Rec.nonce e :), (congrArg Rec.balance e :)⟩

theorem getRecord_hit {o : Oracle} {w : W} {a : Bytes} {r : Rec} (h : alookup a w.records = some r) :
    w.getRecord o a = (w, r) := by
  simp [W.getRecord, h]

theorem getRecord_miss {o : Oracle} {w : W} {a : Bytes} (h : alookup a w.records = none) :
    w.getRecord o a =
      (⟨w.records ++ [(a, Rec.ofAnswer (o w.calls a))], w.calls + 1⟩, Rec.ofAnswer (o w.calls a)) := by
  simp [W.getRecord, h, aset_of_absent _ h]

theorem ofAnswer_initial (x : Option (Nat × Nat)) : (Rec.ofAnswer x).initial = Rec.ofAnswer x := by
  cases x <;> rfl

theorem getRecord_stored_miss {o : Oracle} {w : W} {a : Bytes} (h : alookup a w.records = none) :
    (w.getRecord o a).1.stored = w.stored ++ [(a, Rec.ofAnswer (o w.calls a))] := by
  rw [getRecord_miss h, W.stored, List.map_append, List.map_singleton, ofAnswer_initial]; rfl

theorem getRecord_hit_indep {o o' : Oracle} {w : W} {a : Bytes} {r : Rec} (h : alookup a w.records = some r) :
    w.getRecord o a = w.getRecord o' a := by
  rw [getRecord_hit h, getRecord_hit h]

theorem getRecord_lookup (o : Oracle) (w : W) (a : Bytes) :
    alookup a (w.getRecord o a).1.records = some (w.getRecord o a).2 := by
  cases h : alookup a w.records with
  | some r => rw [getRecord_hit h]; exact h
  | none => rw [getRecord_miss h, ← aset_of_absent _ h]; exact alookup_aset_self _ _ _

theorem getRecord_lookup_ne (o : Oracle) (w : W) {a b : Bytes} (hne : b ≠ a) :
    alookup b (w.getRecord o a).1.records = alookup b w.records := by
  cases h : alookup a w.records with
  | some r => rw [getRecord_hit h]
  | none => rw [getRecord_miss h, ← aset_of_absent _ h]; exact alookup_aset_ne _ _ hne

theorem getRecord_grow (o : Oracle) (w : W) (a : Bytes) : Grow w (w.getRecord o a).1 := by
  cases h : alookup a w.records with
  | some r => rw [getRecord_hit h]; exact Grow.refl _
  | none => exact ⟨by rw [getRecord_miss h]; exact Nat.le_succ _, by rw [getRecord_stored_miss h]; exact List.prefix_append _ _⟩

theorem getRecord_consumed (o : Oracle) (w : W) (a : Bytes) : W.consumed (w.getRecord o a).1 = W.consumed w := by
  funext b
  by_cases hba : b = a
  · subst hba
    cases h : alookup b w.records with
    | some r => rw [getRecord_hit h]
    | none =>
      have := getRecord_lookup o w b
      rw [getRecord_miss h] at this ⊢
      simp only [W.consumed, this, h]
      cases o w.calls b with
      | none => rfl
      | some p => rfl
  · simp only [W.consumed, getRecord_lookup_ne o w hba]

theorem getRecord_ok {o : Oracle} {w : W} (a : Bytes) (h : W.Ok o w) : W.Ok o (w.getRecord o a).1 := by
  cases hl : alookup a w.records with
  | some r => rw [getRecord_hit hl]; exact h
  | none =>
    refine ⟨?_, ?_, ?_⟩
    · rw [getRecord_stored_miss hl, getRecord_miss hl, List.length_append, h.calls]; rfl
    · rw [getRecord_miss hl, ← aset_of_absent _ hl]; exact nodup_keys_aset _ _ h.nodup
    · intro b r k hk
      rw [getRecord_stored_miss hl, List.zipIdx_append, List.mem_append] at hk
      rcases hk with hk | hk
      · exact h.answers b r k hk
      · -- the new entry: its index is the number of the call that filled it
        cases List.mem_singleton.mp hk
        rw [h.calls, Nat.zero_add]

theorem addConsumed_hit {w : W} {a : Bytes} {r : Rec} (d : Nat) (h : alookup a w.records = some r) :
    w.addConsumed a d = { w with records := aset a { r with consumed := r.consumed + d } w.records } := by
  simp only [W.addConsumed, h]

theorem addConsumed_miss {w : W} {a : Bytes} (d : Nat) (h : alookup a w.records = none) : w.addConsumed a d = w := by
  simp only [W.addConsumed, h]

theorem addConsumed_lookup_self {w : W} {a : Bytes} {r : Rec} (d : Nat) (h : alookup a w.records = some r) :
    alookup a (w.addConsumed a d).records = some { r with consumed := r.consumed + d } := by
  rw [addConsumed_hit d h]
  exact alookup_aset_self _ _ _

theorem addConsumed_lookup_ne (w : W) (a : Bytes) (d : Nat) {b : Bytes} (hne : b ≠ a) :
    alookup b (w.addConsumed a d).records = alookup b w.records := by
  cases h : alookup a w.records with
  | some r => rw [addConsumed_hit d h]; exact alookup_aset_ne _ _ hne
  | none => rw [addConsumed_miss d h]

theorem addConsumed_stored (w : W) (a : Bytes) (d : Nat) : (w.addConsumed a d).stored = w.stored := by
  cases h : alookup a w.records with
  | none => rw [addConsumed_miss d h]
  | some r =>
    rw [addConsumed_hit d h, W.stored, W.stored, aset_map_val]
    exact aset_of_alookup (by rw [alookup_map_val, h]; rfl)

theorem addConsumed_calls (w : W) (a : Bytes) (d : Nat) : (w.addConsumed a d).calls = w.calls := by
  cases h : alookup a w.records with
  | none => rw [addConsumed_miss d h]
  | some r => rw [addConsumed_hit d h]

theorem addConsumed_grow (w : W) (a : Bytes) (d : Nat) : Grow w (w.addConsumed a d) := by
  unfold Grow
  rw [addConsumed_stored, addConsumed_calls]
  exact Grow.refl w

theorem addConsumed_consumed {w : W} {a : Bytes} {r : Rec} (d : Nat) (h : alookup a w.records = some r) :
    W.consumed (w.addConsumed a d) = bump (W.consumed w) a d := by
  funext b
  by_cases hba : b = a
  · subst hba
    simp [W.consumed, bump, addConsumed_lookup_self d h, h]
  · simp [W.consumed, bump, addConsumed_lookup_ne w a d hba, hba]

theorem addConsumed_ok {o : Oracle} {w : W} (a : Bytes) (d : Nat) (h : W.Ok o w) : W.Ok o (w.addConsumed a d) := by
  refine ⟨?_, ?_, ?_⟩
  · rw [addConsumed_stored, addConsumed_calls]; exact h.calls
  · cases hl : alookup a w.records with
    | none => rw [addConsumed_miss d hl]; exact h.nodup
    | some r => rw [addConsumed_hit d hl]; exact nodup_keys_aset _ _ h.nodup
  · rw [addConsumed_stored]; exact h.answers

/-- `accumulateConsumedBalance` is `bump … sender value` then `bump … payer fee` on the abstract consumed map —
    also when sender and fee payer are the same account -/
theorem accumulate_consumed (o : Oracle) (w : W) (t : Tx) :
    W.consumed (w.accumulate o t) = bump (bump (W.consumed w) t.sender t.value) t.payer t.fee := by
  unfold W.accumulate
  dsimp only
  -- after the two `getRecord`s both addresses are memoised
  obtain ⟨rs, hs, _, _⟩ := (getRecord_grow o (w.getRecord o t.sender).1 t.payer).lookup (getRecord_lookup o w t.sender)
  have hp := getRecord_lookup o (w.getRecord o t.sender).1 t.payer
  obtain ⟨rp, hp', _, _⟩ := (addConsumed_grow _ t.sender t.value).lookup hp
  rw [addConsumed_consumed _ hp', addConsumed_consumed _ hs, getRecord_consumed, getRecord_consumed]

/-! ### one classification step -/

/-- `classifyW` in closed form: the sender's record is fetched, then (unless a nonce gap already decides) the fee
    payer's; the third `getRecord` is a memo hit on the sender's record, so the verdict is `verdictOf` of the two
    records and the table is the one after the second fetch -/
theorem classifyW_eq (o : Oracle) (guard : Tx → Bool) (w : W) (it : HItem) :
    classifyW o guard w it =
      if nonceGap it.latest it.cur.nonce (w.getRecord o it.cur.sender).2.nonce then
        ((w.getRecord o it.cur.sender).1, .dropSender)
      else
        (((w.getRecord o it.cur.sender).1.getRecord o it.cur.payer).1,
          verdictOf it.latest it.cur.nonce it.cur.fee (w.getRecord o it.cur.sender).2.nonce
            ((w.getRecord o it.cur.sender).1.getRecord o it.cur.payer).2.balance
            ((w.getRecord o it.cur.sender).1.getRecord o it.cur.payer).2.consumed (guard it.cur)) := by
  obtain ⟨r3, h3, hn3, _⟩ :=
    (getRecord_grow o (w.getRecord o it.cur.sender).1 it.cur.payer).lookup (getRecord_lookup o w it.cur.sender)
  unfold classifyW
  simp only [getRecord_hit h3, hn3]
  generalize w.getRecord o it.cur.sender = g1
  generalize g1.1.getRecord o it.cur.payer = g2
  cases it.latest with
  | none =>
    simp only [nonceGap, verdictOf_none, Option.isNone_none, Bool.true_and, decide_eq_true_eq, Bool.false_eq_true,
      if_false, ← apply_ite (Prod.mk g2.1)]
    refine ite_congr rfl (fun _ => rfl) (fun h => ?_)
    rw [if_neg h]
  | some l =>
    simp only [nonceGap, verdictOf_some, Option.isNone_some, Bool.false_and, decide_eq_true_eq, Bool.false_eq_true,
      if_false, ← apply_ite (Prod.mk g2.1)]
    refine ite_congr rfl (fun _ => rfl) (fun h => ?_)
    rw [if_neg h]

theorem classifyW_consumed (o : Oracle) (guard : Tx → Bool) (w : W) (it : HItem) :
    W.consumed (classifyW o guard w it).1 = W.consumed w := by
  rw [classifyW_eq]
  split
  · exact getRecord_consumed o w _
  · exact (getRecord_consumed o _ _).trans (getRecord_consumed o w _)

/-- the verdict of the wrapper is the verdict of the pure `classify` for EVERY pure session that agrees with the
    table as it is after the step: the step looks at the session only through addresses it has memoised -/
theorem classifyW_sound (o : Oracle) (guard : Tx → Bool) (w : W) (it : HItem) (s : Session)
    (hg : s.badGuard = guard) (ha : Agree (classifyW o guard w it).1 s) :
    classify s (W.consumed w) it = (classifyW o guard w it).2 := by
  have l1 := getRecord_lookup o w it.cur.sender
  have l2 := getRecord_lookup o (w.getRecord o it.cur.sender).1 it.cur.payer
  rw [classify_eq, hg]
  rw [classifyW_eq] at ha ⊢
  split at ha
  · next hgap => rw [if_pos hgap, (ha _ _ l1).1]; exact verdictOf_of_gap hgap
  · next hgap =>
    -- no gap: both records are in the table the session agrees with
    rw [if_neg hgap, ((ha.of_grow (getRecord_grow o _ _)) _ _ l1).1, (ha _ _ l2).2, ← consumed_of_lookup l2,
      getRecord_consumed, getRecord_consumed]

/-! ### the wrapper loop refines the pure loop -/

section
variable {v : Variant} {pick : List HItem → Option (HItem × List HItem)} {o : Oracle} {guard : Tx → Bool}
  {q : SelParams} {fuel : Nat} {heap : List HItem} {w : W} {acc : Nat} {out : List Tx}

theorem selectLoopWS_none (h : pick heap = none) :
    selectLoopWS v pick o guard q (fuel + 1) heap w acc out = ((out, acc), w) := by
  simp only [selectLoopWS, h]

theorem selectLoopWS_some {it : HItem} {heap' : List HItem} (h : pick heap = some (it, heap')) :
    selectLoopWS v pick o guard q (fuel + 1) heap w acc out =
      if stopsAt v q acc out it then ((out, acc), w)
      else match (classifyW o guard w it).2 with
        | .dropSender => selectLoopWS v pick o guard q fuel heap' (classifyW o guard w it).1 acc out
        | .skipTx =>
          selectLoopWS v pick o guard q fuel (it.advance.toList ++ heap') (classifyW o guard w it).1 acc out
        | .take =>
          selectLoopWS v pick o guard q fuel
            ((HItem.advance { it with latest := some it.cur.nonce }).toList ++ heap')
            ((classifyW o guard w it).1.accumulate o it.cur)
            (if v.gasWraps then (acc + it.cur.gasLimit) % two64 else acc + it.cur.gasLimit) (out ++ [it.cur]) := by
  rw [selectLoopWS, h]
  dsimp only
  rw [ite_chain_or, stopsAt]
  refine ite_congr rfl (fun _ => rfl) (fun _ => ?_)
  cases (classifyW o guard w it).2 with
  | dropSender => rfl
  | skipTx => dsimp only; cases it.advance <;> rfl
  | take => dsimp only; cases HItem.advance { it with latest := some it.cur.nonce } <;> rfl

end

/-- a relation between wrapper states that every table operation (with oracle `o`) respects -/
structure Monotone (o : Oracle) (R : W → W → Prop) : Prop where
  refl : ∀ w, R w w
  trans : ∀ {a b c}, R a b → R b c → R a c
  getRecord : ∀ w a, R w (w.getRecord o a).1
  addConsumed : ∀ w a d, R w (w.addConsumed a d)

theorem Monotone.along_accumulate {o : Oracle} {R : W → W → Prop} (h : Monotone o R) (w : W) (t : Tx) :
    R w (w.accumulate o t) :=
  h.trans (h.trans (h.getRecord _ _) (h.getRecord _ _)) (h.trans (h.addConsumed _ _ _) (h.addConsumed _ _ _))

theorem Monotone.along_classifyW {o : Oracle} {R : W → W → Prop} (h : Monotone o R) (guard : Tx → Bool) (w : W)
    (it : HItem) : R w (classifyW o guard w it).1 := by
  rw [classifyW_eq]
  split
  · exact h.getRecord _ _
  · exact h.trans (h.getRecord _ _) (h.getRecord _ _)

/-- past a classification step that does not end the loop, the run goes on from the table that step left -/
theorem Monotone.along_step {o : Oracle} {R : W → W → Prop} (h : Monotone o R) {v : Variant}
    {pick : List HItem → Option (HItem × List HItem)} {guard : Tx → Bool} {q : SelParams} {fuel : Nat}
    {heap heap' : List HItem} {w : W} {acc : Nat} {out : List Tx} {it : HItem}
    (ih : ∀ heap w acc out, R w (selectLoopWS v pick o guard q fuel heap w acc out).2)
    (hp : pick heap = some (it, heap')) (hs : ¬ stopsAt v q acc out it = true) :
    R (classifyW o guard w it).1 (selectLoopWS v pick o guard q (fuel + 1) heap w acc out).2 := by
  rw [selectLoopWS_some hp, if_neg hs]
  cases (classifyW o guard w it).2 with
  | dropSender | skipTx => exact ih _ _ _ _
  | take => exact h.trans (h.along_accumulate _ _) (ih _ _ _ _)

theorem Monotone.along_loop {o : Oracle} {R : W → W → Prop} (h : Monotone o R) (v : Variant)
    (pick : List HItem → Option (HItem × List HItem)) (guard : Tx → Bool) (q : SelParams) :
    ∀ fuel heap w acc out, R w (selectLoopWS v pick o guard q fuel heap w acc out).2 := by
  intro fuel
  induction fuel with
  | zero => intro heap w acc out; exact h.refl _
  | succ fuel ih =>
    intro heap w acc out
    cases hp : pick heap with
    | none => rw [selectLoopWS_none hp]; exact h.refl _
    | some p =>
      obtain ⟨it, heap'⟩ := p
      by_cases hs : stopsAt v q acc out it = true
      · rw [selectLoopWS_some hp, if_pos hs]; exact h.refl _
      · exact h.trans (h.along_classifyW guard w it) (h.along_step ih hp hs)

theorem grow_monotone (o : Oracle) : Monotone o Grow :=
  ⟨Grow.refl, Grow.trans, getRecord_grow o, addConsumed_grow⟩

theorem ok_monotone (o : Oracle) : Monotone o (fun w w' => W.Ok o w → W.Ok o w') :=
  ⟨fun _ => id, fun f g x => g (f x), fun _ a x => getRecord_ok a x, fun _ a d x => addConsumed_ok a d x⟩

/-- THE INVARIANT.  Started in any wrapper state `w`, the wrapper loop computes what the pure loop computes for
    EVERY pure session `s` that agrees with the FINAL memo table (and has the same guard verdicts), started with the
    consumed balances `W.consumed w`.  In particular the loop never looks at the session outside the addresses it has
    memoised, and what it has memoised never changes (`grow_monotone`, `Grow.lookup`). -/
theorem selectLoopWS_refines (v : Variant) (pick : List HItem → Option (HItem × List HItem)) (o : Oracle)
    (guard : Tx → Bool) (q : SelParams) (s : Session) (hg : s.badGuard = guard) :
    ∀ fuel heap w acc out, Agree (selectLoopWS v pick o guard q fuel heap w acc out).2 s →
      (selectLoopWS v pick o guard q fuel heap w acc out).1 = selectLoop v pick s q fuel heap (W.consumed w) acc out := by
  intro fuel
  induction fuel with
  | zero => intros; rfl
  | succ fuel ih =>
    intro heap w acc out
    cases hp : pick heap with
    | none => rw [selectLoopWS_none hp, selectLoop_none hp]; exact fun _ => rfl
    | some p =>
      obtain ⟨it, heap'⟩ := p
      by_cases hs : stopsAt v q acc out it = true
      · rw [selectLoopWS_some hp, selectLoop_some hp, if_pos hs, if_pos hs]; exact fun _ => rfl
      intro ha
      -- the final table extends the table after the classification step, so `s` agrees with that one too
      have hc := classifyW_sound o guard w it s hg
        (ha.of_grow ((grow_monotone o).along_step ((grow_monotone o).along_loop v pick guard q fuel) hp hs))
      revert ha
      rw [selectLoopWS_some hp, selectLoop_some hp, if_neg hs, if_neg hs, hc, ← classifyW_consumed o guard w it]
      cases (classifyW o guard w it).2 with
      | dropSender | skipTx => exact ih _ _ _ _
      | take => rw [← accumulate_consumed]; exact ih _ _ _ _

/-! ### the refinement theorem -/

/-- the pure session the run stands for, read off the final memo table: for each address the first (and only)
    answer the oracle gave for it during this run; nonce 0 / balance 0 for addresses never asked (or answered
    with an error, see `Rec.ofAnswer`).  `firstAnswers_eq_oracle` spells it out in terms of the oracle. -/
def firstAnswers (v : Variant) (pick : List HItem → Option (HItem × List HItem)) (o : Oracle) (guard : Tx → Bool)
    (q : SelParams) (fuel : Nat) (heap : List HItem) : Session :=
  W.session (finalW v pick o guard q fuel heap W.empty 0 []) (zeroSession guard)

theorem selectLoopW_refines_from (v : Variant) (pick : List HItem → Option (HItem × List HItem)) (o : Oracle)
    (s₀ : Session) (q : SelParams) (fuel : Nat) (heap : List HItem) (w : W) (acc : Nat) (out : List Tx) :
    selectLoopW v pick o s₀.badGuard q fuel heap w acc out =
      selectLoop v pick (W.session (finalW v pick o s₀.badGuard q fuel heap w acc out) s₀) q fuel heap
        (W.consumed w) acc out :=
  selectLoopWS_refines v pick o s₀.badGuard q (W.session (finalW v pick o s₀.badGuard q fuel heap w acc out) s₀) rfl
    fuel heap w acc out (agree_session _ _)

/-- **Refinement.**  Whatever the external session answers (stateful, inconsistent, failing), the selection over the
    memoising wrapper returns exactly (transactions and gas) what the pure loop of the model returns for the pure
    session of first answers. -/
theorem selectLoopW_refines (v : Variant) (pick : List HItem → Option (HItem × List HItem)) (o : Oracle)
    (guard : Tx → Bool) (q : SelParams) (fuel : Nat) (heap : List HItem) :
    selectLoopW v pick o guard q fuel heap W.empty 0 [] =
      selectLoop v pick (firstAnswers v pick o guard q fuel heap) q fuel heap (fun _ => 0) 0 [] :=
  selectLoopW_refines_from v pick o (zeroSession guard) q fuel heap W.empty 0 []

theorem firstAnswers_guard (v : Variant) (pick : List HItem → Option (HItem × List HItem)) (o : Oracle)
    (guard : Tx → Bool) (q : SelParams) (fuel : Nat) (heap : List HItem) :
    (firstAnswers v pick o guard q fuel heap).badGuard = guard := rfl

theorem selectFromBunchesW_refines (v : Variant) (o : Oracle) (guard : Tx → Bool) (q : SelParams)
    (bunches : List (List Tx)) :
    selectFromBunchesW v o guard q bunches =
      selectFromBunches v (firstAnswers v (popBest v) o guard q (bunchesTotal bunches + 1) (initHeap bunches)) q bunches :=
  selectLoopW_refines v (popBest v) o guard q _ _

/-! ### each address is asked at most once; the session of first answers in terms of the oracle -/

theorem finalW_ok (v : Variant) (pick : List HItem → Option (HItem × List HItem)) (o : Oracle) (guard : Tx → Bool)
    (q : SelParams) (fuel : Nat) (heap : List HItem) (w : W) (acc : Nat) (out : List Tx) (h : W.Ok o w) :
    W.Ok o (finalW v pick o guard q fuel heap w acc out) :=
  (ok_monotone o).along_loop v pick guard q fuel heap w acc out h

/-- **At most one `GetAccountState` per address.**  The only place where the oracle is consulted is the miss branch of
    `getRecord` (`getRecord_hit_indep`), which uses call number `calls`, appends the address at the end of the table
    (`getRecord_miss`) and increments `calls`.  At the end of any run the number of calls made is the number of
    memoised addresses, and these are pairwise distinct. -/
theorem getRecord_at_most_once (v : Variant) (pick : List HItem → Option (HItem × List HItem)) (o : Oracle)
    (guard : Tx → Bool) (q : SelParams) (fuel : Nat) (heap : List HItem) :
    (finalW v pick o guard q fuel heap W.empty 0 []).calls
        = ((finalW v pick o guard q fuel heap W.empty 0 []).records.map (·.1)).length ∧
    ((finalW v pick o guard q fuel heap W.empty 0 []).records.map (·.1)).Nodup := by
  have h := finalW_ok v pick o guard q fuel heap W.empty 0 [] (ok_empty o)
  exact ⟨by rw [h.calls, W.stored, List.length_map, List.length_map], h.nodup⟩

/-- position of an address in the table = number of the call that asked for it -/
def posOf (a : Bytes) : List (Bytes × Rec) → Nat → Option Nat
  | [], _ => none
  | (k, _) :: rest, i => if k == a then some i else posOf a rest (i + 1)

/-- the number of the (only) call made for address `a`, if any -/
def W.queryIndex (w : W) (a : Bytes) : Option Nat := posOf a w.records 0

/-- the session of first answers, spelled out with the oracle: the answer of the call that asked for the address -/
def oracleSession (o : Oracle) (guard : Tx → Bool) (w : W) : Session where
  nonce a := match w.queryIndex a with | some k => ((o k a).map (·.1)).getD 0 | none => 0
  balance a := match w.queryIndex a with | some k => ((o k a).map (·.2)).getD 0 | none => 0
  badGuard := guard

theorem ofAnswer_nonce (x : Option (Nat × Nat)) : (Rec.ofAnswer x).nonce = (x.map (·.1)).getD 0 := by
  cases x with
  | none => rfl
  | some p => rfl

theorem ofAnswer_balance (x : Option (Nat × Nat)) : (Rec.ofAnswer x).balance = (x.map (·.2)).getD 0 := by
  cases x with
  | none => rfl
  | some p => rfl

theorem posOf_some (a : Bytes) (l : List (Bytes × Rec)) : ∀ (i k : Nat), posOf a l i = some k →
    ∃ j r, k = i + j ∧ l[j]? = some (a, r) := by
  induction l with
  | nil => intro i k h; cases h
  | cons e rest ih =>
    intro i k h
    rw [posOf] at h
    by_cases hk : (e.1 == a) = true
    · rw [if_pos hk] at h
      exact ⟨0, e.2, (Option.some.inj h).symm, by rw [← eq_of_beq hk]; rfl⟩
    · rw [if_neg hk] at h
      obtain ⟨j, r, e, hj⟩ := ih (i + 1) k h
      exact ⟨j + 1, r, by rw [e, Nat.add_assoc, Nat.add_comm 1], hj⟩

theorem posOf_none (a : Bytes) (l : List (Bytes × Rec)) : ∀ i, posOf a l i = none ↔ alookup a l = none := by
  induction l with
  | nil => exact fun _ => ⟨fun _ => rfl, fun _ => rfl⟩
  | cons e rest ih =>
    intro i
    rw [posOf, alookup_cons]
    by_cases hk : (e.1 == a) = true
    · rw [if_pos hk, if_pos hk]; exact ⟨nofun, nofun⟩
    · rw [if_neg hk, if_neg hk]; exact ih (i + 1)

theorem queryIndex_some {w : W} {a : Bytes} {k : Nat} (h : w.queryIndex a = some k) :
    ∃ r, w.records[k]? = some (a, r) := by
  obtain ⟨j, r, e, hr⟩ := posOf_some a w.records 0 k h
  exact ⟨r, by rw [e, Nat.zero_add]; exact hr⟩

theorem queryIndex_none {w : W} {a : Bytes} : w.queryIndex a = none ↔ alookup a w.records = none :=
  posOf_none a w.records 0

theorem W.Ok.lookup {o : Oracle} {w : W} (h : W.Ok o w) {a : Bytes} {r : Rec} (hr : alookup a w.records = some r) :
    ∃ k, w.queryIndex a = some k ∧
      r.nonce = ((o k a).map (·.1)).getD 0 ∧ r.balance = ((o k a).map (·.2)).getD 0 := by
  cases hq : w.queryIndex a with
  | none => rw [queryIndex_none.mp hq] at hr; cases hr
  | some k =>
    obtain ⟨r', hk⟩ := queryIndex_some hq
    rw [alookup_of_mem h.nodup (List.mem_of_getElem? hk)] at hr
    cases hr
    refine ⟨k, rfl, ?_⟩
    rw [← ofAnswer_nonce, ← ofAnswer_balance]
    exact h.entry hk

theorem session_eq_oracleSession {o : Oracle} {w : W} (guard : Tx → Bool) (h : W.Ok o w) :
    W.session w (zeroSession guard) = oracleSession o guard w := by
  have key : ∀ a,
      (match alookup a w.records with | some r => r.nonce | none => 0)
        = (match w.queryIndex a with | some k => ((o k a).map (·.1)).getD 0 | none => 0) ∧
      (match alookup a w.records with | some r => r.balance | none => 0)
        = (match w.queryIndex a with | some k => ((o k a).map (·.2)).getD 0 | none => 0) := by
    intro a
    cases hr : alookup a w.records with
    | none => rw [queryIndex_none.mpr hr]; exact ⟨rfl, rfl⟩
    | some r => obtain ⟨k, hk, hn, hb⟩ := h.lookup hr; rw [hk]; exact ⟨hn, hb⟩
  unfold W.session oracleSession zeroSession
  simp only [Session.mk.injEq, and_true]
  exact ⟨funext fun a => (key a).1, funext fun a => (key a).2⟩

/-- the session of `selectLoopW_refines`, in terms of the oracle alone: `nonce a` / `balance a` is the answer of the
    call number `queryIndex a` — the only call of the run made for `a` — and 0 if `a` was never asked or the
    answer was an error -/
theorem firstAnswers_eq_oracle (v : Variant) (pick : List HItem → Option (HItem × List HItem)) (o : Oracle)
    (guard : Tx → Bool) (q : SelParams) (fuel : Nat) (heap : List HItem) :
    firstAnswers v pick o guard q fuel heap
      = oracleSession o guard (finalW v pick o guard q fuel heap W.empty 0 []) :=
  session_eq_oracleSession guard (finalW_ok v pick o guard q fuel heap W.empty 0 [] (ok_empty o))

/-! ### corollaries: a consistent oracle; C01 and C02 over the wrapper -/

/-- the pure session of an honest (consistent) external session -/
def honestSession (o : Oracle) (guard : Tx → Bool) : Session where
  nonce a := ((o 0 a).map (·.1)).getD 0
  balance a := ((o 0 a).map (·.2)).getD 0
  badGuard := guard

/-- for an honest session the wrapper adds no behaviour -/
theorem selectLoopW_consistent (v : Variant) (pick : List HItem → Option (HItem × List HItem)) (o : Oracle)
    (hc : ∀ n m a, o n a = o m a) (guard : Tx → Bool) (q : SelParams) (fuel : Nat) (heap : List HItem) :
    selectLoopW v pick o guard q fuel heap W.empty 0 [] =
      selectLoop v pick (honestSession o guard) q fuel heap (fun _ => 0) 0 [] := by
  refine selectLoopWS_refines v pick o guard q (honestSession o guard) rfl fuel heap W.empty 0 [] ?_
  have h := finalW_ok v pick o guard q fuel heap W.empty 0 [] (ok_empty o)
  intro a r hr
  obtain ⟨k, _, hn, hb⟩ := h.lookup hr
  rw [hn, hb, hc k 0 a]
  exact ⟨rfl, rfl⟩

/-- C01 over the wrapper, ANY oracle: per sender the selected nonces are consecutive and start at the nonce the
    oracle reported at its FIRST (only) query for that sender — 0 on error or if the sender was never looked up -/
theorem selectLoopW_nonce_run (v : Variant) (pick : List HItem → Option (HItem × List HItem)) (hp : PickOk pick)
    (o : Oracle) (guard : Tx → Bool) (q : SelParams) (bunches : List (List Tx))
    (hb : ∀ b ∈ bunches, BunchOk b) (hd : BunchesDistinct bunches) (fuel : Nat) (snd : Bytes) :
    ∃ k, noncesOf snd (selectLoopW v pick o guard q fuel (initHeap bunches) W.empty 0 []).1 =
      List.range'
        (match (finalW v pick o guard q fuel (initHeap bunches) W.empty 0 []).queryIndex snd with
          | some i => ((o i snd).map (·.1)).getD 0
          | none => 0) k := by
  have h := selectLoop_nonce_run v pick hp (firstAnswers v pick o guard q fuel (initHeap bunches)) q bunches hb hd fuel snd
  rw [← selectLoopW_refines, firstAnswers_eq_oracle] at h
  exact h

/-- C02 (balances) over the wrapper, ANY oracle: walking the result in order, the balance first reported for the fee
    payer covers this fee on top of everything earlier transactions of the result committed to that account -/
theorem selectLoopW_balances_cover (v : Variant) (pick : List HItem → Option (HItem × List HItem))
    (o : Oracle) (guard : Tx → Bool) (q : SelParams) (heap : List HItem) (fuel : Nat) :
    let out := (selectLoopW v pick o guard q fuel heap W.empty 0 []).1
    ∀ i (hi : i < out.length), committed (out.take i) (out[i]).payer + (out[i]).fee ≤
      (match (finalW v pick o guard q fuel heap W.empty 0 []).queryIndex (out[i]).payer with
        | some k => ((o k (out[i]).payer).map (·.2)).getD 0
        | none => 0) := by
  have h := selectLoop_balance v pick (firstAnswers v pick o guard q fuel heap) q heap fuel
  rw [← selectLoopW_refines, firstAnswers_eq_oracle] at h
  exact h

/-- C02 (count) over the wrapper -/
theorem selectLoopW_count (v : Variant) (pick : List HItem → Option (HItem × List HItem))
    (o : Oracle) (guard : Tx → Bool) (q : SelParams) (heap : List HItem) (fuel : Nat) :
    (selectLoopW v pick o guard q fuel heap W.empty 0 []).1.length ≤ q.maxNum := by
  rw [selectLoopW_refines]; exact selectLoop_count v pick _ q heap fuel

/-- C02 (gas) over the wrapper -/
theorem selectLoopW_gas (v : Variant) (hv : v.gasWraps = false) (pick : List HItem → Option (HItem × List HItem))
    (o : Oracle) (guard : Tx → Bool) (q : SelParams) (heap : List HItem) (fuel : Nat) :
    let r := selectLoopW v pick o guard q fuel heap W.empty 0 []
    (r.1.map (·.gasLimit)).sum = r.2 ∧ r.2 ≤ q.gasReq := by
  rw [selectLoopW_refines]; exact selectLoop_gas v hv pick _ q heap fuel

/-- C02 (guard) over the wrapper -/
theorem selectLoopW_guard (v : Variant) (pick : List HItem → Option (HItem × List HItem))
    (o : Oracle) (guard : Tx → Bool) (q : SelParams) (heap : List HItem) (fuel : Nat) :
    ∀ t ∈ (selectLoopW v pick o guard q fuel heap W.empty 0 []).1, guard t = false := by
  rw [selectLoopW_refines]
  exact selectLoop_guard v pick (firstAnswers v pick o guard q fuel heap) q heap fuel

/-- C02 (members, no duplicates) over the wrapper -/
theorem selectLoopW_members (v : Variant) (pick : List HItem → Option (HItem × List HItem)) (hp : PickOk pick)
    (o : Oracle) (guard : Tx → Bool) (q : SelParams) (bunches : List (List Tx)) (hn : bunches.flatten.Nodup)
    (fuel : Nat) :
    let out := (selectLoopW v pick o guard q fuel (initHeap bunches) W.empty 0 []).1
    out.Nodup ∧ ∀ t ∈ out, t ∈ bunches.flatten := by
  rw [selectLoopW_refines]; exact selectLoop_members v pick hp _ q bunches hn fuel

/-! ### the run depends on the oracle only through the logged calls -/

/-- `o'` gives the same answers as `o` at the calls logged in `wf` from call number `lo` on -/
def AgreeOn (o o' : Oracle) (wf : W) (lo : Nat) : Prop :=
  ∀ (k : Nat) (a : Bytes) (r : Rec), lo ≤ k → wf.stored[k]? = some (a, r) → o' k a = o k a

theorem AgreeOn.mono {o o' : Oracle} {wf : W} {lo lo' : Nat} (h : AgreeOn o o' wf lo) (hle : lo ≤ lo') :
    AgreeOn o o' wf lo' := fun k a r hk => h k a r (Nat.le_trans hle hk)

theorem getRecord_congr {o o' : Oracle} {w wf : W} {a : Bytes} (hc : w.calls = w.stored.length)
    (hg : Grow (w.getRecord o a).1 wf) (hag : AgreeOn o o' wf w.calls) :
    w.getRecord o' a = w.getRecord o a := by
  cases h : alookup a w.records with
  | some r => exact getRecord_hit_indep h
  | none =>
    obtain ⟨t, ht⟩ := hg.2
    rw [getRecord_stored_miss h, List.append_assoc] at ht
    have := hag w.calls a _ (Nat.le_refl _)
      (by rw [← ht, hc, List.getElem?_append_right (Nat.le_refl _), Nat.sub_self]; rfl)
    rw [getRecord_miss h, getRecord_miss h, this]

theorem accumulate_congr {o o' : Oracle} {w wf : W} (t : Tx) (hok : W.Ok o w)
    (hg : Grow (w.accumulate o t) wf) (hag : AgreeOn o o' wf w.calls) :
    w.accumulate o' t = w.accumulate o t := by
  have g1 := getRecord_grow o w t.sender
  have g2 := getRecord_grow o (w.getRecord o t.sender).1 t.payer
  have g34 : Grow ((w.getRecord o t.sender).1.getRecord o t.payer).1 (w.accumulate o t) :=
    (addConsumed_grow _ _ _).trans (addConsumed_grow _ _ _)
  have e1 : w.getRecord o' t.sender = w.getRecord o t.sender :=
    getRecord_congr hok.calls (g2.trans (g34.trans hg)) hag
  have e2 : (w.getRecord o t.sender).1.getRecord o' t.payer = (w.getRecord o t.sender).1.getRecord o t.payer :=
    getRecord_congr (getRecord_ok _ hok).calls (g34.trans hg) (hag.mono g1.1)
  unfold W.accumulate
  dsimp only
  rw [e1, e2]

theorem classifyW_congr {o o' : Oracle} (guard : Tx → Bool) {w wf : W} (it : HItem) (hok : W.Ok o w)
    (hg : Grow (classifyW o guard w it).1 wf) (hag : AgreeOn o o' wf w.calls) :
    classifyW o' guard w it = classifyW o guard w it := by
  have g1 := getRecord_grow o w it.cur.sender
  have g2 := getRecord_grow o (w.getRecord o it.cur.sender).1 it.cur.payer
  rw [classifyW_eq o, classifyW_eq o']
  rw [classifyW_eq o] at hg
  split at hg
  · next hgap => rw [getRecord_congr hok.calls hg hag, if_pos hgap, if_pos hgap]
  · next hgap =>
    rw [getRecord_congr hok.calls (g2.trans hg) hag,
      getRecord_congr (getRecord_ok _ hok).calls hg (hag.mono g1.1)]

/-- **The oracle is consulted only at the logged calls.**  Take a run with oracle `o` from a faithful state `w`.  Any
    oracle `o'` that answers like `o` at the calls logged in the final table from call number `w.calls` on — call `k`
    asked for the address of entry `k` — produces the very same run (result, gas and table), however different it is
    anywhere else. -/
theorem selectLoopWS_oracle_indep (v : Variant) (pick : List HItem → Option (HItem × List HItem)) (o o' : Oracle)
    (guard : Tx → Bool) (q : SelParams) :
    ∀ fuel heap w acc out, W.Ok o w →
      AgreeOn o o' (selectLoopWS v pick o guard q fuel heap w acc out).2 w.calls →
      selectLoopWS v pick o' guard q fuel heap w acc out = selectLoopWS v pick o guard q fuel heap w acc out := by
  intro fuel
  induction fuel with
  | zero => intros; rfl
  | succ fuel ih =>
    intro heap w acc out hok
    cases hp : pick heap with
    | none => rw [selectLoopWS_none hp, selectLoopWS_none hp]; exact fun _ => rfl
    | some p =>
      obtain ⟨it, heap'⟩ := p
      by_cases hs : stopsAt v q acc out it = true
      · rw [selectLoopWS_some hp, selectLoopWS_some hp, if_pos hs, if_pos hs]; exact fun _ => rfl
      intro hag
      have grow := (grow_monotone o).along_loop v pick guard q fuel
      have cg := (grow_monotone o).along_classifyW guard w it
      have cok := (ok_monotone o).along_classifyW guard w it hok
      have hc := classifyW_congr guard it hok ((grow_monotone o).along_step grow hp hs) hag
      revert hag
      rw [selectLoopWS_some hp, selectLoopWS_some hp, if_neg hs, if_neg hs, hc]
      cases (classifyW o guard w it).2 with
      | dropSender | skipTx => exact fun hag => ih _ _ _ _ cok (hag.mono cg.1)
      | take =>
        intro hag
        have ag := (grow_monotone o).along_accumulate (classifyW o guard w it).1 it.cur
        rw [accumulate_congr it.cur cok (grow _ _ _ _) (hag.mono cg.1)]
        exact ih _ _ _ _ ((ok_monotone o).along_accumulate _ _ cok) (hag.mono (cg.trans ag).1)

/-- the run from the empty table depends on the oracle only through `o k aₖ`, `k < calls`, where `aₖ` is the address
    of entry `k` of the final table — `calls` queries, for pairwise distinct addresses (`getRecord_at_most_once`) -/
theorem selectLoopW_oracle_indep (v : Variant) (pick : List HItem → Option (HItem × List HItem)) (o o' : Oracle)
    (guard : Tx → Bool) (q : SelParams) (fuel : Nat) (heap : List HItem)
    (h : ∀ (k : Nat) (a : Bytes) (r : Rec),
      (finalW v pick o guard q fuel heap W.empty 0 []).records[k]? = some (a, r) → o' k a = o k a) :
    selectLoopW v pick o' guard q fuel heap W.empty 0 [] = selectLoopW v pick o guard q fuel heap W.empty 0 [] ∧
    finalW v pick o' guard q fuel heap W.empty 0 [] = finalW v pick o guard q fuel heap W.empty 0 [] := by
  have := selectLoopWS_oracle_indep v pick o o' guard q fuel heap W.empty 0 [] (ok_empty o) (by
    intro k a r _ hk
    rw [W.stored, List.getElem?_map] at hk
    cases hr : (selectLoopWS v pick o guard q fuel heap W.empty 0 []).2.records[k]? with
    | none => rw [hr] at hk; cases hk
    | some p => rw [hr] at hk; cases hk; exact h k _ _ hr)
  unfold selectLoopW finalW
  rw [this]
  exact ⟨rfl, rfl⟩

/-! ### non-vacuity: an inconsistent oracle -/

namespace Ex

def A : Bytes := [1]
def B : Bytes := [2]

def mk (hash : Bytes) (sender : Bytes) (nonce : Nat) : Tx :=
  { hash := hash, sender := sender, nonce := nonce, gasPrice := 1, gasLimit := 10, size := 0, fee := 10, value := 7,
    relayer := [] }

def a5 : Tx := mk [1] A 5
def a6 : Tx := mk [2] A 6
def a9 : Tx := mk [3] A 9
def b0 : Tx := mk [4] B 0

def bunches : List (List Tx) := [[a5, a6, a9], [b0]]

def q : SelParams := { gasReq := 1000, maxNum := 10, stop := fun _ => false }

/-- an INCONSISTENT session: account `A` has nonce 5 when asked by the very first call, nonce 9 at every later call -/
def liar : Oracle := fun n a =>
  if a = A then (if n = 0 then some (5, 1000) else some (9, 1000)) else some (0, 1000)

/-- the pure session of the FIRST answers / of the LATER answers -/
def sFirst : Session := ⟨fun a => if a = A then 5 else 0, fun _ => 1000, fun _ => false⟩
def sLater : Session := ⟨fun a => if a = A then 9 else 0, fun _ => 1000, fun _ => false⟩

/-- the wrapper's result is the one of the first answers: `A`'s run is 5, 6 (then the gap to 9 drops the sender) -/
example : selectFromBunchesW Variant.current liar (fun _ => false) q bunches = ([a5, a6, b0], 30) := by decide +kernel

example : selectFromBunches Variant.current sFirst q bunches = ([a5, a6, b0], 30) := by decide +kernel

/-- had the second answer (nonce 9) been used, the result would be different -/
example : selectFromBunches Variant.current sLater q bunches = ([a9, b0], 20) := by decide +kernel

example : selectFromBunchesW Variant.current liar (fun _ => false) q bunches
    ≠ selectFromBunches Variant.current sLater q bunches := by decide +kernel

/-- the final memo table of that run: two calls, two addresses; `A` keeps the FIRST answer, and (sender = fee payer,
    both pointers alias one record) has consumed value + fee of both its transactions -/
example : finalW Variant.current (popBest Variant.current) liar (fun _ => false) q 5 (initHeap bunches) W.empty 0 []
    = ⟨[(A, ⟨5, 1000, 34⟩), (B, ⟨0, 1000, 17⟩)], 2⟩ := by decide +kernel

/-- the session of `selectLoopW_refines` for that run is `sFirst` on the addresses involved -/
example : (firstAnswers Variant.current (popBest Variant.current) liar (fun _ => false) q 5 (initHeap bunches)).nonce A = 5
    ∧ (firstAnswers Variant.current (popBest Variant.current) liar (fun _ => false) q 5 (initHeap bunches)).nonce B = 0
    ∧ (finalW Variant.current (popBest Variant.current) liar (fun _ => false) q 5 (initHeap bunches) W.empty 0 []).queryIndex A
        = some 0 := by decide +kernel

/-- aliasing in `accumulateConsumedBalance`: sender = fee payer, one record, both amounts -/
example : (W.empty.accumulate liar a5).records = [(A, ⟨5, 1000, 17⟩)] := by decide +kernel

/-- … and a relayed transaction: two records -/
example : (W.empty.accumulate liar { a5 with relayer := B }).records = [(A, ⟨5, 1000, 7⟩), (B, ⟨0, 1000, 10⟩)] := by
  decide +kernel

/-- a lookup error is memoised as nonce 0 / balance 0: the sender's first transaction (fee 10) is not affordable -/
example : selectFromBunchesW Variant.current (fun _ _ => none) (fun _ => false) q bunches = ([], 0) := by decide +kernel

/-- the hypotheses of `selectLoopW_nonce_run` / `selectLoopW_members` are met by the example -/
example : (∀ b ∈ bunches, BunchOk b) ∧ BunchesDistinct bunches ∧ bunches.flatten.Nodup := by
  refine ⟨?_, ?_, by decide⟩
  · intro b hb
    simp only [bunches, List.mem_cons, List.not_mem_nil, or_false] at hb
    rcases hb with rfl | rfl
    · exact ⟨by decide, by decide⟩
    · exact ⟨by decide, by decide⟩
  · unfold BunchesDistinct bunches
    decide

/-- a consistent oracle satisfying the hypothesis of `selectLoopW_consistent` -/
example : ∀ n m a, (fun (_ : Nat) (a : Bytes) => if a = A then some (5, 1000) else none) n a
    = (fun (_ : Nat) (a : Bytes) => if a = A then some (5, 1000) else none) m a := fun _ _ _ => rfl

example : selectFromBunchesW Variant.current (fun _ a => if a = A then some (5, 1000) else none) (fun _ => false) q bunches
    = ([a5, a6], 20) := by decide +kernel

/-- the hypothesis of `selectLoopW_oracle_indep` met by a genuinely different oracle: it agrees with `liar` at the two
    logged calls (call 0 for `A`, call 1 for `B`) and nowhere else need it -/
def liar' : Oracle := fun n a => if n = 0 then some (5, 1000) else if a = B then some (0, 1000) else none

example : liar' 1 A ≠ liar 1 A := by decide +kernel

example : ∀ (k : Nat) (a : Bytes) (r : Rec),
    (finalW Variant.current (popBest Variant.current) liar (fun _ => false) q 5 (initHeap bunches) W.empty 0 []).records[k]?
      = some (a, r) → liar' k a = liar k a := by
  have e : finalW Variant.current (popBest Variant.current) liar (fun _ => false) q 5 (initHeap bunches) W.empty 0 []
      = ⟨[(A, ⟨5, 1000, 34⟩), (B, ⟨0, 1000, 17⟩)], 2⟩ := by decide
  rw [e]
  intro k a r h
  match k with
  | 0 => simp at h; obtain ⟨rfl, _⟩ := h; decide
  | 1 => simp at h; obtain ⟨rfl, _⟩ := h; decide
  | k + 2 => simp at h

end Ex

end SW
end SV.TxCache
