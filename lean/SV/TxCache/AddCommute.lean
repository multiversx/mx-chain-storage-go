/-
  SV.TxCache.AddCommute — property C14: "transactions added by concurrent AddTx calls in the absence of removals and
  eviction are all present and correctly ordered".

  In the Go code (`/repo/txcache/txCache.go`, `AddTx`) both index updates (`txByHash.addTx`,
  `txListBySender.addTxReturnEvicted`) happen inside ONE critical section (`mutTxOperation`).  The only part of `AddTx`
  outside it is `txByHash.RemoveTxsBulk(evicted)`, which does nothing when no per-sender limit is hit (`evicted` is
  empty), and `doEviction`, which is not called when eviction is disabled.  Hence a set of concurrent `AddTx` calls (no
  `RemoveTxByHash`, eviction disabled, per-sender limits not reached) is executed as SOME sequential order of these
  calls, i.e. as `addAll cfg txs'` for some permutation `txs'` of the submitted transactions.  This file proves that the
  resulting pool does not depend on that order (as far as it can be observed: per-sender lookup, per-hash lookup, the
  three counters, the selection), contains every transaction, and orders every sender's list correctly.

  The only thing that DOES depend on the order is the position of the senders inside the association list
  `Pool.lists` (the model's stand-in for a Go map, whose iteration order is unspecified anyway): see
  `AddCommuteEx.senders_order_differs`.
-/
import SV.TxCache.ReachableProofs
namespace SV.TxCache

theorem sorted_perm_unique {l₁ l₂ : List Tx} (h₁ : ListSorted l₁) (h₂ : ListSorted l₂) (hp : l₁.Perm l₂) : l₁ = l₂ := by
  induction l₁ generalizing l₂ with
  | nil => exact hp.nil_eq
  | cons a r₁ ih =>
    cases l₂ with
    | nil => exact absurd hp.length_eq (by simp)
    | cons b r₂ =>
      have h₁' := List.pairwise_cons.mp h₁
      have h₂' := List.pairwise_cons.mp h₂
      -- the heads agree: otherwise each is in the other's tail, hence strictly before the other
      have hab : a = b := by
        by_cases e : a = b
        · exact e
        · have ha : a ∈ r₂ := (List.mem_cons.mp (hp.mem_iff.mp (List.mem_cons_self ..))).resolve_left e
          have hb : b ∈ r₁ := (List.mem_cons.mp (hp.mem_iff.mpr (List.mem_cons_self ..))).resolve_left (Ne.symm e)
          have := listLt_asymm a b (h₁'.1 b hb)
          rw [h₂'.1 a ha] at this
          exact absurd this (by decide)
      subst hab
      rw [ih h₁'.2 h₂'.2 hp.cons_inv]

/-! ### the sequential execution of a batch of AddTx calls; "no limit is hit" -/

/-- the pool after the calls `AddTx(txs[0])`, `AddTx(txs[1])`, … on an empty pool, in this order -/
def addAll (cfg : Config) (txs : List Tx) : Pool :=
  txs.foldl (fun p t => (addTx Variant.current p t).1) (Pool.init cfg)

def ofSender (s : Bytes) (txs : List Tx) : List Tx := txs.filter (fun t => decide (t.sender = s))

/-- eviction is disabled and no sender of the batch exceeds a per-sender limit (count, bytes) with ALL its
    transactions of the batch -/
def NoLimitHit (cfg : Config) (txs : List Tx) : Prop :=
  cfg.evictionEnabled = false ∧
  ∀ s, (ofSender s txs).length ≤ cfg.countPerSender ∧ listBytes (ofSender s txs) ≤ cfg.numBytesPerSender

theorem mem_ofSender {s : Bytes} {txs : List Tx} {t : Tx} : t ∈ ofSender s txs ↔ t ∈ txs ∧ t.sender = s := by
  simp [ofSender]

theorem ofSender_perm {txs txs' : List Tx} (hp : txs.Perm txs') (s : Bytes) : (ofSender s txs).Perm (ofSender s txs') :=
  hp.filter _

theorem ofSender_append (s : Bytes) (a b : List Tx) : ofSender s (a ++ b) = ofSender s a ++ ofSender s b :=
  List.filter_append a b

theorem listBytes_perm {l l' : List Tx} (hp : l.Perm l') : listBytes l = listBytes l' := by
  unfold listBytes
  exact (hp.map _).sum_nat

theorem listBytes_sublist {l l' : List Tx} (hs : l.Sublist l') : listBytes l ≤ listBytes l' := by
  induction hs with
  | slnil => exact Nat.le_refl _
  | cons a _ ih => simp only [listBytes, List.map_cons, List.sum_cons] at ih ⊢; omega
  | cons_cons a _ ih => simp only [listBytes, List.map_cons, List.sum_cons] at ih ⊢; omega

theorem NoLimitHit.perm {cfg : Config} {txs txs' : List Tx} (h : NoLimitHit cfg txs) (hp : txs.Perm txs') :
    NoLimitHit cfg txs' := by
  refine ⟨h.1, fun s => ?_⟩
  have hp' := ofSender_perm hp s
  rw [← hp'.length_eq, ← listBytes_perm hp']
  exact h.2 s

theorem NoLimitHit.sublist {cfg : Config} {txs txs' : List Tx} (h : NoLimitHit cfg txs) (hs : txs'.Sublist txs) :
    NoLimitHit cfg txs' := by
  refine ⟨h.1, fun s => ?_⟩
  have hs' : (ofSender s txs').Sublist (ofSender s txs) := hs.filter _
  exact ⟨Nat.le_trans hs'.length_le (h.2 s).1, Nat.le_trans (listBytes_sublist hs') (h.2 s).2⟩

theorem NoLimitHit.not_exceeded {cfg : Config} {txs : List Tx} (h : NoLimitHit cfg txs) {s : Bytes} {l m : List Tx}
    (hp : l.Perm m) (hs : m.Sublist (ofSender s txs)) : senderExceeded cfg l = false := by
  have h1 := hs.length_le
  have h2 := listBytes_sublist hs
  have h3 := hp.length_eq
  have h4 := listBytes_perm hp
  obtain ⟨h5, h6⟩ := h.2 s
  simp only [senderExceeded, Bool.or_eq_false_iff, decide_eq_false_iff_not]
  omega

/-- consequence of `NoLimitHit`: `trim1` (applySizeConstraints) never drops anything from a list made of (some of) the
    batch's transactions of one sender -/
theorem NoLimitHit.trim1_id {cfg : Config} {txs : List Tx} (h : NoLimitHit cfg txs) {s : Bytes} {l m : List Tx}
    (hp : l.Perm m) (hs : m.Sublist (ofSender s txs)) : trim1 cfg l = (l, []) := by
  rw [trim1_spec, h.not_exceeded hp hs]
  rfl

/-! ### the state after a prefix of the batch -/

/-- what holds after the calls for `pre` have been executed -/
structure AddedSt (U : Bytes → Tx) (cfg : Config) (pre : List Tx) (p : Pool) : Prop where
  inv : Inv U p
  sorted : ListsSorted p
  cfgEq : p.cfg = cfg
  /-- the list of every sender consists of its transactions of `pre` (no entry ≙ `[]`) -/
  content : ∀ s, ((alookup s p.lists).getD []).Perm (ofSender s pre)

theorem AddedSt.init (U : Bytes → Tx) (cfg : Config) : AddedSt U cfg [] (Pool.init cfg) :=
  ⟨Inv.init U cfg, ListsSorted.init cfg, rfl, fun _ => List.Perm.refl _⟩

theorem AddedSt.mem_of_listed {U : Bytes → Tx} {cfg : Config} {pre : List Tx} {p : Pool} (h : AddedSt U cfg pre p)
    {s : Bytes} {l : List Tx} {x : Tx} (hl : alookup s p.lists = some l) (hx : x ∈ l) : x ∈ pre ∧ x.sender = s := by
  have hc := h.content s
  rw [hl] at hc
  exact mem_ofSender.mp (hc.mem_iff.mp hx)

theorem AddedSt.listed_of_mem {U : Bytes → Tx} {cfg : Config} {pre : List Tx} {p : Pool} (h : AddedSt U cfg pre p)
    {x : Tx} (hx : x ∈ pre) : ∃ l, alookup x.sender p.lists = some l ∧ x ∈ l := by
  have hc := h.content x.sender
  have hm : x ∈ (alookup x.sender p.lists).getD [] := hc.mem_iff.mpr (mem_ofSender.mpr ⟨hx, rfl⟩)
  cases hl : alookup x.sender p.lists with
  | none => rw [hl] at hm; simp at hm
  | some l => rw [hl] at hm; exact ⟨l, rfl, hm⟩

theorem AddedSt.byHash_iff {U : Bytes → Tx} {cfg : Config} {pre : List Tx} {p : Pool} (h : AddedSt U cfg pre p)
    (k : Bytes) (x : Tx) : alookup k p.byHash = some x ↔ x ∈ pre ∧ x.hash = k := by
  constructor
  · intro hk
    have hm := SV.mem_of_alookup hk
    obtain ⟨hh, -⟩ := h.inv.wfHash k x hm
    rw [← hh] at hm
    obtain ⟨s, l, hml, hxl⟩ := (h.inv.same x).mp hm
    exact ⟨(h.mem_of_listed (alookup_of_mem h.inv.sendersNodup hml) hxl).1, hh⟩
  · rintro ⟨hx, rfl⟩
    obtain ⟨l, hl, hxl⟩ := h.listed_of_mem hx
    exact Inv.listed_is_hashed U p h.inv _ l x hl hxl

theorem AddedSt.getD_sorted {U : Bytes → Tx} {cfg : Config} {pre : List Tx} {p : Pool} (h : AddedSt U cfg pre p)
    (s : Bytes) : ListSorted ((alookup s p.lists).getD []) := by
  cases hl : alookup s p.lists with
  | none => exact List.Pairwise.nil
  | some l => exact h.sorted s l (SV.mem_of_alookup hl)

/-- one more call `AddTx(t)` of a batch `txs` that hits no limit, `t` well formed with a new hash: `t` is filed by plain
    ordered insertion — the trim that follows drops nothing -/
theorem AddedSt.step {U : Bytes → Tx} {cfg : Config} {txs pre : List Tx} {p : Pool} (h : AddedSt U cfg pre p) (t : Tx)
    (hl : NoLimitHit cfg txs) (hsub : (pre ++ [t]).Sublist txs) (ht : WfTx U t) (hfresh : ∀ x ∈ pre, x.hash ≠ t.hash) :
    trim1 cfg (orderedInsert t ((alookup t.sender p.lists).getD [])) =
      (orderedInsert t ((alookup t.sender p.lists).getD []), []) ∧
    (alookup t.sender (addTx Variant.current p t).1.lists).getD [] =
      orderedInsert t ((alookup t.sender p.lists).getD []) ∧
    AddedSt U cfg (pre ++ [t]) (addTx Variant.current p t).1 := by
  have he' : p.cfg.evictionEnabled = false := by rw [h.cfgEq]; exact hl.1
  have hb : alookup t.hash p.byHash = none := by
    cases hk : alookup t.hash p.byHash with
    | none => rfl
    | some x =>
      obtain ⟨hx, hh⟩ := (h.byHash_iff t.hash x).mp hk
      exact absurd hh (hfresh x hx)
  have hperm : (orderedInsert t ((alookup t.sender p.lists).getD [])).Perm (ofSender t.sender (pre ++ [t])) := by
    have h1 : ofSender t.sender [t] = [t] := by simp [ofSender]
    rw [ofSender_append, h1]
    exact (orderedInsert_perm t _).trans (((h.content t.sender).cons t).trans (List.perm_append_singleton t _).symm)
  have htrim := hl.trim1_id hperm (hsub.filter _)
  have hadd := (addTx_lists_noEvict U p t h.inv h.sorted ht he').2
  simp only [hb, Option.isSome_none, Bool.false_eq_true, if_false] at hadd
  rw [h.cfgEq, htrim] at hadd
  refine ⟨htrim, hadd, Inv.addTx U p t h.inv h.sorted ht, ListsSorted.addTx _ p t h.sorted,
    (cfg_addTx Variant.current p t).trans h.cfgEq, fun s => ?_⟩
  by_cases hs : s = t.sender
  · subst hs
    rw [hadd]
    exact hperm
  · rw [evict_not_called_when_disabled p t he' s hs, ofSender_append]
    have h1 : ofSender s [t] = [] := List.filter_eq_nil_iff.mpr fun x hx e => by
      rw [List.mem_singleton.mp hx] at e
      exact hs (of_decide_eq_true e).symm
    rw [h1, List.append_nil]
    exact h.content s

theorem fresh_of_nodup {pre rest : List Tx} {t : Tx} (hnd : ((pre ++ t :: rest).map (·.hash)).Nodup) :
    ∀ x ∈ pre, x.hash ≠ t.hash := by
  rw [List.map_append, List.map_cons] at hnd
  exact fun x hx => (List.nodup_append.mp hnd).2.2 x.hash (List.mem_map_of_mem hx) t.hash (List.mem_cons_self ..)

theorem AddedSt.fold (U : Bytes → Tx) (cfg : Config) {txs : List Tx} (hnd : (txs.map (·.hash)).Nodup)
    (hw : ∀ t ∈ txs, WfTx U t) (hl : NoLimitHit cfg txs) : ∀ (rest pre : List Tx) (p : Pool), pre ++ rest = txs →
    AddedSt U cfg pre p → AddedSt U cfg txs (rest.foldl (fun p t => (addTx Variant.current p t).1) p)
  | [], pre, p, e, h => by rw [List.append_nil] at e; exact e ▸ h
  | t :: rest, pre, p, e, h => by
    rw [List.foldl_cons]
    have e' : (pre ++ [t]) ++ rest = txs := by rw [← List.append_cons]; exact e
    have hsub : (pre ++ [t]).Sublist txs := e' ▸ List.sublist_append_left _ _
    have ht : WfTx U t := hw t (e ▸ List.mem_append_right _ (List.mem_cons_self ..))
    exact AddedSt.fold U cfg hnd hw hl rest (pre ++ [t]) _ e' (h.step t hl hsub ht (fresh_of_nodup (e ▸ hnd))).2.2

theorem addAll_state (U : Bytes → Tx) (cfg : Config) (txs : List Tx) (hnd : (txs.map (·.hash)).Nodup)
    (hw : ∀ t ∈ txs, WfTx U t) (hl : NoLimitHit cfg txs) : AddedSt U cfg txs (addAll cfg txs) :=
  AddedSt.fold U cfg hnd hw hl txs [] (Pool.init cfg) rfl (AddedSt.init U cfg)

/-- the consequence of `NoLimitHit` on the run itself: every single call of the batch files its transaction by plain
    ordered insertion — the trim that follows drops nothing (whatever prefix `pre` of the batch was executed before) -/
theorem addAll_step_no_trim (U : Bytes → Tx) (cfg : Config) (pre : List Tx) (t : Tx) (rest : List Tx)
    (hnd : ((pre ++ t :: rest).map (·.hash)).Nodup) (hw : ∀ x ∈ pre ++ t :: rest, WfTx U x)
    (hl : NoLimitHit cfg (pre ++ t :: rest)) :
    let l := (alookup t.sender (addAll cfg pre).lists).getD []
    trim1 cfg (orderedInsert t l) = (orderedInsert t l, []) ∧
    alookup t.sender (addAll cfg (pre ++ [t])).lists = some (orderedInsert t l) := by
  intro l
  have hsub0 : pre.Sublist (pre ++ t :: rest) := List.sublist_append_left _ _
  have hsub : (pre ++ [t]).Sublist (pre ++ t :: rest) := List.append_cons pre t rest ▸ List.sublist_append_left _ _
  have hst := addAll_state U cfg pre ((hsub0.map _).nodup hnd) (fun x hx => hw x (hsub0.subset hx)) (hl.sublist hsub0)
  obtain ⟨htrim, hadd, -⟩ := hst.step t hl hsub (hw t (List.mem_append_right _ (List.mem_cons_self ..)))
    (fresh_of_nodup hnd)
  refine ⟨htrim, ?_⟩
  have hstep : addAll cfg (pre ++ [t]) = (addTx Variant.current (addAll cfg pre) t).1 := by
    simp [addAll, List.foldl_append]
  rw [hstep]
  -- the list is not empty (it holds `t`), so the sender is registered
  cases hk : alookup t.sender (addTx Variant.current (addAll cfg pre) t).1.lists with
  | some m => rw [hk] at hadd; exact congrArg some hadd
  | none =>
    rw [hk] at hadd
    exact absurd ((mem_orderedInsert t t l).mpr (Or.inl rfl)) (hadd ▸ List.not_mem_nil)

/-! ### all present, all sorted, counters exact -/

theorem nodup_of_map_nodup {α β} (f : α → β) {l : List α} (h : (l.map f).Nodup) : l.Nodup :=
  List.Pairwise.of_map f (fun _ _ h e => h (e ▸ rfl)) h

theorem AddedSt.byHash_perm {U : Bytes → Tx} {cfg : Config} {pre : List Tx} {p : Pool} (h : AddedSt U cfg pre p)
    (hnd : (pre.map (·.hash)).Nodup) : (p.byHash.map (·.2)).Perm pre := by
  have hn1 : (p.byHash.map (·.2)).Nodup := by
    have hk := h.inv.keysNodup
    unfold List.Nodup at hk ⊢
    rw [List.pairwise_map] at hk ⊢
    refine hk.imp_of_mem ?_
    intro a b ha hb hne e
    apply hne
    have h1 := (h.inv.wfHash a.1 a.2 ha).1
    have h2 := (h.inv.wfHash b.1 b.2 hb).1
    rw [← h1, ← h2, e]
  refine (List.perm_ext_iff_of_nodup hn1 (nodup_of_map_nodup _ hnd)).mpr ?_
  intro x
  constructor
  · intro hx
    obtain ⟨⟨k, x'⟩, hm, rfl⟩ := List.mem_map.mp hx
    exact ((h.byHash_iff k x').mp (alookup_of_mem h.inv.keysNodup hm)).1
  · intro hx
    have := SV.mem_of_alookup ((h.byHash_iff x.hash x).mpr ⟨hx, rfl⟩)
    exact List.mem_map.mpr ⟨(x.hash, x), this, rfl⟩

theorem AddedSt.counters {U : Bytes → Tx} {cfg : Config} {pre : List Tx} {p : Pool} (h : AddedSt U cfg pre p)
    (hnd : (pre.map (·.hash)).Nodup) :
    p.cntTx = (pre.length : Int) ∧ p.numBytes = ((listBytes pre : Nat) : Int) ∧ p.cntSenders = (p.lists.length : Int) := by
  have hp := h.byHash_perm hnd
  refine ⟨?_, ?_, h.inv.cntSenders⟩
  · rw [h.inv.cntTx, ← hp.length_eq, List.length_map]
  · rw [h.inv.numBytes]
    have : sumSizes p.byHash = listBytes (p.byHash.map (·.2)) := by
      simp [sumSizes, listBytes, List.map_map, Function.comp_def]
    rw [this, listBytes_perm hp]

theorem AddedSt.senders_iff {U : Bytes → Tx} {cfg : Config} {pre : List Tx} {p : Pool} (h : AddedSt U cfg pre p)
    (s : Bytes) : s ∈ p.lists.map (·.1) ↔ ∃ t ∈ pre, t.sender = s := by
  constructor
  · intro hs
    obtain ⟨⟨s, l⟩, hm, rfl⟩ := List.mem_map.mp hs
    have hne := h.inv.nonEmpty s l hm
    cases l with
    | nil => exact absurd rfl hne
    | cons x r =>
      have := h.mem_of_listed (alookup_of_mem h.inv.sendersNodup hm) (List.mem_cons_self ..)
      exact ⟨x, this.1, this.2⟩
  · rintro ⟨t, ht, rfl⟩
    obtain ⟨l, hl, -⟩ := h.listed_of_mem ht
    exact List.mem_map_of_mem (f := Prod.fst) (SV.mem_of_alookup hl)

/-- C14, first half.  A batch of well-formed transactions with pairwise distinct hashes, executed in the given order
    with eviction disabled and no per-sender limit reached:
    (a) every transaction of the batch is listed under its sender and reachable by hash;
    (b) the hash index holds nothing else;
    (c) every registered list is strictly sorted and is a permutation of the sender's transactions of the batch
        (hence, by `sorted_perm_unique`, it is THE sorted arrangement of them);
    (d) a sender is registered iff it has a transaction in the batch (and the registry holds no sender twice);
    (e) the counters are exact: `cntTx = |txs|`, `numBytes = Σ size`, `cntSenders` = number of registered senders. -/
theorem adds_all_present_sorted (U : Bytes → Tx) (cfg : Config) (txs : List Tx) (hnd : (txs.map (·.hash)).Nodup)
    (hw : ∀ t ∈ txs, WfTx U t) (hl : NoLimitHit cfg txs) :
    let p := addAll cfg txs
    (∀ t ∈ txs, (∃ l, alookup t.sender p.lists = some l ∧ t ∈ l) ∧ alookup t.hash p.byHash = some t) ∧
    (∀ k x, alookup k p.byHash = some x → x ∈ txs ∧ x.hash = k) ∧
    (∀ s l, alookup s p.lists = some l → ListSorted l ∧ l.Perm (txs.filter (fun t => decide (t.sender = s)))) ∧
    (∀ s, alookup s p.lists = none → txs.filter (fun t => decide (t.sender = s)) = []) ∧
    ((p.lists.map (·.1)).Nodup ∧ ∀ s, s ∈ p.lists.map (·.1) ↔ ∃ t ∈ txs, t.sender = s) ∧
    p.cntTx = (txs.length : Int) ∧ p.numBytes = (((txs.map (·.size)).sum : Nat) : Int) ∧
    p.cntSenders = (p.lists.length : Int) := by
  intro p
  have h : AddedSt U cfg txs p := addAll_state U cfg txs hnd hw hl
  obtain ⟨c1, c2, c3⟩ := h.counters hnd
  refine ⟨?_, ?_, ?_, ?_, ⟨h.inv.sendersNodup, h.senders_iff⟩, c1, c2, c3⟩
  · intro t ht
    exact ⟨h.listed_of_mem ht, (h.byHash_iff t.hash t).mpr ⟨ht, rfl⟩⟩
  · intro k x hk
    exact (h.byHash_iff k x).mp hk
  · intro s l hs
    have hc := h.content s
    rw [hs] at hc
    exact ⟨h.sorted s l (SV.mem_of_alookup hs), hc⟩
  · intro s hs
    have hc := h.content s
    rw [hs] at hc
    exact (List.Perm.nil_eq hc).symm

/-! ### the calls commute -/

theorem option_eq_of_getD {o o' : Option (List Tx)} (h : ∀ l, o = some l → l ≠ []) (h' : ∀ l, o' = some l → l ≠ [])
    (e : o.getD [] = o'.getD []) : o = o' := by
  cases o with
  | none =>
    cases o' with
    | none => rfl
    | some l' => exact absurd e.symm (h' l' rfl)
  | some l =>
    cases o' with
    | none => exact absurd e (h l rfl)
    | some l' => exact congrArg some e

theorem AddedSt.agree {U : Bytes → Tx} {cfg : Config} {txs txs' : List Tx} {p p' : Pool}
    (h : AddedSt U cfg txs p) (h' : AddedSt U cfg txs' p') (hp : txs.Perm txs') (hnd : (txs.map (·.hash)).Nodup) :
    (∀ s, alookup s p.lists = alookup s p'.lists) ∧
    (∀ k, alookup k p.byHash = alookup k p'.byHash) ∧
    p.lists.Perm p'.lists ∧
    p.cntTx = p'.cntTx ∧ p.numBytes = p'.numBytes ∧ p.cntSenders = p'.cntSenders := by
  have hnd' : (txs'.map (·.hash)).Nodup := hnd.perm (hp.map _)
  have hlists : ∀ s, alookup s p.lists = alookup s p'.lists := by
    intro s
    refine option_eq_of_getD (fun l hl => h.inv.nonEmpty s l (SV.mem_of_alookup hl))
      (fun l hl => h'.inv.nonEmpty s l (SV.mem_of_alookup hl)) ?_
    exact sorted_perm_unique (h.getD_sorted s) (h'.getD_sorted s)
      ((h.content s).trans ((ofSender_perm hp s).trans (h'.content s).symm))
  have hperm : p.lists.Perm p'.lists := by
    have n1 : p.lists.Nodup := nodup_of_map_nodup (·.1) h.inv.sendersNodup
    have n2 : p'.lists.Nodup := nodup_of_map_nodup (·.1) h'.inv.sendersNodup
    refine (List.perm_ext_iff_of_nodup n1 n2).mpr ?_
    rintro ⟨s, l⟩
    rw [← alookup_iff_mem h.inv.sendersNodup, ← alookup_iff_mem h'.inv.sendersNodup, hlists s]
  obtain ⟨c1, c2, c3⟩ := h.counters hnd
  obtain ⟨c1', c2', c3'⟩ := h'.counters hnd'
  refine ⟨hlists, ?_, hperm, ?_, ?_, ?_⟩
  · intro k
    refine Option.ext fun x => ?_
    rw [h.byHash_iff, h'.byHash_iff, hp.mem_iff]
  · rw [c1, c1', hp.length_eq]
  · rw [c2, c2', listBytes_perm hp]
  · rw [c3, c3', hperm.length_eq]

/-- C14, second half: the calls commute.  For two orders `txs`, `txs'` of the same batch (hypotheses as in
    `adds_all_present_sorted`; they are invariant under permutation) the two final pools agree on
      * the list of EVERY sender (`alookup s lists`, as `Option (List Tx)`: same registered senders, same lists),
      * the hash index (`alookup h byHash` for every `h`),
      * the three counters,
    and their sender registries are permutations of each other.  The ORDER of the senders inside the association list
    `lists` may differ (first-registered first; see `AddCommuteEx.senders_order_differs`) — it models the iteration
    order of a Go map and is not observable through the lookups.  Hence every interleaving of the concurrent calls
    yields the same observable pool. -/
theorem adds_commute (U : Bytes → Tx) (cfg : Config) (txs txs' : List Tx) (hp : txs.Perm txs')
    (hnd : (txs.map (·.hash)).Nodup) (hw : ∀ t ∈ txs, WfTx U t) (hl : NoLimitHit cfg txs) :
    (∀ s, alookup s (addAll cfg txs).lists = alookup s (addAll cfg txs').lists) ∧
    (∀ k, alookup k (addAll cfg txs).byHash = alookup k (addAll cfg txs').byHash) ∧
    (addAll cfg txs).lists.Perm (addAll cfg txs').lists ∧
    (addAll cfg txs).cntTx = (addAll cfg txs').cntTx ∧
    (addAll cfg txs).numBytes = (addAll cfg txs').numBytes ∧
    (addAll cfg txs).cntSenders = (addAll cfg txs').cntSenders := by
  have h := addAll_state U cfg txs hnd hw hl
  have h' := addAll_state U cfg txs' (hnd.perm (hp.map _)) (fun t ht => hw t (hp.mem_iff.mpr ht)) (hl.perm hp)
  exact h.agree h' hp hnd

/-- whatever the order in which the concurrent AddTx calls were executed, a subsequent selection returns the same
    transactions in the same order (and the same accumulated gas) -/
theorem selection_after_concurrent_adds (U : Bytes → Tx) (cfg : Config) (txs txs' : List Tx) (hp : txs.Perm txs')
    (hnd : (txs.map (·.hash)).Nodup) (hw : ∀ t ∈ txs, WfTx U t) (hl : NoLimitHit cfg txs)
    (s : Session) (q : SelParams) :
    select Variant.current (addAll cfg txs) s q = select Variant.current (addAll cfg txs') s q := by
  have h := addAll_state U cfg txs hnd hw hl
  have hperm := (adds_commute U cfg txs txs' hp hnd hw hl).2.2.1
  obtain ⟨-, -, hn, -⟩ := bunches_ok_of_inv U _ h.inv h.sorted
  exact selectFromBunches_perm Variant.current s q _ _ (hperm.map (·.2)) hn

/-! ### non-vacuity: four transactions, two senders, one same-nonce pair -/

namespace AddCommuteEx

def tx (h s : UInt8) (n gp sz : Nat) : Tx := ⟨[h], [s], n, gp, 10, sz, 10 * gp, 0, []⟩

def t1 := tx 1 0xa0 0 1 100
def t2 := tx 2 0xa0 1 1 110
def t3 := tx 3 0xa0 1 2 120   -- same sender, same nonce as t2, higher gas price: belongs in front of t2
def t4 := tx 4 0xb0 0 1 130

/-- per-sender limits: 3 transactions, 330 bytes — sender a0 uses them up exactly, nothing is trimmed -/
def cfg : Config := ⟨false, 100000, 330, 100, 3, 1⟩

def batch : List Tx := [t1, t2, t3, t4]
/-- another interleaving of the same four calls -/
def batch' : List Tx := [t4, t3, t2, t1]
def batch'' : List Tx := [t3, t4, t1, t2]

def U (h : Bytes) : Tx := ((batch.find? (fun x => x.hash == h))).getD t1

theorem batch_hashes : (batch.map (·.hash)).Nodup := by decide +kernel

theorem batch_wf : ∀ t ∈ batch, WfTx U t := by
  intro t ht
  simp only [batch, List.mem_cons, List.not_mem_nil, or_false] at ht
  rcases ht with rfl | rfl | rfl | rfl <;> (unfold WfTx; decide)

theorem ofSender_batch (s : Bytes) :
    ofSender s batch = (if s = [0xa0] then [t1, t2, t3] else if s = [0xb0] then [t4] else []) := by
  have e1 : t1.sender = [0xa0] := rfl
  have e2 : t2.sender = [0xa0] := rfl
  have e3 : t3.sender = [0xa0] := rfl
  have e4 : t4.sender = [0xb0] := rfl
  have hne : ([0xa0] : Bytes) ≠ [0xb0] := by decide
  simp only [ofSender, batch, List.filter_cons, List.filter_nil, e1, e2, e3, e4]
  by_cases ha : s = [0xa0]
  · subst ha
    simp
  · by_cases hb : s = [0xb0]
    · subst hb
      simp [hne.symm]
    · have ha' : ¬ ([0xa0] : Bytes) = s := fun e => ha e.symm
      have hb' : ¬ ([0xb0] : Bytes) = s := fun e => hb e.symm
      simp [ha, hb, ha', hb']

theorem batch_noLimit : NoLimitHit cfg batch := by
  refine ⟨rfl, fun s => ?_⟩
  rw [ofSender_batch]
  by_cases ha : s = [0xa0]
  · rw [if_pos ha]; decide
  · rw [if_neg ha]
    by_cases hb : s = [0xb0]
    · rw [if_pos hb]; decide
    · rw [if_neg hb]; decide

theorem batch_perm : batch.Perm batch' := by decide +kernel
theorem batch_perm'' : batch.Perm batch'' := by decide +kernel

theorem addAll_batch : addAll cfg batch =
    ⟨cfg, [([0xa0], [t1, t3, t2]), ([0xb0], [t4])], [t1, t2, t3, t4].map fun t => (t.hash, t), 4, 460, 2⟩ := rfl

theorem addAll_batch' : addAll cfg batch' =
    ⟨cfg, [([0xb0], [t4]), ([0xa0], [t1, t3, t2])], [t4, t3, t2, t1].map fun t => (t.hash, t), 4, 460, 2⟩ := rfl

-- different execution orders, the same sender lists: nonce 0, then the same-nonce pair (dearer first)
example : alookup [0xa0] (addAll cfg batch).lists = some [t1, t3, t2] := by rw [addAll_batch]; decide
example : alookup [0xa0] (addAll cfg batch').lists = some [t1, t3, t2] := by rw [addAll_batch']; decide
example : alookup [0xa0] (addAll cfg batch'').lists = some [t1, t3, t2] := by decide +kernel
example : alookup [0xb0] (addAll cfg batch).lists = some [t4] := by rw [addAll_batch]; decide
example : alookup [0xb0] (addAll cfg batch').lists = some [t4] := by rw [addAll_batch']; decide
example : alookup [0xc0] (addAll cfg batch).lists = none := by rw [addAll_batch]; decide
example : ((addAll cfg batch).cntTx, (addAll cfg batch).numBytes, (addAll cfg batch).cntSenders) = (4, 460, 2) := by
  rw [addAll_batch]
example : ((addAll cfg batch').cntTx, (addAll cfg batch').numBytes, (addAll cfg batch').cntSenders) = (4, 460, 2) := by
  rw [addAll_batch']
example : alookup [3] (addAll cfg batch').byHash = some t3 := by rw [addAll_batch']; decide

/-- what is NOT order-independent: the position of the senders in the association list (≙ Go map iteration order);
    this is why `adds_commute` speaks about lookups and about `lists` up to permutation -/
theorem senders_order_differs :
    (addAll cfg batch).lists.map (·.1) = [[0xa0], [0xb0]] ∧ (addAll cfg batch').lists.map (·.1) = [[0xb0], [0xa0]] := by
  rw [addAll_batch, addAll_batch']; decide

-- the theorems instantiated: their hypotheses can be met
example : ListSorted [t1, t3, t2] := by unfold ListSorted; decide
example : [t1, t3, t2] = [t1, t3, t2] :=
  sorted_perm_unique (l₁ := [t1, t3, t2]) (l₂ := [t1, t3, t2]) (by unfold ListSorted; decide) (by unfold ListSorted; decide) (List.Perm.refl _)

example : (addAll cfg batch).cntTx = 4 ∧ (addAll cfg batch).numBytes = 460 := by
  obtain ⟨-, -, -, -, -, c1, c2, -⟩ := adds_all_present_sorted U cfg batch batch_hashes batch_wf batch_noLimit
  exact ⟨c1, c2⟩

example (s : Bytes) : alookup s (addAll cfg batch).lists = alookup s (addAll cfg batch').lists :=
  (adds_commute U cfg batch batch' batch_perm batch_hashes batch_wf batch_noLimit).1 s

example (s : Bytes) : alookup s (addAll cfg batch).lists = alookup s (addAll cfg batch'').lists :=
  (adds_commute U cfg batch batch'' batch_perm'' batch_hashes batch_wf batch_noLimit).1 s

def session : Session := ⟨fun _ => 0, fun _ => 1000, fun _ => false⟩
def params : SelParams := ⟨1000, 10, fun _ => false, 10⟩

example : select Variant.current (addAll cfg batch) session params
    = select Variant.current (addAll cfg batch') session params :=
  selection_after_concurrent_adds U cfg batch batch' batch_perm batch_hashes batch_wf batch_noLimit session params

-- … and what both selections return (by hash): a0's nonce 0 (equal price per unit with b0's, the lower hash wins), then
-- the dearer transaction t3 of the same-nonce pair (its cheaper sibling t2 is skipped), then b0's transaction
example : (select Variant.current (addAll cfg batch) session params).1.map (·.hash) = [[1], [3], [4]] := by
  rw [addAll_batch]; decide
example : (select Variant.current (addAll cfg batch') session params).1.map (·.hash) = [[1], [3], [4]] := by
  rw [addAll_batch']; decide

-- the trim lemma on a real step: inserting t3 into a0's list [t1, t2] drops nothing
example : trim1 cfg (orderedInsert t3 [t1, t2]) = ([t1, t3, t2], []) := by decide +kernel

/-- The hypothesis `NoLimitHit` is needed, and the calls do NOT commute without it: with a per-sender byte limit of 100
    and three transactions of sender a0 of sizes 10 / 95 / 10 (nonces 0 / 1 / 2), the order 0,1,2 ends with the
    nonces {0, 2} pooled, the order 2,1,0 with {0} only (each call trims only the then-highest transaction, finding F3).
    (A pure COUNT limit alone would still commute — the k lowest survive in any order — but the byte limit does not.) -/
theorem commute_needs_noLimit :
    let cfgB : Config := ⟨false, 100000, 100, 100, 10, 1⟩
    let a := tx 6 0xa0 0 1 10
    let b := tx 7 0xa0 1 1 95
    let c := tx 8 0xa0 2 1 10
    [a, b, c].Perm [c, b, a] ∧
    alookup [0xa0] (addAll cfgB [a, b, c]).lists = some [a, c] ∧
    alookup [0xa0] (addAll cfgB [c, b, a]).lists = some [a] ∧
    (addAll cfgB [a, b, c]).cntTx = 2 ∧ (addAll cfgB [c, b, a]).cntTx = 1 := by decide +kernel

end AddCommuteEx

end SV.TxCache
