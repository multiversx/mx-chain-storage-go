/-
  SV.TxCache.SelProofs — proofs of the selection properties C01 (nonce runs) and C02 (members, count, gas,
  guard, balances) for `selectLoop`, plus the counter-example for the legacy gas budget test.
-/
import SV.TxCache.SelStep
namespace SV.TxCache

theorem classify_take {s : Session} {c : Bytes → Nat} {it : HItem} (h : classify s c it = .take) :
    (it.latest = none → it.cur.nonce = s.nonce it.cur.sender) ∧
    (∀ l, it.latest = some l → it.cur.nonce ≤ l + 1 ∧ it.cur.nonce ≠ l) ∧
    s.badGuard it.cur = false ∧
    c it.cur.payer + it.cur.fee ≤ s.balance it.cur.payer := by
  rw [classify_eq] at h
  cases hl : it.latest with
  | none =>
    rw [hl] at h
    obtain ⟨h1, h2, h3⟩ := verdictOf_none_take h
    exact ⟨fun _ => h1, nofun, h3, h2⟩
  | some l =>
    rw [hl] at h
    obtain ⟨h1, h2, h3⟩ := verdictOf_some_take h
    exact ⟨nofun, fun l' e => Option.some.inj e ▸ h1, h3, h2⟩

/-! ### C02: count, gas, guard -/

/-- C02 (count) -/
theorem selectLoop_count (v : Variant) (pick : List HItem → Option (HItem × List HItem))
    (s : Session) (q : SelParams) (heap : List HItem) (fuel : Nat) :
    (selectLoop v pick s q fuel heap (fun _ => 0) 0 []).1.length ≤ q.maxNum := by
  refine selectLoop_induct_out v pick s q (fun _ _ out => out.length ≤ q.maxNum)
    (fun r => r.1.length ≤ q.maxNum) (fun _ _ _ h => h) ?_ fuel heap _ _ _ (Nat.zero_le _)
  intro c acc out it _ _ hn _
  rw [List.length_append]
  exact Nat.lt_of_not_le hn

/-- C02 (gas): with the repaired budget test the returned gas is the true sum (in ℕ) and within the request -/
theorem selectLoop_gas (v : Variant) (hv : v.gasWraps = false) (pick : List HItem → Option (HItem × List HItem))
    (s : Session) (q : SelParams) (heap : List HItem) (fuel : Nat) :
    let r := selectLoop v pick s q fuel heap (fun _ => 0) 0 []
    (r.1.map (·.gasLimit)).sum = r.2 ∧ r.2 ≤ q.gasReq := by
  refine selectLoop_induct_out v pick s q
    (fun _ acc out => (out.map (·.gasLimit)).sum = acc ∧ acc ≤ q.gasReq)
    (fun r => (r.1.map (·.gasLimit)).sum = r.2 ∧ r.2 ≤ q.gasReq) (fun _ _ _ h => h) ?_ fuel heap _ _ _
    ⟨rfl, Nat.zero_le _⟩
  intro c acc out it h hg _ _
  have hle : acc + it.cur.gasLimit ≤ q.gasReq := by
    simp [gasExceeded, hv] at hg; exact hg
  simp [hv, List.sum_append, h.1, hle]

/-- C02 (guard) -/
theorem selectLoop_guard (v : Variant) (pick : List HItem → Option (HItem × List HItem))
    (s : Session) (q : SelParams) (heap : List HItem) (fuel : Nat) :
    ∀ t ∈ (selectLoop v pick s q fuel heap (fun _ => 0) 0 []).1, s.badGuard t = false := by
  refine selectLoop_induct_out v pick s q (fun _ _ out => ∀ t ∈ out, s.badGuard t = false)
    (fun r => ∀ t ∈ r.1, s.badGuard t = false) (fun _ _ _ h => h) ?_ fuel heap _ _ _ nofun
  intro c acc out it h _ _ hc t ht
  rcases List.mem_append.mp ht with ht | ht
  · exact h t ht
  · rw [List.mem_singleton.mp ht]
    exact (classify_take hc).2.2.1

/-! ### C02: balances -/

theorem committed_nil (a : Bytes) : committed [] a = 0 := rfl

theorem sum_filter_concat (p : Tx → Prop) [DecidablePred p] (f : Tx → Nat) (l : List Tx) (t : Tx) :
    (((l ++ [t]).filter (fun x => p x)).map f).sum =
      ((l.filter (fun x => p x)).map f).sum + if p t then f t else 0 := by
  rw [List.filter_append, List.map_append, List.sum_append]
  by_cases h : p t
  · rw [List.filter_cons_of_pos (by simpa using h), if_pos h]; simp
  · rw [List.filter_cons_of_neg (by simpa using h), if_neg h]; rfl

theorem committed_concat (out : List Tx) (t : Tx) (a : Bytes) :
    committed (out ++ [t]) a =
      committed out a + (if t.payer = a then t.fee else 0) + (if t.sender = a then t.value else 0) := by
  unfold committed
  rw [sum_filter_concat (fun x => x.payer = a), sum_filter_concat (fun x => x.sender = a), Nat.add_add_add_comm,
    ← Nat.add_assoc]

theorem bump_bump (c : Bytes → Nat) (t : Tx) (a : Bytes) :
    bump (bump c t.sender t.value) t.payer t.fee a =
      c a + (if t.payer = a then t.fee else 0) + (if t.sender = a then t.value else 0) := by
  rw [bump_apply, bump_apply, Nat.add_right_comm]

/-- C02 (balances): walking the result in order, the fee payer's balance covers this fee on top of everything
    already committed to that account by earlier transactions of the result -/
theorem selectLoop_balance (v : Variant) (pick : List HItem → Option (HItem × List HItem))
    (s : Session) (q : SelParams) (heap : List HItem) (fuel : Nat) :
    let out := (selectLoop v pick s q fuel heap (fun _ => 0) 0 []).1
    ∀ i (hi : i < out.length), committed (out.take i) (out[i]).payer + (out[i]).fee ≤ s.balance (out[i]).payer := by
  refine selectLoop_induct_out v pick s q
    (fun c _ out => (∀ a, c a = committed out a) ∧
      ∀ i (hi : i < out.length), committed (out.take i) (out[i]).payer + (out[i]).fee ≤ s.balance (out[i]).payer)
    (fun r => ∀ i (hi : i < r.1.length),
      committed (r.1.take i) (r.1[i]).payer + (r.1[i]).fee ≤ s.balance (r.1[i]).payer)
    (fun _ _ _ h => h.2) ?_ fuel heap _ _ _ ⟨fun a => (committed_nil a).symm, nofun⟩
  intro c acc out it h _ _ hc
  refine ⟨fun a => by rw [bump_bump, committed_concat, h.1 a], fun i hi => ?_⟩
  by_cases hlt : i < out.length
  · rw [List.getElem_append_left hlt, List.take_append_of_le_length (Nat.le_of_lt hlt)]
    exact h.2 i hlt
  · have hi' : i = out.length := by
      rw [List.length_append] at hi
      exact Nat.le_antisymm (Nat.le_of_lt_succ hi) (Nat.le_of_not_lt hlt)
    subst hi'
    rw [List.getElem_concat_length rfl, List.take_left' rfl, ← h.1]
    exact (classify_take hc).2.2.2

/-- C02 (membership/distinctness): the result is a duplicate-free list of pool members -/
theorem selectLoop_members (v : Variant) (pick : List HItem → Option (HItem × List HItem)) (hp : PickOk pick)
    (s : Session) (q : SelParams) (bunches : List (List Tx)) (hn : bunches.flatten.Nodup) (fuel : Nat) :
    let out := (selectLoop v pick s q fuel (initHeap bunches) (fun _ => 0) 0 []).1
    out.Nodup ∧ ∀ t ∈ out, t ∈ bunches.flatten := by
  -- the invariant: `out` followed by everything still in the heap is a duplicate-free list of pool members
  let P : List Tx → Prop := fun L => L.Nodup ∧ ∀ t ∈ L, t ∈ bunches.flatten
  have Psub : ∀ {L L' : List Tx}, L'.Sublist L → P L → P L' :=
    fun hs h => ⟨hs.nodup h.1, fun t ht => h.2 t (hs.subset ht)⟩
  have step : ∀ {heap it heap'} (out : List Tx), pick heap = some (it, heap') →
      P (out ++ heapTxs heap) → P (out ++ it.cur :: (it.rest ++ heapTxs heap')) := by
    intro heap it heap' out hpk h
    have hperm := ((hp _ _ _ hpk).flatMap_right fun it => it.cur :: it.rest).append_left out
    rw [← heapTxs_cons]
    exact ⟨hperm.nodup_iff.mpr h.1, fun t ht => h.2 t (hperm.subset ht)⟩
  refine selectLoop_induct v pick s q (fun heap _ _ out => P (out ++ heapTxs heap))
    (fun r => r.1.Nodup ∧ ∀ t ∈ r.1, t ∈ bunches.flatten) ?_ ?_ ?_ ?_ fuel _ _ _ _ ?_
  · intro heap c acc out h
    exact Psub (List.sublist_append_left _ _) h
  · intro heap c acc out it heap' h hpk
    exact Psub (((List.sublist_append_right _ _).cons _).append_left _) (step out hpk h)
  · intro heap c acc out it heap' h hpk
    rw [heapTxs_advance]
    exact Psub ((List.sublist_cons_self _ _).append_left _) (step out hpk h)
  · intro heap c acc out it heap' h hpk _ _ _
    rw [heapTxs_advance, List.append_assoc]
    exact step out hpk h
  · show P ([] ++ heapTxs (initHeap bunches))
    rw [heapTxs_initHeap]
    exact ⟨hn, fun t ht => ht⟩

/-! ### C01: nonce runs -/

@[simp] theorem noncesOf_nil (snd : Bytes) : noncesOf snd [] = [] := rfl

theorem noncesOf_append_same (snd : Bytes) (out : List Tx) (t : Tx) (h : t.sender = snd) :
    noncesOf snd (out ++ [t]) = noncesOf snd out ++ [t.nonce] := by
  simp [noncesOf, List.filter_append, h]

theorem noncesOf_append_other (snd : Bytes) (out : List Tx) (t : Tx) (h : t.sender ≠ snd) :
    noncesOf snd (out ++ [t]) = noncesOf snd out := by
  simp [noncesOf, List.filter_append, h]

def RunOk (s : Session) (snd : Bytes) (out : List Tx) : Prop :=
  ∃ k, noncesOf snd out = List.range' (s.nonce snd) k

def ItemOk (it : HItem) : Prop :=
  (∀ t ∈ it.rest, t.sender = it.cur.sender) ∧
  (it.cur :: it.rest).Pairwise (fun a b => a.nonce ≤ b.nonce)

/-- The loop invariant of C01.  For a sender still in the heap, `latest` tells how far its run of nonces in `out`
    has got, and the cursor is not behind it; `frozen` keeps the run of a sender whose item has left the heap. -/
structure SelInv (s : Session) (heap : List HItem) (out : List Tx) : Prop where
  items : ∀ it ∈ heap, ItemOk it
  distinct : heap.Pairwise (fun a b => a.cur.sender ≠ b.cur.sender)
  latestNone : ∀ it ∈ heap, it.latest = none → noncesOf it.cur.sender out = []
  latestSome : ∀ it ∈ heap, ∀ n, it.latest = some n →
      s.nonce it.cur.sender ≤ n ∧
      noncesOf it.cur.sender out = List.range' (s.nonce it.cur.sender) (n - s.nonce it.cur.sender + 1) ∧
      n ≤ it.cur.nonce
  frozen : ∀ snd, RunOk s snd out

theorem SelInv.perm {s : Session} {l l' : List HItem} {out : List Tx} (h : SelInv s l out) (p : l'.Perm l) :
    SelInv s l' out where
  items := fun it hit => h.items it (p.subset hit)
  distinct := (p.pairwise_iff (fun {a b} (hab : a.cur.sender ≠ b.cur.sender) => Ne.symm hab)).mpr h.distinct
  latestNone := fun it hit => h.latestNone it (p.subset hit)
  latestSome := fun it hit => h.latestSome it (p.subset hit)
  frozen := h.frozen

theorem SelInv.tail {s : Session} {it : HItem} {l : List HItem} {out : List Tx} (h : SelInv s (it :: l) out) :
    SelInv s l out where
  items := fun x hx => h.items x (List.mem_cons_of_mem _ hx)
  distinct := (List.pairwise_cons.mp h.distinct).2
  latestNone := fun x hx => h.latestNone x (List.mem_cons_of_mem _ hx)
  latestSome := fun x hx => h.latestSome x (List.mem_cons_of_mem _ hx)
  frozen := h.frozen

theorem ItemOk.next {it : HItem} {t : Tx} {ts : List Tx} (lt : Option Nat) (hok : ItemOk it)
    (hr : it.rest = t :: ts) :
    ItemOk { cur := t, rest := ts, latest := lt } ∧ t.sender = it.cur.sender ∧ it.cur.nonce ≤ t.nonce := by
  obtain ⟨h2, h3⟩ := hok
  rw [hr] at h2 h3
  have hts : t.sender = it.cur.sender := h2 t (List.mem_cons_self ..)
  refine ⟨⟨?_, ?_⟩, hts, ?_⟩
  · intro x hx; show x.sender = t.sender; rw [hts]; exact h2 x (List.mem_cons_of_mem _ hx)
  · exact (List.pairwise_cons.mp h3).2
  · exact (List.pairwise_cons.mp h3).1 t (List.mem_cons_self ..)

theorem SelInv.replaceHead {s : Session} {it it' : HItem} {l : List HItem} {out : List Tx}
    (h : SelInv s (it :: l) out) (hok : ItemOk it') (hs : it'.cur.sender = it.cur.sender)
    (hl : it'.latest = it.latest) (hc : it.cur.nonce ≤ it'.cur.nonce) : SelInv s (it' :: l) out where
  items := List.forall_mem_cons.mpr ⟨hok, h.tail.items⟩
  distinct := List.pairwise_cons.mpr ⟨hs ▸ (List.pairwise_cons.mp h.distinct).1, h.tail.distinct⟩
  latestNone := List.forall_mem_cons.mpr ⟨by rw [hs, hl]; exact h.latestNone it List.mem_cons_self, h.tail.latestNone⟩
  latestSome := by
    refine List.forall_mem_cons.mpr ⟨fun n hn => ?_, h.tail.latestSome⟩
    obtain ⟨h1, h2, h3⟩ := h.latestSome it List.mem_cons_self n (hl ▸ hn)
    rw [hs]; exact ⟨h1, h2, Nat.le_trans h3 hc⟩
  frozen := h.frozen

theorem HItem.advance_spec {it it' : HItem} (h : it.advance = some it') :
    ∃ t ts, it.rest = t :: ts ∧ it' = { it with cur := t, rest := ts } := by
  unfold HItem.advance at h
  split at h
  · simp at h
  · rename_i t ts heq; simp at h; exact ⟨t, ts, heq, h.symm⟩

theorem SelInv.advance {s : Session} {it : HItem} {l : List HItem} {out : List Tx} (h : SelInv s (it :: l) out) :
    SelInv s (it.advance.toList ++ l) out := by
  cases ha : it.advance with
  | none => exact h.tail
  | some it' =>
    obtain ⟨t, ts, hr, rfl⟩ := HItem.advance_spec ha
    obtain ⟨a1, a2, a3⟩ := (h.items it List.mem_cons_self).next it.latest hr
    exact h.replaceHead a1 a2 rfl a3

theorem range'_run_concat {a n : Nat} (h : a ≤ n) :
    List.range' a (n - a + 1) ++ [n + 1] = List.range' a (n + 1 - a + 1) := by
  rw [Nat.sub_add_comm h, List.range'_1_concat (n := n - a + 1), ← Nat.add_assoc, Nat.add_sub_cancel' h]

theorem SelInv.take {s : Session} {c : Bytes → Nat} {it : HItem} {l : List HItem} {out : List Tx}
    (h : SelInv s (it :: l) out) (hc : classify s c it = .take) :
    SelInv s ({ it with latest := some it.cur.nonce } :: l) (out ++ [it.cur]) := by
  have hdist := List.pairwise_cons.mp h.distinct
  obtain ⟨hN, hS, _, _⟩ := classify_take hc
  have hnew : s.nonce it.cur.sender ≤ it.cur.nonce ∧
      noncesOf it.cur.sender (out ++ [it.cur]) =
        List.range' (s.nonce it.cur.sender) (it.cur.nonce - s.nonce it.cur.sender + 1) := by
    rw [noncesOf_append_same _ _ _ rfl]
    cases hl : it.latest with
    | none =>
      rw [h.latestNone it List.mem_cons_self hl, hN hl, Nat.sub_self]
      exact ⟨Nat.le_refl _, rfl⟩
    | some n =>
      obtain ⟨h1, h2, h3⟩ := h.latestSome it List.mem_cons_self n hl
      obtain ⟨h4, h5⟩ := hS n hl
      have e : it.cur.nonce = n + 1 := Nat.le_antisymm h4 (Nat.lt_of_le_of_ne h3 (Ne.symm h5))
      rw [h2, e, range'_run_concat h1]
      exact ⟨Nat.le_succ_of_le h1, rfl⟩
  have other : ∀ x ∈ l, noncesOf x.cur.sender (out ++ [it.cur]) = noncesOf x.cur.sender out :=
    fun x hx => noncesOf_append_other _ _ _ (hdist.1 x hx)
  refine ⟨List.forall_mem_cons.mpr ⟨h.items it List.mem_cons_self, h.tail.items⟩, List.pairwise_cons.mpr hdist,
    List.forall_mem_cons.mpr ⟨nofun, fun x hx => other x hx ▸ h.tail.latestNone x hx⟩,
    List.forall_mem_cons.mpr ⟨fun n hn => Option.some.inj hn ▸ ⟨hnew.1, hnew.2, Nat.le_refl _⟩,
      fun x hx => other x hx ▸ h.tail.latestSome x hx⟩, fun snd => ?_⟩
  by_cases e : it.cur.sender = snd
  · subst e; exact ⟨_, hnew.2⟩
  · rw [RunOk, noncesOf_append_other _ _ _ e]; exact h.frozen snd

theorem HItem.ofBunch_eq_some {b : List Tx} {it : HItem} (h : HItem.ofBunch b = some it) :
    ∃ t ts, b = t :: ts ∧ it = { cur := t, rest := ts } := by
  cases b with
  | nil => cases h
  | cons t ts => exact ⟨t, ts, rfl, (Option.some.inj h).symm⟩

theorem mem_initHeap {bunches : List (List Tx)} {it : HItem} (h : it ∈ initHeap bunches) :
    ∃ t ts, (t :: ts) ∈ bunches ∧ it = { cur := t, rest := ts } := by
  obtain ⟨b, hb, hob⟩ := List.mem_filterMap.mp h
  obtain ⟨t, ts, rfl, e⟩ := HItem.ofBunch_eq_some hob
  exact ⟨t, ts, hb, e⟩

theorem SelInv.init (s : Session) (bunches : List (List Tx))
    (hb : ∀ b ∈ bunches, BunchOk b) (hd : BunchesDistinct bunches) : SelInv s (initHeap bunches) [] where
  items := by
    intro it hit
    obtain ⟨t, ts, hm, rfl⟩ := mem_initHeap hit
    obtain ⟨h1, h2⟩ := hb _ hm
    exact ⟨fun x hx => h1 x (List.mem_cons_of_mem _ hx) t (List.mem_cons_self ..), h2⟩
  distinct := by
    unfold initHeap
    rw [List.pairwise_filterMap]
    refine hd.imp ?_
    intro a b hab x hx y hy
    obtain ⟨t, ts, rfl, rfl⟩ := HItem.ofBunch_eq_some hx
    obtain ⟨u, us, rfl, rfl⟩ := HItem.ofBunch_eq_some hy
    exact hab t List.mem_cons_self u List.mem_cons_self
  latestNone := fun _ _ _ => rfl
  latestSome := by
    intro it hit n hn
    obtain ⟨t, ts, _, rfl⟩ := mem_initHeap hit
    simp at hn
  frozen := fun snd => ⟨0, by simp⟩

/-- C01: per sender, the selected nonces are consecutive, starting at the account nonce, in result order -/
theorem selectLoop_nonce_run (v : Variant) (pick : List HItem → Option (HItem × List HItem)) (hp : PickOk pick)
    (s : Session) (q : SelParams) (bunches : List (List Tx))
    (hb : ∀ b ∈ bunches, BunchOk b) (hd : BunchesDistinct bunches) (fuel : Nat) (snd : Bytes) :
    ∃ k, noncesOf snd (selectLoop v pick s q fuel (initHeap bunches) (fun _ => 0) 0 []).1 = List.range' (s.nonce snd) k := by
  refine selectLoop_induct v pick s q (fun heap _ _ out => SelInv s heap out)
    (fun r => RunOk s snd r.1) ?_ ?_ ?_ ?_ fuel _ _ _ _ (SelInv.init s bunches hb hd)
  · intro heap c acc out h; exact h.frozen snd
  · intro heap c acc out it heap' h hpk
    exact (h.perm (hp _ _ _ hpk)).tail
  · intro heap c acc out it heap' h hpk
    exact (h.perm (hp _ _ _ hpk)).advance
  · intro heap c acc out it heap' h hpk _ _ hc
    exact ((h.perm (hp _ _ _ hpk)).take hc).advance

/-- the legacy (pre-repair) budget test violates the gas clause: concrete counter-example -/
theorem legacy_gas_counterexample :
    ∃ (s : Session) (q : SelParams) (bunches : List (List Tx)),
      let r := selectFromBunches Variant.legacy s q bunches
      (r.1.map (·.gasLimit)).sum ≠ r.2 ∧ (r.1.map (·.gasLimit)).sum > q.gasReq := by
  refine ⟨⟨fun _ => 0, fun _ => 0, fun _ => false⟩,
    { gasReq := 18446744073709551615, maxNum := 10, stop := fun _ => false },
    [[{ hash := [1], sender := [1], nonce := 0, gasPrice := 0, gasLimit := 9223372036854775808,
        size := 0, fee := 0, value := 0, relayer := [] }],
     [{ hash := [2], sender := [2], nonce := 0, gasPrice := 0, gasLimit := 9223372036854775808,
        size := 0, fee := 0, value := 0, relayer := [] }]], ?_⟩
  decide

end SV.TxCache
