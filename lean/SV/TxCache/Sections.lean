/-
  SV.TxCache.Sections — property C14 (defect F13): the mempool under concurrency AT CRITICAL-SECTION GRANULARITY.

  `TxCache.AddTx`, `RemoveTxByHash`, `Clear` and the eviction run these critical sections under `mutTxOperation`:
    (A)  `AddTx`:   `txByHash.addTx(tx)` ; `txListBySender.addTxReturnEvicted(tx)`   — returns the trimmed hashes
    (A') `AddTx`:   AFTER the unlock `txByHash.RemoveTxsBulk(evicted)`               — not atomic with (A)
    (R)  `RemoveTxByHash` (whole body)
    (C)  `Clear`
    (E)  one pass of the eviction, for a victim list taken from a possibly STALE snapshot (an arbitrary list)
  A concurrent execution is, as far as the two indexes go, some interleaving of these sections, each (A') after its (A).

  Here: the sections (`addSection`, `dropSection`; the others are the sequential model functions), the interleaving
  system (`Conf`, `Step`, `Conf.step`, `Conf.run`), the ONE-SIDED invariant `NoOrphan` (every transaction reachable by
  hash is held by its sender's list, or its removal from the hash index is pending in an in-flight `AddTx`) with its
  companion invariant `PoolOk` (each index well formed on its own), both inductive for ARBITRARY interleavings with
  ARBITRARY victim lists.

  The two-sided agreement of `Inv` does NOT hold in this system (`two_sided_fails`).
-/
import SV.TxCache.EvictInv
namespace SV.TxCache.Sections
open SV.TxCache.C5

/-! ### 1. the sections of `AddTx`

  (A) is the first two stages of the insertion, `hashAdd` and `fetchList` (`ListsInvProofs.lean`), followed by the list
  update; what the sequential model does right after it, the bulk removal of the trimmed hashes, is (A'). -/

/-- `txListBySender.addTxReturnEvicted`: sorted insert, trim of at most one transaction, `removeSenderIfEmpty`;
    the hashes of the trimmed transactions are RETURNED (they stay in the hash index) -/
def listSection (p : Pool) (addedByHash : Bool) (t : Tx) : Pool × Bool × List Bytes :=
  let pl := fetchList p t.sender
  match insertTx t pl.2 with
  | none => (pl.1, addedByHash, [])
  | some l' =>
    let tr := trim1 pl.1.cfg l'
    (removeSenderIfEmpty { pl.1 with lists := aset t.sender tr.1 pl.1.lists } t.sender, true, tr.2.map (·.hash))

/-- section (A) of `AddTx`, under `mutTxOperation`: → (pool, added, hashes of the trimmed transactions) -/
def addSection (p : Pool) (t : Tx) : Pool × Bool × List Bytes :=
  listSection (hashAdd p t).1 (hashAdd p t).2 t

/-- section (A') of `AddTx`, after the unlock -/
def dropSection (p : Pool) (hs : List Bytes) : Pool := removeBulk p hs

theorem addTxCore_eq_sections (p : Pool) (t : Tx) :
    addTxCore Variant.current p t = (dropSection (addSection p t).1 (addSection p t).2.2, (addSection p t).2.1) := by
  rw [addTxCore_eq]
  unfold addSection listSection dropSection listAdd
  dsimp only
  cases insertTx t (fetchList (hashAdd p t).1 t.sender).2 <;> rfl

/-! ### 2. the interleaving system -/

/-- the two indexes, and one entry per `AddTx` call that has done (A) but not yet (A'): the hashes it will remove -/
structure Conf where
  pool : Pool
  pending : List (List Bytes)

inductive Step where
  | add (t : Tx)                 -- (A) of a new `AddTx` call
  | drop (i : Nat)               -- (A') of the in-flight call number `i`
  | rm (h : Bytes)               -- (R)
  | clear                        -- (C)
  | evictPass (victims : List Tx) -- (E), for an ARBITRARY (possibly stale) victim list
  deriving DecidableEq

def Conf.step (c : Conf) : Step → Conf
  | .add t => ⟨(addSection c.pool t).1, c.pending ++ [(addSection c.pool t).2.2]⟩
  | .drop i =>
    match c.pending[i]? with
    | none => c
    | some hs => ⟨dropSection c.pool hs, c.pending.eraseIdx i⟩
  | .rm h => ⟨(removeTxByHash c.pool h).1, c.pending⟩
  | .clear => ⟨clear Variant.current c.pool, c.pending⟩
  | .evictPass victims => ⟨applyVictims Variant.current c.pool victims, c.pending⟩

def Conf.init (cfg : Config) : Conf := ⟨Pool.init cfg, []⟩

def Conf.run (cfg : Config) (steps : List Step) : Conf := steps.foldl Conf.step (Conf.init cfg)

/-- the sequential insertion is the special case "(A) immediately followed by its (A')" of the system -/
theorem step_add_drop (c : Conf) (t : Tx) :
    ((c.step (.add t)).step (.drop c.pending.length)).pool = (addTxCore Variant.current c.pool t).1 ∧
    ((c.step (.add t)).step (.drop c.pending.length)).pending = c.pending := by
  have h1 : (c.pending ++ [(addSection c.pool t).2.2])[c.pending.length]? = some (addSection c.pool t).2.2 := by
    simp
  have h2 : (c.pending ++ [(addSection c.pool t).2.2]).eraseIdx c.pending.length = c.pending := by
    rw [List.eraseIdx_append_of_length_le (Nat.le_refl _)]
    simp
  simp only [Conf.step, h1, h2, addTxCore_eq_sections, and_self]

/-! ### 3. the invariants -/

/-- every transaction reachable by hash is held by its sender's list, or its removal from the hash index is pending
    in an in-flight `AddTx` -/
def NoOrphan (c : Conf) : Prop :=
  ∀ h x, (h, x) ∈ c.pool.byHash → (∃ l, (x.sender, l) ∈ c.pool.lists ∧ x ∈ l) ∨ h ∈ c.pending.flatten

/-- the same, on a pool and a flat list of pending hashes -/
def NoOrphanP (p : Pool) (pend : List Bytes) : Prop :=
  ∀ h x, (h, x) ∈ p.byHash → (∃ l, (x.sender, l) ∈ p.lists ∧ x ∈ l) ∨ h ∈ pend

/-- the companion invariant: each index is well formed ON ITS OWN (nothing is said about their agreement).
    * hash index: a key is the hash of its value, a hash determines its transaction (`WfTx U`), keys are distinct,
      `cntTx` and `numBytes` are truthful;
    * sender index: members are well formed and filed under their sender, senders are distinct, lists are nonce
      sorted and never empty, `cntSenders` is truthful;
    * every list is strictly sorted (nonce ↑, gas price ↓, hash ↑), hence holds no transaction — no hash — twice. -/
structure PoolOk (U : Bytes → Tx) (p : Pool) : Prop where
  hashOk : HashOk U p
  listsOk : ListsOk U p
  sorted : ListsSorted p

theorem PoolOk.hashes_nodup {U : Bytes → Tx} {p : Pool} (h : PoolOk U p) {s : Bytes} {l : List Tx}
    (hm : (s, l) ∈ p.lists) : (l.map (·.hash)).Nodup := by
  have hnd : l.Nodup := (h.sorted s l hm).nodup
  unfold List.Nodup
  rw [List.pairwise_map]
  refine List.Pairwise.imp_of_mem ?_ hnd
  intro a b ha hb hne e
  exact hne (wf_inj (h.listsOk.wfLists s l hm a ha).1 (h.listsOk.wfLists s l hm b hb).1 e)

/-- the general step on the one-sided invariant: sender `s`'s list `l` (absent: `[]`) becomes `l'` (dropped when empty);
    what enters the hash index is in `l'` or pending; what leaves `l` is pending or left the hash index -/
theorem noOrphan_set {p r : Pool} {pend pend' : List Bytes} {s : Bytes} {l l' : List Tx}
    (hwf : ∀ h t, (h, t) ∈ p.byHash → t.hash = h) (hnd : (p.lists.map (·.1)).Nodup)
    (hno : NoOrphanP p pend) (hpend : ∀ k ∈ pend, k ∈ pend')
    (hl : alookup s p.lists = some l ∨ (alookup s p.lists = none ∧ l = []))
    (hchar : ∀ s0 l0, (s0, l0) ∈ r.lists ↔ ((s0, l0) ∈ p.lists ∧ s0 ≠ s) ∨ (s0 = s ∧ l0 = l' ∧ l' ≠ []))
    (hB : ∀ k x, (k, x) ∈ r.byHash → (k, x) ∈ p.byHash ∨ (x.sender = s ∧ x ∈ l') ∨ k ∈ pend')
    (hcov : ∀ x ∈ l, x ∉ l' → x.hash ∈ pend' ∨ ∀ y, (x.hash, y) ∉ r.byHash) : NoOrphanP r pend' := by
  intro k x hx
  have listed : x.sender = s → x ∈ l' → (∃ l, (x.sender, l) ∈ r.lists ∧ x ∈ l) := by
    intro hs hxl
    exact ⟨l', (hchar _ _).mpr (Or.inr ⟨hs, rfl, List.ne_nil_of_mem hxl⟩), hxl⟩
  rcases hB k x hx with hp | ⟨hs, hxl⟩ | hk
  · rcases hno k x hp with ⟨l0, hm0, hx0⟩ | hk
    · by_cases hs : x.sender = s
      · have hl0 : l0 = l := by
          rcases hl with hl | ⟨hl, -⟩
          · have := alookup_of_mem hnd hm0
            rw [hs, hl] at this
            exact (Option.some.inj this).symm
          · rw [hs] at hm0; exact absurd (List.mem_map_of_mem (f := Prod.fst) hm0) (alookup_none_iff.mp hl)
        subst hl0
        by_cases hxl : x ∈ l'
        · exact Or.inl (listed hs hxl)
        · rcases hcov x hx0 hxl with h' | h'
          · right; rw [← hwf k x hp]; exact h'
          · exact absurd (by rw [hwf k x hp]; exact hx) (h' x)
      · exact Or.inl ⟨l0, (hchar _ _).mpr (Or.inl ⟨hm0, hs⟩), hx0⟩
    · exact Or.inr (hpend k hk)
  · exact Or.inl (listed hs hxl)
  · exact Or.inr hk

/-- hashes leave the hash index (the lists stay): fine as long as what was pending is removed or still pending -/
theorem removeBulk_ok {U : Bytes → Tx} {p : Pool} {pend pend' : List Bytes} (hs : List Bytes) (hP : PoolOk U p)
    (hno : NoOrphanP p pend) (hpend : ∀ k ∈ pend, k ∈ hs ∨ k ∈ pend') :
    PoolOk U (removeBulk p hs) ∧ NoOrphanP (removeBulk p hs) pend' := by
  refine ⟨⟨hP.hashOk.removeBulk hs, hP.listsOk.of_eq (by simp) (by simp), ?_⟩, ?_⟩
  · intro s l hm
    rw [removeBulk_lists] at hm
    exact hP.sorted s l hm
  · intro k x hx
    rw [mem_removeBulk] at hx
    rcases hno k x hx.1 with ⟨l, hm, hxl⟩ | hk
    · exact Or.inl ⟨l, by rw [removeBulk_lists]; exact hm, hxl⟩
    · rcases hpend k hk with h' | h'
      · exact absurd h' hx.2
      · exact Or.inr h'

/-- the shrinking step of (R) and (E): `l` is cut down to a sub-list `l'`, the hashes of what was cut leave the index -/
theorem shrink_ok {U : Bytes → Tx} {p q0 : Pool} {pend : List Bytes} {s : Bytes} {l l' : List Tx} (hs : List Bytes)
    (hP : PoolOk U p) (hno : NoOrphanP p pend) (hl : alookup s p.lists = some l) (hsub : l'.Sublist l)
    (hcov : ∀ x ∈ l, x ∉ l' → x.hash ∈ hs)
    (e1 : q0.lists = aset s l' p.lists) (e2 : q0.cntSenders = p.cntSenders)
    (hH : HashOk U q0) (hB : ∀ k x, (k, x) ∈ q0.byHash → (k, x) ∈ p.byHash) :
    PoolOk U (removeBulk (removeSenderIfEmpty q0 s) hs) ∧
    NoOrphanP (removeBulk (removeSenderIfEmpty q0 s) hs) pend := by
  obtain ⟨hok, hchar⟩ := shrink_lists hP.listsOk hl hsub e1 e2 hs
  have hH' : HashOk U (removeBulk (removeSenderIfEmpty q0 s) hs) :=
    (hH.of_eq (q := removeSenderIfEmpty q0 s) (by simp) (by simp) (by simp)).removeBulk hs
  refine ⟨⟨hH', hok, ?_⟩, ?_⟩
  · intro s0 l0 hm
    rcases (hchar s0 l0).mp hm with ⟨hm', -⟩ | ⟨rfl, rfl, -⟩
    · exact hP.sorted s0 l0 hm'
    · exact (hP.sorted s0 l (mem_of_alookup hl)).sublist hsub
  · refine noOrphan_set (fun h t hm => (hP.hashOk.wfHash h t hm).1) hP.listsOk.sendersNodup hno (fun k hk => hk)
      (Or.inl hl) hchar ?_ ?_
    · intro k x hx
      rw [mem_removeBulk, removeSenderIfEmpty_byHash] at hx
      exact Or.inl (hB k x hx.1)
    · intro x hx hxl
      right
      intro y hy
      rw [mem_removeBulk] at hy
      exact hy.2 (hcov x hx hxl)

theorem rm_ok {U : Bytes → Tx} {p : Pool} {pend : List Bytes} (hsh : Bytes) (hP : PoolOk U p) (hno : NoOrphanP p pend) :
    PoolOk U (removeTxByHash p hsh).1 ∧ NoOrphanP (removeTxByHash p hsh).1 pend := by
  cases hm : alookup hsh p.byHash with
  | none => rw [removeTxByHash_none hm]; exact ⟨hP, hno⟩
  | some t =>
    have hH1 : HashOk U (byHashRemove p hsh) := hP.hashOk.byHashRemove hsh
    have hB1 : ∀ k x, (k, x) ∈ (byHashRemove p hsh).byHash → (k, x) ∈ p.byHash :=
      fun k x hx => (mem_byHashRemove.mp hx).1
    cases hl : alookup t.sender p.lists with
    | none =>
      rw [removeTxByHash_unlisted hm hl]
      refine ⟨⟨hH1, hP.listsOk.of_eq (by simp) (by simp), ?_⟩, ?_⟩
      · intro s l hm'
        rw [byHashRemove_lists] at hm'
        exact hP.sorted s l hm'
      · intro k x hx
        rcases hno k x (hB1 k x hx) with ⟨l, hm', hxl⟩ | hk
        · exact Or.inl ⟨l, by rw [byHashRemove_lists]; exact hm', hxl⟩
        · exact Or.inr hk
    | some l =>
      rw [removeTxByHash_some hm hl]
      dsimp only
      refine shrink_ok
        (q0 := { byHashRemove p hsh with lists := aset t.sender (dropLowerOrEqual t.nonce l) p.lists })
        _ hP hno hl (dropLowerOrEqual_sublist _ l) ?_ rfl (by simp) (hH1.of_eq rfl rfl rfl) hB1
      intro x hx hn
      rw [(dropLowerOrEqual_suffix t.nonce l).1] at hx
      exact List.mem_map_of_mem ((List.mem_append.mp hx).resolve_right hn)

/-! #### (E): a pass over any victim list keeps both invariants -/

theorem applyThreshold_ok {U : Bytes → Tx} {p : Pool} {pend : List Bytes} (sn : Bytes × Nat) (hP : PoolOk U p)
    (hno : NoOrphanP p pend) :
    PoolOk U (applyThreshold Variant.current p sn) ∧ NoOrphanP (applyThreshold Variant.current p sn) pend := by
  cases hl : alookup sn.1 p.lists with
  | none => rw [applyThreshold_none hl]; exact ⟨hP, hno⟩
  | some l =>
    rw [applyThreshold_some hl, if_neg (by decide)]
    refine shrink_ok (q0 := { p with lists := aset sn.1 (keepLower sn.2 l) p.lists })
      _ hP hno hl (keepLower_sublist _ l) ?_ rfl rfl (hP.hashOk.of_eq rfl rfl rfl) (fun k x hx => hx)
    intro x hx hn
    rw [(keepLower_prefix_all sn.2 l).1] at hx
    exact List.mem_map_of_mem ((List.mem_append.mp hx).resolve_left hn)

theorem foldThreshold_ok {U : Bytes → Tx} {pend : List Bytes} (ths : List (Bytes × Nat)) : ∀ (p : Pool), PoolOk U p →
    NoOrphanP p pend →
    PoolOk U (ths.foldl (applyThreshold Variant.current) p) ∧
    NoOrphanP (ths.foldl (applyThreshold Variant.current) p) pend := by
  induction ths with
  | nil => intro p hP hno; exact ⟨hP, hno⟩
  | cons sn ths ih =>
    intro p hP hno
    obtain ⟨h1, h2⟩ := applyThreshold_ok sn hP hno
    exact ih _ h1 h2

/-- one eviction pass over an ARBITRARY victim list (nothing is assumed about the victims: not pooled, not well formed,
    not ordered) -/
theorem evictPass_ok {U : Bytes → Tx} {p : Pool} {pend : List Bytes} (victims : List Tx) (hP : PoolOk U p)
    (hno : NoOrphanP p pend) :
    PoolOk U (applyVictims Variant.current p victims) ∧ NoOrphanP (applyVictims Variant.current p victims) pend := by
  unfold applyVictims
  dsimp only
  obtain ⟨h1, h2⟩ := foldThreshold_ok (thresholds victims) p hP hno
  exact removeBulk_ok _ h1 h2 (fun k hk => Or.inr hk)

/-! #### (A) keeps both invariants, the returned hashes becoming pending -/

theorem hashAdd_spec {U : Bytes → Tx} {p : Pool} {t : Tx} (hH : HashOk U p) (ht : WfTx U t) :
    HashOk U (hashAdd p t).1 ∧ (hashAdd p t).1.lists = p.lists ∧ (hashAdd p t).1.cntSenders = p.cntSenders ∧
    ∀ k x, (k, x) ∈ (hashAdd p t).1.byHash → (k, x) ∈ p.byHash ∨ (k = t.hash ∧ x = t) := by
  unfold hashAdd
  split
  · exact ⟨hH, rfl, rfl, fun k x h => Or.inl h⟩
  · next hn =>
    refine ⟨hashOk_append hH ht hn rfl rfl rfl, rfl, rfl, ?_⟩
    intro k x hx
    rcases List.mem_append.mp hx with hx | hx
    · exact Or.inl hx
    · simp only [List.mem_singleton, Prod.mk.injEq] at hx
      exact Or.inr hx

theorem listSection_hashPart (p : Pool) (a : Bool) (t : Tx) :
    (listSection p a t).1.byHash = p.byHash ∧ (listSection p a t).1.cntTx = p.cntTx ∧
    (listSection p a t).1.numBytes = p.numBytes := by
  unfold listSection
  dsimp only
  cases insertTx t (fetchList p t.sender).2 <;> simp [fetchList_hashPart]

/-- insertion of a transaction that is not yet in the list `l` of its sender (absent: `[]`); of the result the front
    `m` is kept, the rest `d` is trimmed -/
theorem insert_trim {U : Bytes → Tx} {p q0 : Pool} {t : Tx} {l m d : List Tx} (hL : ListsOk U p)
    (hso : ListsSorted p) (ht : WfTx U t)
    (hl : alookup t.sender p.lists = some l ∨ (alookup t.sender p.lists = none ∧ l = []))
    (hnd : ¬ ∃ c ∈ l, c.nonce = t.nonce ∧ c.gasPrice = t.gasPrice ∧ c.hash = t.hash)
    (happ : m ++ d = orderedInsert t l) (e1 : q0.lists = aset t.sender m p.lists)
    (e2 : q0.cntSenders = ((aset t.sender m p.lists).length : Int)) :
    (∀ x ∈ l, x ∈ m ∨ x.hash ∈ d.map (·.hash)) ∧ (t ∈ m ∨ t.hash ∈ d.map (·.hash)) ∧
    ListsOk U (removeSenderIfEmpty q0 t.sender) ∧ ListsSorted (removeSenderIfEmpty q0 t.sender) ∧
    ∀ s0 l0, (s0, l0) ∈ (removeSenderIfEmpty q0 t.sender).lists ↔
      ((s0, l0) ∈ p.lists ∧ s0 ≠ t.sender) ∨ (s0 = t.sender ∧ l0 = m ∧ m ≠ []) := by
  have hsub : m.Sublist (orderedInsert t l) := happ ▸ List.sublist_append_left m d
  have hsplit : ∀ x ∈ orderedInsert t l, x ∈ m ∨ x.hash ∈ d.map (·.hash) := by
    intro x hx
    rw [← happ] at hx
    exact (List.mem_append.mp hx).imp_right (List.mem_map_of_mem (f := Tx.hash))
  have hwf : ∀ x ∈ m, WfTx U x ∧ x.sender = t.sender := by
    intro x hx
    rcases (mem_orderedInsert t x l).mp (hsub.subset hx) with rfl | hx
    · exact ⟨ht, rfl⟩
    · exact hL.wfLists _ _ (mem_of_fetched hl hx) x hx
  have hsorted : ListSorted m := (orderedInsert_sorted t l (sorted_of_fetched hso hl) hnd).sublist hsub
  obtain ⟨hok, hchar⟩ := lists_set hL hwf hsorted.nonceSorted e1 e2
  refine ⟨fun x hx => hsplit x ((mem_orderedInsert t x l).mpr (Or.inr hx)),
    hsplit t ((mem_orderedInsert t t l).mpr (Or.inl rfl)), hok, ?_, hchar⟩
  intro s0 l0 hm
  rcases (hchar s0 l0).mp hm with ⟨hm', -⟩ | ⟨rfl, rfl, -⟩
  · exact hso s0 l0 hm'
  · exact hsorted

/-- the list part of (A): the sender's list `l` (absent: `[]`) becomes `l'`; every member of `l`, and `t` itself, is in
    `l'` or among the returned hashes -/
theorem listSection_spec {U : Bytes → Tx} {p : Pool} {t : Tx} (a : Bool) (hL : ListsOk U p) (hso : ListsSorted p)
    (ht : WfTx U t) :
    ∃ l l', (alookup t.sender p.lists = some l ∨ (alookup t.sender p.lists = none ∧ l = [])) ∧
      (∀ x ∈ l, x ∈ l' ∨ x.hash ∈ (listSection p a t).2.2) ∧
      (t ∈ l' ∨ t.hash ∈ (listSection p a t).2.2) ∧
      ListsOk U (listSection p a t).1 ∧ ListsSorted (listSection p a t).1 ∧
      ∀ s0 l0, (s0, l0) ∈ (listSection p a t).1.lists ↔
        ((s0, l0) ∈ p.lists ∧ s0 ≠ t.sender) ∨ (s0 = t.sender ∧ l0 = l' ∧ l' ≠ []) := by
  obtain ⟨l, hl, hf, hsame, hcfg, hset⟩ := fetchList_spec hL t.sender
  have hins := insertTx_eq_orderedInsert t l (sorted_of_fetched hso hl)
  by_cases hd : ∃ c ∈ l, c.nonce = t.nonce ∧ c.gasPrice = t.gasPrice ∧ c.hash = t.hash
  · -- the transaction is already in the list: nothing changes
    obtain ⟨c, hc, -, -, hch⟩ := id hd
    have hlk : alookup t.sender p.lists = some l := hl.resolve_right fun h => List.ne_nil_of_mem hc h.2
    have hml := mem_of_alookup hlk
    have heq : listSection p a t = (p, a, []) := by
      simp only [listSection, hf, hins, if_pos hd, hsame (List.ne_nil_of_mem hc)]
    rw [heq]
    have htl : t ∈ l := wf_inj (hL.wfLists _ _ hml c hc).1 ht hch ▸ hc
    refine ⟨l, l, hl, fun x hx => Or.inl hx, Or.inl htl, hL, hso, fun s0 l0 => ⟨fun hm => ?_, ?_⟩⟩
    · by_cases hs : s0 = t.sender
      · subst hs
        exact Or.inr ⟨rfl, Option.some.inj ((alookup_of_mem hL.sendersNodup hm).symm.trans hlk), List.ne_nil_of_mem htl⟩
      · exact Or.inl ⟨hm, hs⟩
    · rintro (⟨hm, -⟩ | ⟨rfl, rfl, -⟩)
      · exact hm
      · exact hml
  · have heq : listSection p a t =
        (removeSenderIfEmpty { (fetchList p t.sender).1 with
            lists := aset t.sender (trim1 p.cfg (orderedInsert t l)).1 (fetchList p t.sender).1.lists } t.sender,
         true, (trim1 p.cfg (orderedInsert t l)).2.map (·.hash)) := by
      simp only [listSection, hf, hins, if_neg hd, hcfg]
    rw [heq]
    exact ⟨l, _, hl, insert_trim hL hso ht hl hd (trim1_append p.cfg _) (hset _).1 (hset _).2⟩

theorem add_ok {U : Bytes → Tx} {p : Pool} {pend : List Bytes} {t : Tx} (hP : PoolOk U p) (hno : NoOrphanP p pend)
    (ht : WfTx U t) :
    PoolOk U (addSection p t).1 ∧ NoOrphanP (addSection p t).1 (pend ++ (addSection p t).2.2) := by
  obtain ⟨hH, el, ec, hmem⟩ := hashAdd_spec hP.hashOk ht
  have hL : ListsOk U (hashAdd p t).1 := hP.listsOk.of_eq el ec
  have hso : ListsSorted (hashAdd p t).1 := by
    intro s l hm
    rw [el] at hm
    exact hP.sorted s l hm
  obtain ⟨l, l', hl, hcov, htl, hLr, hsor, hchar⟩ := listSection_spec (hashAdd p t).2 hL hso ht
  obtain ⟨eb, ect, enb⟩ := listSection_hashPart (hashAdd p t).1 (hashAdd p t).2 t
  unfold addSection
  refine ⟨⟨hH.of_eq eb ect enb, hLr, hsor⟩, ?_⟩
  rw [el] at hl hchar
  refine noOrphan_set (fun h x hm => (hP.hashOk.wfHash h x hm).1) hP.listsOk.sendersNodup hno
    (fun k hk => List.mem_append_left _ hk) hl hchar ?_ ?_
  · intro k x hx
    rw [eb] at hx
    rcases hmem k x hx with hx | ⟨rfl, rfl⟩
    · exact Or.inl hx
    · rcases htl with h' | h'
      · exact Or.inr (Or.inl ⟨rfl, h'⟩)
      · exact Or.inr (Or.inr (List.mem_append_right _ h'))
  · intro x hx hxl
    rcases hcov x hx with h' | h'
    · exact absurd h' hxl
    · exact Or.inl (List.mem_append_right _ h')

/-! #### the system -/

def WfConf (U : Bytes → Tx) (c : Conf) : Prop := PoolOk U c.pool

theorem noOrphan_iff (c : Conf) : NoOrphan c ↔ NoOrphanP c.pool c.pending.flatten := Iff.rfl

theorem empty_ok (U : Bytes → Tx) (cfg : Config) (pend : List Bytes) :
    PoolOk U (Pool.init cfg) ∧ NoOrphanP (Pool.init cfg) pend :=
  ⟨⟨hashOk_of_inv (Inv.init U cfg), listsOk_of_inv (Inv.init U cfg), ListsSorted.init cfg⟩,
    fun _ _ hx => nomatch hx⟩

theorem init_ok (U : Bytes → Tx) (cfg : Config) : WfConf U (Conf.init cfg) ∧ NoOrphan (Conf.init cfg) :=
  empty_ok U cfg _

theorem step_ok {U : Bytes → Tx} {c : Conf} (st : Step) (hw : ∀ t, st = Step.add t → WfTx U t)
    (hP : WfConf U c) (hno : NoOrphan c) : WfConf U (c.step st) ∧ NoOrphan (c.step st) := by
  unfold WfConf at hP ⊢
  rw [noOrphan_iff] at hno ⊢
  cases st with
  | add t =>
    have := add_ok hP hno (hw t rfl)
    simpa [Conf.step, List.flatten_append] using this
  | drop i =>
    simp only [Conf.step]
    split
    · exact ⟨hP, hno⟩
    · next hs hi =>
      refine removeBulk_ok hs hP hno ?_
      intro k hk
      by_cases hkh : k ∈ hs
      · exact Or.inl hkh
      · right
        obtain ⟨e, he, hke⟩ := List.mem_flatten.mp hk
        refine List.mem_flatten.mpr ⟨e, ?_, hke⟩
        obtain ⟨j, hj, hje⟩ := List.getElem_of_mem he
        refine List.mem_eraseIdx_iff_getElem.mpr ⟨j, hj, ?_, hje⟩
        intro hji
        subst hji
        rw [List.getElem?_eq_getElem hj] at hi
        simp only [Option.some.injEq] at hi
        rw [hi] at hje
        subst hje
        exact hkh hke
  | rm h => exact rm_ok h hP hno
  | clear => exact empty_ok U c.pool.cfg _   -- `clear` returns the empty pool of the same configuration
  | evictPass victims => exact evictPass_ok victims hP hno

theorem steps_ok {U : Bytes → Tx} (steps : List Step) : ∀ (c : Conf), (∀ t, Step.add t ∈ steps → WfTx U t) →
    WfConf U c → NoOrphan c → WfConf U (steps.foldl Conf.step c) ∧ NoOrphan (steps.foldl Conf.step c) := by
  induction steps with
  | nil => intro c _ hP hno; exact ⟨hP, hno⟩
  | cons st steps ih =>
    intro c hw hP hno
    rw [List.foldl_cons]
    obtain ⟨h1, h2⟩ := step_ok st (fun t e => hw t (by rw [e]; exact List.mem_cons_self ..)) hP hno
    exact ih _ (fun t ht => hw t (List.mem_cons_of_mem _ ht)) h1 h2

theorem wfConf_run (U : Bytes → Tx) (cfg : Config) (steps : List Step) (hw : ∀ t, Step.add t ∈ steps → WfTx U t) :
    WfConf U (Conf.run cfg steps) :=
  (steps_ok steps _ hw (init_ok U cfg).1 (init_ok U cfg).2).1

/-- C14 at section granularity: after EVERY interleaving of the critical sections of any number of concurrent `AddTx`,
    `RemoveTxByHash`, `Clear` and eviction passes (over arbitrary, possibly stale, victim lists), every transaction
    reachable by hash is held by its sender's list or its removal from the hash index is pending -/
theorem noOrphan_run (U : Bytes → Tx) (cfg : Config) (steps : List Step) (hw : ∀ t, Step.add t ∈ steps → WfTx U t) :
    NoOrphan (Conf.run cfg steps) :=
  (steps_ok steps _ hw (init_ok U cfg).1 (init_ok U cfg).2).2

/-- at quiescence (no `AddTx` in flight) nothing reachable by hash is unselectable / unevictable -/
theorem quiescent_no_orphan (U : Bytes → Tx) (cfg : Config) (steps : List Step)
    (hw : ∀ t, Step.add t ∈ steps → WfTx U t) (hq : (Conf.run cfg steps).pending = []) :
    ∀ h x, (h, x) ∈ (Conf.run cfg steps).pool.byHash →
      ∃ l, (x.sender, l) ∈ (Conf.run cfg steps).pool.lists ∧ x ∈ l := by
  intro h x hx
  rcases noOrphan_run U cfg steps hw h x hx with h' | h'
  · exact h'
  · rw [hq] at h'
    simp at h'

/-- the same in terms of the map look-ups of the code: `GetByTxHash` finds `x` ⇒ the list fetched for `x`'s sender holds `x` -/
theorem quiescent_lookup (U : Bytes → Tx) (cfg : Config) (steps : List Step)
    (hw : ∀ t, Step.add t ∈ steps → WfTx U t) (hq : (Conf.run cfg steps).pending = []) (h : Bytes) (x : Tx)
    (hx : alookup h (Conf.run cfg steps).pool.byHash = some x) :
    x.hash = h ∧ ∃ l, alookup x.sender (Conf.run cfg steps).pool.lists = some l ∧ x ∈ l := by
  have hP := wfConf_run U cfg steps hw
  have hm := mem_of_alookup hx
  obtain ⟨l, hml, hxl⟩ := quiescent_no_orphan U cfg steps hw hq h x hm
  exact ⟨(hP.hashOk.wfHash h x hm).1, l, alookup_of_mem hP.listsOk.sendersNodup hml, hxl⟩

/-! ### 4. the invariant is one-sided: `Inv`'s two-sided agreement fails at section granularity -/

namespace Ex

def cfg : Config := ⟨false, 100000, 100000, 100, 1, 1⟩      -- one transaction per sender
def x : Tx := ⟨[1], [0xa0], 1, 5, 1, 10, 10, 0, []⟩
def y : Tx := ⟨[2], [0xa0], 2, 5, 1, 10, 10, 0, []⟩
def w : Tx := ⟨[3], [0xb0], 1, 5, 1, 10, 10, 0, []⟩
def q : Tx := ⟨[4], [0xc0], 7, 5, 1, 10, 10, 0, []⟩           -- never added
def U (h : Bytes) : Tx := if h = [1] then x else if h = [2] then y else if h = [3] then w else q

theorem wf_x : WfTx U x := by unfold WfTx; decide
theorem wf_y : WfTx U y := by unfold WfTx; decide
theorem wf_w : WfTx U w := by unfold WfTx; decide

/-- the first `add y` files `y` behind `x` and trims it at once (its hash stays indexed, the removal is pending, entry 1
    of `pending`); `x` is removed; the second `add y`: the hash index refuses it ("already there"), the list takes it;
    now the first `add y` performs its pending removal (`drop 1`): `y` is LISTED BUT NOT HASHED — the "slight
    inconsistency" of the source comment.
    (Five steps: for `y` to be trimmed by its first insertion but not by its second, with the same limits, the list
    must hold something else at the first insertion only — one step to add it, one to remove it.) -/
def twoSided : List Step := [.add x, .add y, .rm x.hash, .add y, .drop 1]

theorem twoSided_wf : ∀ t, Step.add t ∈ twoSided → WfTx U t := by
  intro t ht
  simp only [twoSided, List.mem_cons, Step.add.injEq, List.not_mem_nil, or_false, reduceCtorEq, false_or] at ht
  rcases ht with rfl | rfl | rfl
  · exact wf_x
  · exact wf_y
  · exact wf_y

end Ex

/-- `y` ends up listed but not hashed (and stays so at quiescence, after the other calls have done their empty (A')):
    the two-sided agreement `Inv.same` of the sequential model is NOT an invariant of the concurrent system -/
theorem two_sided_fails :
    (Conf.run Ex.cfg Ex.twoSided).pool.lists = [([0xa0], [Ex.y])] ∧
    alookup Ex.y.hash (Conf.run Ex.cfg Ex.twoSided).pool.byHash = none ∧
    (Conf.run Ex.cfg (Ex.twoSided ++ [.drop 0, .drop 0])).pending = [] ∧
    (Conf.run Ex.cfg (Ex.twoSided ++ [.drop 0, .drop 0])).pool.lists = [([0xa0], [Ex.y])] ∧
    (Conf.run Ex.cfg (Ex.twoSided ++ [.drop 0, .drop 0])).pool.byHash = [] := by decide +kernel

theorem two_sided_fails_inv : ¬ Inv Ex.U (Conf.run Ex.cfg Ex.twoSided).pool := by
  intro hI
  obtain ⟨hl, hb, -⟩ := two_sided_fails
  have hm := (hI.same Ex.y).mpr ⟨[0xa0], [Ex.y], by rw [hl]; exact List.mem_singleton.mpr rfl, List.mem_singleton.mpr rfl⟩
  rw [alookup_of_mem hI.keysNodup hm] at hb
  cases hb

/-- …while the one-sided invariant and the companion invariant hold there, by the theorems -/
example : NoOrphan (Conf.run Ex.cfg Ex.twoSided) ∧ WfConf Ex.U (Conf.run Ex.cfg Ex.twoSided) :=
  ⟨noOrphan_run Ex.U Ex.cfg Ex.twoSided Ex.twoSided_wf, wfConf_run Ex.U Ex.cfg Ex.twoSided Ex.twoSided_wf⟩

/-! ### 5. non-vacuity: an eviction pass over a stale victim list, with a removal pending -/

namespace Ex

/-- `y` is trimmed by its own `AddTx` (removal pending); the eviction pass works on a STALE snapshot: `y` (no longer
    listed), `w` (pooled) and `q` (never pooled) -/
def stale : List Step := [.add x, .add w, .add y, .evictPass [y, w, q]]

theorem stale_wf : ∀ t, Step.add t ∈ stale → WfTx U t := by
  intro t ht
  simp only [stale, List.mem_cons, Step.add.injEq, List.not_mem_nil, or_false, reduceCtorEq] at ht
  rcases ht with rfl | rfl | rfl
  · exact wf_x
  · exact wf_w
  · exact wf_y

/-- …followed by the pending (A') sections -/
def staleQ : List Step := [.add x, .add w, .add y, .evictPass [y, w, q], .drop 2, .drop 7, .drop 0, .drop 0]

theorem staleQ_wf : ∀ t, Step.add t ∈ staleQ → WfTx U t := by
  intro t ht
  have ht' : Step.add t ∈ stale ++ [.drop 2, .drop 7, .drop 0, .drop 0] := ht
  exact stale_wf t ((List.mem_append.mp ht').resolve_right (by simp))

end Ex

/-- before the pass: `y` is reachable by hash, held by NO list, and its hash is pending — the second disjunct of
    `NoOrphan` is needed -/
example :
    alookup Ex.y.hash (Conf.run Ex.cfg [.add Ex.x, .add Ex.w, .add Ex.y]).pool.byHash = some Ex.y ∧
    (∀ e ∈ (Conf.run Ex.cfg [.add Ex.x, .add Ex.w, .add Ex.y]).pool.lists, Ex.y ∉ e.2) ∧
    (Conf.run Ex.cfg [.add Ex.x, .add Ex.w, .add Ex.y]).pending = [[], [], [Ex.y.hash]] := by decide +kernel

/-- after the pass over the stale victims: `w`'s list is gone, `y`'s hash is gone, `x` stays in both indexes, the
    removal of `y`'s hash is still pending; then the pending sections run and the system is quiescent -/
example :
    (Conf.run Ex.cfg Ex.stale).pool.lists = [([0xa0], [Ex.x])] ∧
    (Conf.run Ex.cfg Ex.stale).pool.byHash = [([1], Ex.x)] ∧
    (Conf.run Ex.cfg Ex.stale).pending = [[], [], [Ex.y.hash]] ∧
    (Conf.run Ex.cfg Ex.staleQ).pending = [] ∧
    (Conf.run Ex.cfg Ex.staleQ).pool.byHash = [([1], Ex.x)] := by decide +kernel

/-- the hypotheses of `noOrphan_run` are met by that run -/
example : NoOrphan (Conf.run Ex.cfg Ex.stale) := noOrphan_run Ex.U Ex.cfg Ex.stale Ex.stale_wf

/-- …and those of `quiescent_no_orphan` / `quiescent_lookup` by its quiescent continuation -/
example : Ex.x.hash = [1] ∧ ∃ l, alookup Ex.x.sender (Conf.run Ex.cfg Ex.staleQ).pool.lists = some l ∧ Ex.x ∈ l :=
  quiescent_lookup Ex.U Ex.cfg Ex.staleQ Ex.staleQ_wf (by decide) [1] Ex.x (by decide)

example : ∀ h x, (h, x) ∈ (Conf.run Ex.cfg Ex.staleQ).pool.byHash →
    ∃ l, (x.sender, l) ∈ (Conf.run Ex.cfg Ex.staleQ).pool.lists ∧ x ∈ l :=
  quiescent_no_orphan Ex.U Ex.cfg Ex.staleQ Ex.staleQ_wf (by decide)

end SV.TxCache.Sections

