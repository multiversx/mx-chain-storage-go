/-
  SV.TxCache.ReachableSize — the SIZE properties of the mempool (C06, C07) stated END-TO-END: over every pool reachable
  from the empty pool by any history of AddTx / RemoveTxByHash / Clear (`run cfg ops`, `EvictInv.lean`) and for every configuration
  accepted by `NewTxCache` (`GenProofs.txAccepted`, the translated `ConfigSourceMe.verify`).  The single-step statements
  of `SV/Props/C06.lean`, `C07.lean` carry the hypotheses `Inv U p`, `ListsSorted p`, `ListsInv p`, `1 ≤ numItemsToEvict`;
  here they are discharged: the only hypotheses left are on the INPUTS (accepted configuration, a hash determines its
  transaction), and where even those are not needed they are dropped (`reachable_listsInv_anyConfig` in `EvictInv.lean`,
  `reachable_no_pool_wide_drop_when_disabled`, `reachable_eviction_cuts_nonce_suffixes`).

  What the end-to-end statements show about the hypotheses:
  * `ListsInv` (strict sortedness + per-sender count bound) needs NOTHING of the configuration, not even
    `1 ≤ countPerSender`: with limit 0 the inserted transaction is trimmed away again (`reachable_listsInv_anyConfig`);
    it does not need well-formed inputs either.
  * The disjunction "within thresholds OR empty" of `evict_post` collapses under `Inv` (`evict_within`, `EvictPost.lean`):
    an empty pool reports zero counters (C05), hence is within the thresholds too; on reachable pools this is
    `reachable_within_thresholds_after_eviction`.
  * `1 ≤ numItemsToEvict` (guaranteed by the constructor's validity test) IS needed for the eviction post-condition and
    for the bound after an insertion: `SizeEx.bounds_need_positive_batch` is a concrete history with a batch size of 0.
-/
import SV.TxCache.ReachableProofs
import SV.GenProofs.Config
namespace SV.TxCache
open C5 (wf_inj)

theorem reachable_cfg (cfg : Config) (ops : List Op) : (run cfg ops).cfg = cfg :=
  List.foldlRecOn (motive := fun p => p.cfg = cfg) ops applyOp rfl fun p hp op _ => (cfg_applyOp p op).trans hp

/-! ### per-sender lists: strictly sorted, at most `countPerSender` transactions -/

/-- C06/C04: for every accepted configuration, every sender's list of every reachable pool is strictly sorted and holds
    at most `countPerSender` transactions.  (Neither hypothesis is used: see `reachable_listsInv_anyConfig`.) -/
theorem reachable_listsInv (U : Bytes → Tx) (cfg : Config) (ops : List Op) (nameLen numChunks : Nat)
    (hacc : GenProofs.txAccepted cfg nameLen numChunks = true) (hw : ∀ t, Op.add t ∈ ops → WfTx U t) :
    ListsInv (run cfg ops) := by
  have _ := hacc; have _ := hw
  exact reachable_listsInv_anyConfig cfg ops

/-- (spelled out against the creation-time configuration) on a reachable pool of an accepted configuration each
    registered sender holds between 1 and `cfg.countPerSender` transactions (the limit itself is at least 1), strictly
    sorted by (nonce ↑, gas price ↓, hash ↑), all of them its own -/
theorem reachable_sender_lists (U : Bytes → Tx) (cfg : Config) (ops : List Op) (nameLen numChunks : Nat)
    (hacc : GenProofs.txAccepted cfg nameLen numChunks = true) (hw : ∀ t, Op.add t ∈ ops → WfTx U t)
    (s : Bytes) (l : List Tx) (hm : (s, l) ∈ (run cfg ops).lists) :
    ListSorted l ∧ 1 ≤ l.length ∧ l.length ≤ cfg.countPerSender ∧ 1 ≤ cfg.countPerSender ∧ ∀ t ∈ l, t.sender = s := by
  have hi := reachable_listsInv_anyConfig cfg ops
  have hI : Inv U (run cfg ops) := Inv.reachable U cfg ops hw
  have hb := GenProofs.txAccepted_bounds cfg nameLen numChunks hacc
  have hc := hi.count s l hm
  rw [reachable_cfg] at hc
  refine ⟨hi.sorted s l hm, ?_, hc, hb.2.2.2.2.2.1, fun t ht => (hI.wfLists s l hm t ht).2⟩
  have := hI.nonEmpty s l hm
  cases l with
  | nil => exact absurd rfl this
  | cons a r => simp

/-! ### C06: pool-wide bounds after every insertion of every history -/

/-- C06: eviction enabled, accepted configuration: after the insertion of ANY transaction into ANY
    reachable pool the counters exceed the pool-wide thresholds by at most the transaction just added -/
theorem reachable_pool_bounds_after_every_add (U : Bytes → Tx) (cfg : Config) (ops : List Op) (nameLen numChunks : Nat)
    (hacc : GenProofs.txAccepted cfg nameLen numChunks = true) (hw : ∀ t, Op.add t ∈ ops → WfTx U t)
    (he : cfg.evictionEnabled = true) (t : Tx) :
    let p' := (addTx Variant.current (run cfg ops) t).1
    p'.cntTx ≤ (cfg.countThreshold : Int) + 1 ∧ p'.cntSenders ≤ (cfg.countThreshold : Int) + 1 ∧
    p'.numBytes ≤ (cfg.numBytesThreshold : Int) + (t.size : Int) := by
  have hb := GenProofs.txAccepted_bounds cfg nameLen numChunks hacc
  have hcfg := reachable_cfg cfg ops
  have h := addTx_pool_bounds U (run cfg ops) t (Inv.reachable U cfg ops hw)
    (by rw [hcfg]; exact he) (by rw [hcfg]; exact hb.2.2.2.2.2.2.2.2.2)
  rw [hcfg] at h
  exact h

/-- (as a statement about the history itself) at EVERY insertion point of EVERY well-formed history the pool right
    after that insertion is within `threshold + the transaction just added`, as reported by the (clamped, unsigned)
    counters `CountTx`, `CountSenders`, `NumBytes` as well -/
theorem reachable_pool_bounds_at_every_add_of_history (U : Bytes → Tx) (cfg : Config) (ops : List Op)
    (nameLen numChunks : Nat) (hacc : GenProofs.txAccepted cfg nameLen numChunks = true)
    (hw : ∀ t, Op.add t ∈ ops → WfTx U t) (he : cfg.evictionEnabled = true)
    (pre post : List Op) (t : Tx) (hsplit : ops = pre ++ Op.add t :: post) :
    let p' := run cfg (pre ++ [Op.add t])
    clampNat p'.cntTx ≤ cfg.countThreshold + 1 ∧ clampNat p'.cntSenders ≤ cfg.countThreshold + 1 ∧
    clampNat p'.numBytes ≤ cfg.numBytesThreshold + t.size := by
  intro p'
  have hwpre : ∀ x, Op.add x ∈ pre → WfTx U x := fun x hx => hw x (by rw [hsplit]; exact List.mem_append_left _ hx)
  have hp' : p' = (addTx Variant.current (run cfg pre) t).1 := run_snoc cfg pre (Op.add t)
  obtain ⟨h1, h2, h3⟩ := reachable_pool_bounds_after_every_add U cfg pre nameLen numChunks hacc hwpre he t
  rw [← hp'] at h1 h2 h3
  exact ⟨Int.toNat_le.mpr h1, Int.toNat_le.mpr h2, Int.toNat_le.mpr h3⟩

/-- (full strength) C06: on a reachable pool of an accepted configuration eviction ends within the three thresholds -/
theorem reachable_within_thresholds_after_eviction (U : Bytes → Tx) (cfg : Config) (ops : List Op) (nameLen numChunks : Nat)
    (hacc : GenProofs.txAccepted cfg nameLen numChunks = true) (hw : ∀ t, Op.add t ∈ ops → WfTx U t) :
    let q := evict Variant.current (run cfg ops)
    q.exceeded = false ∧ q.cntTx ≤ (cfg.countThreshold : Int) ∧ q.cntSenders ≤ (cfg.countThreshold : Int) ∧
    q.numBytes ≤ (cfg.numBytesThreshold : Int) := by
  intro q
  have hb := GenProofs.txAccepted_bounds cfg nameLen numChunks hacc
  have hcfg := reachable_cfg cfg ops
  have hex : q.exceeded = false :=
    evict_within U _ (Inv.reachable U cfg ops hw) (by rw [hcfg]; exact hb.2.2.2.2.2.2.2.2.2)
  obtain ⟨k1, k2, k3⟩ := (exceeded_eq_false_iff q).mp hex
  rw [cfg_evict, hcfg] at k1 k2 k3
  exact ⟨hex, k3, k2, k1⟩

/-- C06: whatever excess the last insertion left is gone after the next eviction (the one the next insertion starts
    with): the evicted pool is within its thresholds, or empty -/
theorem reachable_excess_gone_after_next_eviction (U : Bytes → Tx) (cfg : Config) (ops : List Op) (nameLen numChunks : Nat)
    (hacc : GenProofs.txAccepted cfg nameLen numChunks = true) (hw : ∀ t, Op.add t ∈ ops → WfTx U t) :
    (evict Variant.current (run cfg ops)).exceeded = false ∨
      ((evict Variant.current (run cfg ops)).byHash = [] ∧ (evict Variant.current (run cfg ops)).lists = []) :=
  Or.inl (reachable_within_thresholds_after_eviction U cfg ops nameLen numChunks hacc hw).1

/-! ### C06: eviction disabled -/

/-- C06: with eviction disabled an insertion into a reachable pool changes no other sender's list — nothing is ever
    dropped for pool-wide reasons.  Holds for every configuration and every history (no well-formedness needed). -/
theorem reachable_no_pool_wide_drop_when_disabled (cfg : Config) (ops : List Op) (he : cfg.evictionEnabled = false)
    (t : Tx) (s : Bytes) (hs : s ≠ t.sender) :
    alookup s (addTx Variant.current (run cfg ops) t).1.lists = alookup s (run cfg ops).lists :=
  evict_not_called_when_disabled (run cfg ops) t (by rw [reachable_cfg]; exact he) s hs

/-- (corollary) with eviction disabled an insertion makes no transaction of another sender unreachable by hash either
    (both indexes keep everything that does not belong to the inserting sender) -/
theorem reachable_no_pool_wide_drop_when_disabled_byHash (U : Bytes → Tx) (cfg : Config) (ops : List Op)
    (hw : ∀ t, Op.add t ∈ ops → WfTx U t) (he : cfg.evictionEnabled = false) (t : Tx) (ht : WfTx U t)
    (x : Tx) (hx : alookup x.hash (run cfg ops).byHash = some x) (hs : x.sender ≠ t.sender) :
    alookup x.hash (addTx Variant.current (run cfg ops) t).1.byHash = some x := by
  have hI : Inv U (run cfg ops) := Inv.reachable U cfg ops hw
  have hI' : Inv U (addTx Variant.current (run cfg ops) t).1 :=
    Inv.addTx U _ t hI (ListsSorted.reachable U cfg ops hw) ht
  obtain ⟨l, hl, hxl⟩ := Inv.no_ghost U _ hI x.hash x hx
  rw [← reachable_no_pool_wide_drop_when_disabled cfg ops he t x.sender hs] at hl
  exact Inv.listed_is_hashed U _ hI' x.sender l x hl hxl

/-! ### C07: what eviction removes from a reachable pool -/

/-- C07: eviction of a reachable pool leaves every surviving sender list a PREFIX of the old one, and every kept nonce
    is strictly below every cut nonce (per-sender nonce suffixes; same-nonce siblings go together).  Holds for every
    configuration and every history. -/
theorem reachable_eviction_cuts_nonce_suffixes (cfg : Config) (ops : List Op) (s : Bytes) (l' : List Tx)
    (h : (s, l') ∈ (evict Variant.current (run cfg ops)).lists) :
    ∃ l suf, (s, l) ∈ (run cfg ops).lists ∧ l = l' ++ suf ∧ ∀ a ∈ l', ∀ b ∈ suf, a.nonce < b.nonce :=
  evict_lists_prefix Variant.current (run cfg ops) (reachable_listsInv_anyConfig cfg ops) s l' h

/-- C07: nothing is evicted from a reachable pool that is within its thresholds -/
theorem reachable_eviction_noop_within_thresholds (cfg : Config) (ops : List Op) (h : (run cfg ops).exceeded = false) :
    evict Variant.current (run cfg ops) = run cfg ops :=
  evict_noop Variant.current (run cfg ops) h

/-- C07: after eviction of a reachable pool both indexes and the counters agree again (`Inv`), and a transaction of
    the pool that is no longer in any sender list is not reachable by hash either -/
theorem reachable_evicted_disappear_everywhere (U : Bytes → Tx) (cfg : Config) (ops : List Op)
    (hw : ∀ t, Op.add t ∈ ops → WfTx U t) :
    Inv U (evict Variant.current (run cfg ops)) ∧
    ∀ t, (∃ s l, (s, l) ∈ (run cfg ops).lists ∧ t ∈ l) →
      (¬ ∃ s l, (s, l) ∈ (evict Variant.current (run cfg ops)).lists ∧ t ∈ l) →
      alookup t.hash (evict Variant.current (run cfg ops)).byHash = none := by
  have hI : Inv U (run cfg ops) := Inv.reachable U cfg ops hw
  have hIq : Inv U (evict Variant.current (run cfg ops)) := Inv.evict U _ hI
  refine ⟨hIq, ?_⟩
  rintro t ⟨s, l, hm, htl⟩ hgone
  cases hx : alookup t.hash (evict Variant.current (run cfg ops)).byHash with
  | none => rfl
  | some x =>
    exfalso
    have hmem := SV.mem_of_alookup hx
    obtain ⟨hxh, hxw⟩ := hIq.wfHash _ _ hmem
    have e : x = t := wf_inj hxw (hI.wfLists s l hm t htl).1 hxh
    obtain ⟨lx, hlx, hxlx⟩ := Inv.no_ghost U _ hIq t.hash x hx
    exact hgone ⟨x.sender, lx, SV.mem_of_alookup hlx, e ▸ hxlx⟩

theorem reachable_survivors_stay_hashed (U : Bytes → Tx) (cfg : Config) (ops : List Op)
    (hw : ∀ t, Op.add t ∈ ops → WfTx U t) (s : Bytes) (l : List Tx) (t : Tx)
    (hm : (s, l) ∈ (evict Variant.current (run cfg ops)).lists) (ht : t ∈ l) :
    alookup t.hash (evict Variant.current (run cfg ops)).byHash = some t := by
  have hIq : Inv U (evict Variant.current (run cfg ops)) := Inv.evict U _ (Inv.reachable U cfg ops hw)
  exact alookup_of_mem hIq.keysNodup ((hIq.same t).mpr ⟨s, l, hm, ht⟩)

/-! ### non-vacuity: the smallest accepted configuration, a 7-operation history that triggers evictions -/

namespace SizeEx

/-- fee per gas unit = `gp`, one byte each (the smallest accepted per-sender byte limit is 1) -/
def tx (h s : UInt8) (n gp : Nat) : Tx := ⟨[h], [s], n, gp, 10, 1, 10 * gp, 0, []⟩

def t1 := tx 1 0xa1 0 5
def t2 := tx 2 0xa2 0 3
def t3 := tx 3 0xa3 0 7
def t4 := tx 4 0xa4 0 1
def t5 := tx 5 0xa5 0 4
def t6 := tx 6 0xa6 0 6
def t7 := tx 7 0xa7 0 2
def t8 := tx 8 0xa8 0 8

/-- evictionEnabled, numBytesThreshold = 4, numBytesPerSender = 1, countThreshold = 4, countPerSender = 1, numItemsToEvict = 1:
    every field at the lower bound the constructor accepts -/
def cfgMin : Config := ⟨true, 4, 1, 4, 1, 1⟩

example : GenProofs.txAccepted cfgMin 1 1 = true := by decide +kernel

/-- seven insertions by seven senders: the fifth takes the pool over the count and the byte threshold (5 > 4), the sixth
    and the seventh each start with an eviction of one transaction (the least valuable one: t4, then t2) -/
def history : List Op := [.add t1, .add t2, .add t3, .add t4, .add t5, .add t6, .add t7]

def U (h : Bytes) : Tx := (([t1, t2, t3, t4, t5, t6, t7, t8] : List Tx).find? (fun x => x.hash == h)).getD t1

theorem history_wf : ∀ t, Op.add t ∈ history → WfTx U t := by
  intro t ht
  simp only [history, List.mem_cons, Op.add.injEq, List.not_mem_nil, or_false] at ht
  rcases ht with rfl | rfl | rfl | rfl | rfl | rfl | rfl <;> (unfold WfTx; decide)

theorem t8_wf : WfTx U t8 := by unfold WfTx; decide

/-- the pool that holds the one-byte transactions `ts` of pairwise different senders, indexed in this order -/
def singles (cfg : Config) (ts : List Tx) : Pool :=
  ⟨cfg, ts.map fun t => (t.sender, [t]), ts.map fun t => (t.hash, t), ts.length, ts.length, ts.length⟩

/- The pools along the history, each evaluated once, from the one before: the examples below then compute on these
   literals instead of replaying the history. -/
theorem run_take5 : run cfgMin (history.take 5) = singles cfgMin [t1, t2, t3, t4, t5] := rfl

theorem run_take6 : run cfgMin (history.take 6) = singles cfgMin [t1, t2, t3, t5, t6] :=
  (run_snoc cfgMin (history.take 5) (.add t6)).trans (by rw [run_take5]; rfl)

theorem run_history : run cfgMin history = singles cfgMin [t1, t3, t5, t6, t7] :=
  (run_snoc cfgMin (history.take 6) (.add t7)).trans (by rw [run_take6]; rfl)

theorem evict_history : evict Variant.current (run cfgMin history) = singles cfgMin [t1, t3, t5, t6] := by
  rw [run_history]; rfl

theorem add_t8 : (addTx Variant.current (run cfgMin history) t8).1 = singles cfgMin [t1, t3, t5, t6, t8] := by
  rw [run_history]; rfl

-- what happens along the history: hashes in the pool after 5, 6 and 7 operations
example : (run cfgMin (history.take 5)).byHash.map (·.1) = [[1], [2], [3], [4], [5]] := by rw [run_take5]; decide
example : (run cfgMin (history.take 6)).byHash.map (·.1) = [[1], [2], [3], [5], [6]] := by   -- t4 (1/gas) evicted
  rw [run_take6]; decide
example : (run cfgMin history).byHash.map (·.1) = [[1], [3], [5], [6], [7]] := by             -- t2 (3/gas) evicted
  rw [run_history]; decide
-- the reachable pool is over its thresholds (by exactly the last insertion) …
example : (run cfgMin history).exceeded = true := by rw [run_history]; decide
example : ((run cfgMin history).cntTx, (run cfgMin history).cntSenders, (run cfgMin history).numBytes) = (5, 5, 5) := by
  rw [run_history]; decide
-- … the next eviction brings it back within them (it removes t7, 2/gas) …
example : (evict Variant.current (run cfgMin history)).byHash.map (·.1) = [[1], [3], [5], [6]] := by
  rw [evict_history]; decide
example : (evict Variant.current (run cfgMin history)).exceeded = false := by rw [evict_history]; decide
-- … and a further insertion ends at threshold + 1 again
example :
    let p' := (addTx Variant.current (run cfgMin history) t8).1
    (p'.cntTx, p'.cntSenders, p'.numBytes) = (5, 5, 5) ∧ p'.byHash.map (·.1) = [[1], [3], [5], [6], [8]] := by
  rw [add_t8]; decide
example :
    let p' := (addTx Variant.current (run cfgMin history) t8).1
    p'.cntTx ≤ (cfgMin.countThreshold : Int) + 1 ∧ p'.cntSenders ≤ (cfgMin.countThreshold : Int) + 1 ∧
    p'.numBytes ≤ (cfgMin.numBytesThreshold : Int) + (t8.size : Int) := by rw [add_t8]; decide

-- the theorems instantiated (all hypotheses met)
example : ListsInv (run cfgMin history) := reachable_listsInv U cfgMin history 1 1 (by decide) history_wf
example : (run cfgMin history).cfg = cfgMin := reachable_cfg cfgMin history
example :
    let p' := (addTx Variant.current (run cfgMin history) t8).1
    p'.cntTx ≤ (cfgMin.countThreshold : Int) + 1 ∧ p'.cntSenders ≤ (cfgMin.countThreshold : Int) + 1 ∧
    p'.numBytes ≤ (cfgMin.numBytesThreshold : Int) + (t8.size : Int) :=
  reachable_pool_bounds_after_every_add U cfgMin history 1 1 (by decide) history_wf rfl t8
example :
    let p' := run cfgMin ([.add t1, .add t2, .add t3, .add t4, .add t5] ++ [Op.add t6])
    clampNat p'.cntTx ≤ cfgMin.countThreshold + 1 ∧ clampNat p'.cntSenders ≤ cfgMin.countThreshold + 1 ∧
    clampNat p'.numBytes ≤ cfgMin.numBytesThreshold + t6.size :=
  reachable_pool_bounds_at_every_add_of_history U cfgMin history 1 1 (by decide) history_wf rfl
    [.add t1, .add t2, .add t3, .add t4, .add t5] [.add t7] t6 rfl
example : (evict Variant.current (run cfgMin history)).exceeded = false :=
  (reachable_within_thresholds_after_eviction U cfgMin history 1 1 (by decide) history_wf).1
example : (evict Variant.current (run cfgMin history)).exceeded = false ∨
    ((evict Variant.current (run cfgMin history)).byHash = [] ∧ (evict Variant.current (run cfgMin history)).lists = []) :=
  reachable_excess_gone_after_next_eviction U cfgMin history 1 1 (by decide) history_wf
example : ∀ t, (∃ s l, (s, l) ∈ (run cfgMin history).lists ∧ t ∈ l) →
      (¬ ∃ s l, (s, l) ∈ (evict Variant.current (run cfgMin history)).lists ∧ t ∈ l) →
      alookup t.hash (evict Variant.current (run cfgMin history)).byHash = none :=
  (reachable_evicted_disappear_everywhere U cfgMin history history_wf).2
-- t7 was pooled, is evicted, and is gone from the hash index
example : alookup t7.hash (run cfgMin history).byHash = some t7 ∧
    alookup t7.hash (evict Variant.current (run cfgMin history)).byHash = none := by
  rw [evict_history, run_history]; decide

/-- the side condition `1 ≤ numItemsToEvict` that acceptance provides IS needed: the same history under the (rejected)
    configuration with a batch size of 0 — eviction never removes anything, the pool grows to 7 > 4 + 1 transactions,
    and eviction ends over the thresholds with a non-empty pool -/
theorem bounds_need_positive_batch :
    let cfg0 : Config := ⟨true, 4, 1, 4, 1, 0⟩
    GenProofs.txAccepted cfg0 1 1 = false ∧
    (run cfg0 history).cntTx = 7 ∧
    (evict Variant.current (run cfg0 history)).exceeded = true ∧
    (evict Variant.current (run cfg0 history)).byHash ≠ [] := by decide +kernel

/-! #### eviction disabled -/

def cfgOff : Config := ⟨false, 4, 1, 4, 1, 1⟩

example : GenProofs.txAccepted cfgOff 1 1 = true := by decide +kernel
-- nothing is ever dropped for pool-wide reasons: all seven stay
example : (run cfgOff history).byHash.map (·.1) = [[1], [2], [3], [4], [5], [6], [7]] := by decide +kernel
example : alookup t4.sender (addTx Variant.current (run cfgOff history) t8).1.lists = some [t4] := by decide +kernel
example (s : Bytes) (hs : s ≠ t8.sender) :
    alookup s (addTx Variant.current (run cfgOff history) t8).1.lists = alookup s (run cfgOff history).lists :=
  reachable_no_pool_wide_drop_when_disabled cfgOff history rfl t8 s hs

/-! #### C07: a sender with several transactions, a same-nonce sibling, removal and clear in the history -/

def a0 := tx 0x10 0xa0 0 9
def a1 := tx 0x11 0xa0 1 9     -- nonce 1, valuable …
def a1' := tx 0x12 0xa0 1 1    -- … and its same-nonce sibling, the least valuable transaction of the pool
def b0 := tx 0x20 0xb0 0 5
def c0 := tx 0x30 0xc0 0 5
def d0 := tx 0x40 0xd0 0 5

/-- count limit 4, up to 3 transactions per sender, one victim per pass -/
def cfg7 : Config := ⟨true, 100, 100, 4, 3, 1⟩

example : GenProofs.txAccepted cfg7 1 1 = true := by decide +kernel

/-- nine operations, among them a clear and a removal; five transactions are left at the end (count threshold 4) -/
def history7 : List Op := [.add d0, .clear, .add b0, .rm [0x20], .add a0, .add a1, .add b0, .add a1', .add c0]

def U7 (h : Bytes) : Tx := (([a0, a1, a1', b0, c0, d0] : List Tx).find? (fun x => x.hash == h)).getD a0

theorem history7_wf : ∀ t, Op.add t ∈ history7 → WfTx U7 t := by
  intro t ht
  simp only [history7, List.mem_cons, Op.add.injEq, List.not_mem_nil, or_false, reduceCtorEq, false_or] at ht
  rcases ht with rfl | rfl | rfl | rfl | rfl | rfl | rfl <;> (unfold WfTx; decide)

theorem run_take8 : run cfg7 (history7.take 8) =
    ⟨cfg7, [([0xa0], [a0, a1, a1']), ([0xb0], [b0])], [a0, a1, b0, a1'].map fun t => (t.hash, t), 4, 4, 2⟩ := rfl

theorem run_history7 : run cfg7 history7 =
    ⟨cfg7, [([0xa0], [a0, a1, a1']), ([0xb0], [b0]), ([0xc0], [c0])], [a0, a1, b0, a1', c0].map fun t => (t.hash, t),
      5, 5, 3⟩ :=
  (run_snoc cfg7 (history7.take 8) (.add c0)).trans (by rw [run_take8]; rfl)

theorem evict_history7 : evict Variant.current (run cfg7 history7) =
    ⟨cfg7, [([0xa0], [a0]), ([0xb0], [b0]), ([0xc0], [c0])], [a0, b0, c0].map fun t => (t.hash, t), 3, 3, 3⟩ := by
  rw [run_history7]; rfl

example : (run cfg7 (history7.take 3)).lists = [([0xb0], [b0])] := by decide   -- d0 cleared away
example : (run cfg7 (history7.take 4)).lists = [] := by decide                 -- b0 removed by hash (re-added later)
example : (run cfg7 history7).lists = [([0xa0], [a0, a1, a1']), ([0xb0], [b0]), ([0xc0], [c0])] := by rw [run_history7]
example : (run cfg7 history7).exceeded = true := by rw [run_history7]; decide
-- the single victim is a1' (1/gas); its sender loses the whole nonce-1 suffix, i.e. the valuable sibling a1 as well
example : (evict Variant.current (run cfg7 history7)).lists = [([0xa0], [a0]), ([0xb0], [b0]), ([0xc0], [c0])] := by
  rw [evict_history7]
example : ∃ l suf, (([0xa0] : Bytes), l) ∈ (run cfg7 history7).lists ∧ l = [a0] ++ suf ∧
    ∀ a ∈ [a0], ∀ b ∈ suf, a.nonce < b.nonce :=
  reachable_eviction_cuts_nonce_suffixes cfg7 history7 [0xa0] [a0] (by rw [evict_history7]; decide)
example : alookup a1.hash (evict Variant.current (run cfg7 history7)).byHash = none :=
  (reachable_evicted_disappear_everywhere U7 cfg7 history7 history7_wf).2 a1
    ⟨[0xa0], [a0, a1, a1'], by rw [run_history7]; decide, by decide⟩
    (by
      have key : ∀ e ∈ (evict Variant.current (run cfg7 history7)).lists, a1 ∉ e.2 := by rw [evict_history7]; decide
      rintro ⟨s, l, hm, hl⟩
      exact key (s, l) hm hl)
example : alookup a0.hash (evict Variant.current (run cfg7 history7)).byHash = some a0 :=
  reachable_survivors_stay_hashed U7 cfg7 history7 history7_wf [0xa0] [a0] a0 (by rw [evict_history7]; decide) (by decide)
example : Inv U7 (evict Variant.current (run cfg7 history7)) :=
  (reachable_evicted_disappear_everywhere U7 cfg7 history7 history7_wf).1
-- within the thresholds nothing is evicted (the pool after eight of the nine operations holds four transactions)
example : (run cfg7 (history7.take 8)).exceeded = false := by rw [run_take8]; decide
example : evict Variant.current (run cfg7 (history7.take 8)) = run cfg7 (history7.take 8) :=
  reachable_eviction_noop_within_thresholds cfg7 (history7.take 8) (by rw [run_take8]; decide)
example (s : Bytes) (l : List Tx) (hm : (s, l) ∈ (run cfg7 history7).lists) :
    ListSorted l ∧ 1 ≤ l.length ∧ l.length ≤ cfg7.countPerSender ∧ 1 ≤ cfg7.countPerSender ∧ ∀ t ∈ l, t.sender = s :=
  reachable_sender_lists U7 cfg7 history7 1 1 (by decide) history7_wf s l hm

end SizeEx

end SV.TxCache
