/-
  SV.Persist.CrashProofs — crash algebra for the batching persisters (property C10), theorems.

  Assumed engine contract (built into `crashImage`, see SV/Persist/Crash.lean): a synced LevelDB `Write(batch)` is
  all-or-nothing and durable once returned.  Under that contract, for every `maxBatch ≥ 1`, every history and every
  crash point, the recovered directory is EXACTLY the logical map as of some flush boundary, that boundary is not
  older than the last completed flush, and an acknowledged write stays at risk for fewer than `maxBatch` updates.
-/
import SV.Persist.Crash
namespace SV.Persist
open SV

/-! ### one step -/

theorem step_cases (p : P) (o : Op) :
    (issuesWrite p o = true ∧ (p.step o).ops = [] ∧ (p.step o).db = applyBatch p.db (inflightBatch p o)) ∨
    (issuesWrite p o = false ∧ o.isUpdate = true ∧ (p.step o).ops = inflightBatch p o ∧ (p.step o).db = p.db) := by
  -- Put and Remove are their bookkeeping, which leaves the state `q`, followed by `updateBatchWithIncrement`
  have key : ∀ q : P, issuesWrite p o = !decide (q.sizeBatch + 1 < q.maxBatch) → o.isUpdate = true →
      (issuesWrite p o = true ∧ q.bump.ops = [] ∧ q.bump.db = applyBatch q.db q.ops) ∨
      (issuesWrite p o = false ∧ o.isUpdate = true ∧ q.bump.ops = q.ops ∧ q.bump.db = q.db) := by
    intro q hw hu
    rcases bump_cases q with ⟨h, e⟩ | ⟨h, e⟩ <;> rw [e]
    · exact Or.inr ⟨by rw [hw, decide_eq_true h]; rfl, hu, rfl, rfl⟩
    · exact Or.inl ⟨by rw [hw, decide_eq_false h]; rfl, rfl, rfl⟩
  cases o with
  | put k v => exact key (putPre p k v) rfl rfl
  | rm k => exact key (rmPre p k) rfl rfl
  | tick => exact Or.inl ⟨rfl, rfl, by rw [inflightBatch, Op.bops, List.append_nil]; rfl⟩
  | reopen => exact Or.inl ⟨rfl, rfl, by rw [inflightBatch, Op.bops, List.append_nil]; rfl⟩

/-- The LevelDB state changes only by whole batches: every operation leaves the flushed state untouched or
    replaces it by the whole pending batch (all acknowledged operations since the last flush, in order, including
    this one) applied on top of it.  Generalises `put_db_atomic` / `remove_db_atomic` of SV/Props/C10.lean. -/
theorem db_only_changes_by_whole_batches (p : P) (o : Op) :
    (p.step o).db = p.db ∨ (p.step o).db = applyBatch p.db (p.ops ++ o.bops) :=
  (step_cases p o).symm.imp (·.2.2.2) (·.2.2)

theorem db_step_eq (p : P) (o : Op) :
    (p.step o).db = if issuesWrite p o then applyBatch p.db (p.ops ++ o.bops) else p.db := by
  rcases step_cases p o with h | h
  · rw [h.1, if_pos rfl]; exact h.2.2
  · rw [h.1]; exact h.2.2.2

theorem put_db_atomic' (p : P) (k : Bytes) (v : Val) :
    (p.put k v).db = p.db ∨ (p.put k v).db = applyBatch p.db (p.ops ++ [.put k v.bytes]) :=
  db_only_changes_by_whole_batches p (.put k v)

theorem remove_db_atomic' (p : P) (k : Bytes) :
    (p.remove k).db = p.db ∨ (p.remove k).db = applyBatch p.db (p.ops ++ [.del k]) :=
  db_only_changes_by_whole_batches p (.rm k)

theorem empty_write_no_change (p : P) (o : Op) (h : inflightBatch p o = []) : (p.step o).db = p.db := by
  rcases step_cases p o with hc | hc
  · rw [hc.2.2, h]; rfl
  · exact hc.2.2.2

theorem step_maxBatch (p : P) (o : Op) : (p.step o).maxBatch = p.maxBatch := by
  have hb : ∀ q : P, q.bump.maxBatch = q.maxBatch := fun q => by
    rcases bump_cases q with ⟨_, e⟩ | ⟨_, e⟩ <;> rw [e] <;> rfl
  cases o with
  | put k v => exact hb (putPre p k v)
  | rm k => exact hb (rmPre p k)
  | tick => rfl
  | reopen => rfl

/-! ### histories -/

theorem run_nil (mb : Nat) : run mb [] = P.init mb [] := rfl

theorem run_snoc (mb : Nat) (l : List Op) (o : Op) : run mb (l ++ [o]) = (run mb l).step o := by
  simp [run, List.foldl_append]

theorem take_succ_some {ops : List Op} {i : Nat} {o : Op} (h : ops[i]? = some o) :
    ops.take (i + 1) = ops.take i ++ [o] := by
  rw [List.take_add_one, h]; rfl

theorem take_succ_none {ops : List Op} {i : Nat} (h : ops[i]? = none) : ops.take (i + 1) = ops.take i := by
  rw [List.take_add_one, h]; exact List.append_nil _

theorem run_take_succ (mb : Nat) {ops : List Op} {i : Nat} {o : Op} (h : ops[i]? = some o) :
    run mb (ops.take (i + 1)) = (run mb (ops.take i)).step o := by
  rw [take_succ_some h, run_snoc]

theorem run_maxBatch (mb : Nat) (ops : List Op) : (run mb ops).maxBatch = mb :=
  List.foldlRecOn (motive := fun p => p.maxBatch = mb) ops P.step rfl fun p hp o _ => (step_maxBatch p o).trans hp

theorem BInv.run (mb : Nat) (hm : 1 ≤ mb) (ops : List Op) : BInv (run mb ops) :=
  (run_refines ops _ (BInv.init mb [] hm List.nodup_nil)).1

theorem abs_run (mb : Nat) (hm : 1 ≤ mb) (ops : List Op) (k : Bytes) :
    (run mb ops).abs k = ops.foldl specStep (fun _ => none) k :=
  congrFun (run_refines ops _ (BInv.init mb [] hm List.nodup_nil)).2 k

theorem boundary_db_is_spec (mb : Nat) (hm : 1 ≤ mb) (ops : List Op) (j : Nat) (hb : Boundary mb ops j) (k : Bytes) :
    alookup k (run mb (ops.take j)).db = (ops.take j).foldl specStep (fun _ => none) k := by
  have h := (BInv.run mb hm (ops.take j)).replay k
  unfold Boundary at hb
  rw [hb] at h
  rw [← abs_run mb hm]
  exact h

/-! ### flush boundaries -/

theorem boundary_zero (mb : Nat) (ops : List Op) : Boundary mb ops 0 := by
  simp [Boundary, run, P.init]

theorem boundary_succ_of_write (mb : Nat) {ops : List Op} {i : Nat} {o : Op} (h : ops[i]? = some o)
    (hw : issuesWrite (run mb (ops.take i)) o = true) : Boundary mb ops (i + 1) := by
  unfold Boundary
  rw [run_take_succ mb h]
  rcases step_cases (run mb (ops.take i)) o with hc | hc
  · exact hc.2.1
  · rw [hc.1] at hw; cases hw

theorem step_of_not_boundary (mb : Nat) {ops : List Op} {i : Nat} {o : Op} (h : ops[i]? = some o)
    (hnb : ¬ Boundary mb ops (i + 1)) :
    o.isUpdate = true ∧ (run mb (ops.take (i + 1))).ops = (run mb (ops.take i)).ops ++ o.bops ∧
      (run mb (ops.take (i + 1))).db = (run mb (ops.take i)).db := by
  rw [run_take_succ mb h]
  rcases step_cases (run mb (ops.take i)) o with hc | hc
  · exact absurd (boundary_succ_of_write mb h hc.1) hnb
  · exact hc.2

theorem boundary_after_tick_reopen (mb : Nat) (ops : List Op) (i : Nat)
    (h : ops[i]? = some .tick ∨ ops[i]? = some .reopen) : Boundary mb ops (i + 1) := by
  rcases h with h | h <;> exact boundary_succ_of_write mb h rfl

theorem lastBoundary_le (mb : Nat) (ops : List Op) (i : Nat) : lastBoundary mb ops i ≤ i := by
  induction i with
  | zero => exact Nat.le_refl _
  | succ i ih =>
    unfold lastBoundary
    split
    · exact Nat.le_refl _
    · exact Nat.le_succ_of_le ih

theorem lastBoundary_boundary (mb : Nat) (ops : List Op) (i : Nat) : Boundary mb ops (lastBoundary mb ops i) := by
  induction i with
  | zero => exact boundary_zero mb ops
  | succ i ih =>
    unfold lastBoundary
    split
    · assumption
    · exact ih

theorem lastBoundary_max (mb : Nat) (ops : List Op) (i j : Nat) (hj : j ≤ i) (hb : Boundary mb ops j) :
    j ≤ lastBoundary mb ops i := by
  induction i with
  | zero => exact hj
  | succ i ih =>
    unfold lastBoundary
    split
    · exact hj
    · rename_i hnb
      rcases Nat.lt_or_eq_of_le hj with hlt | he
      · exact ih (Nat.le_of_lt_succ hlt)
      · exact absurd (he ▸ hb) hnb

theorem lastBoundary_of_boundary (mb : Nat) (ops : List Op) (i : Nat) (hb : Boundary mb ops i) :
    lastBoundary mb ops i = i :=
  Nat.le_antisymm (lastBoundary_le mb ops i) (lastBoundary_max mb ops i i (Nat.le_refl _) hb)

theorem lastBoundary_mono (mb : Nat) (ops : List Op) (i : Nat) :
    lastBoundary mb ops i ≤ lastBoundary mb ops (i + 1) :=
  lastBoundary_max mb ops (i + 1) _ (Nat.le_trans (lastBoundary_le mb ops i) (Nat.le_succ i))
    (lastBoundary_boundary mb ops i)

theorem db_lastBoundary (mb : Nat) (ops : List Op) (i : Nat) :
    (run mb (ops.take i)).db = (run mb (ops.take (lastBoundary mb ops i))).db := by
  induction i with
  | zero => rfl
  | succ i ih =>
    unfold lastBoundary
    split
    · rfl
    · rename_i hnb
      rw [← ih]
      cases ho : ops[i]? with
      | none => rw [take_succ_none ho]
      | some o => exact (step_of_not_boundary mb ho hnb).2.2

theorem pending_since_lastBoundary (mb : Nat) (ops : List Op) (i : Nat) :
    (∀ o ∈ (ops.take i).drop (lastBoundary mb ops i), o.isUpdate = true) ∧
    (run mb (ops.take i)).ops = ((ops.take i).drop (lastBoundary mb ops i)).flatMap Op.bops := by
  induction i with
  | zero => exact ⟨fun _ h => (nomatch h), rfl⟩
  | succ i ih =>
    unfold lastBoundary
    split
    · rename_i hb
      rw [List.drop_eq_nil_of_le (Nat.le_trans (List.length_take_le _ _) (Nat.le_refl _))]
      exact ⟨fun _ h => (nomatch h), hb⟩
    · rename_i hnb
      cases ho : ops[i]? with
      | none => rw [take_succ_none ho]; exact ih
      | some o =>
        obtain ⟨hu, hops, _⟩ := step_of_not_boundary mb ho hnb
        have hlb : lastBoundary mb ops i ≤ (ops.take i).length := by
          rw [List.length_take, Nat.min_eq_left (Nat.le_of_lt (List.getElem?_eq_some_iff.mp ho).1)]
          exact lastBoundary_le mb ops i
        rw [hops, take_succ_some ho, List.drop_append_of_le_length hlb, List.flatMap_append, ih.2,
          List.flatMap_singleton]
        refine ⟨fun x hx => ?_, rfl⟩
        rcases List.mem_append.mp hx with hx | hx
        · exact ih.1 x hx
        · rw [List.mem_singleton.mp hx]; exact hu

theorem flatMap_bops_length (l : List Op) (h : ∀ o ∈ l, o.isUpdate = true) :
    (l.flatMap Op.bops).length = l.length := by
  induction l with
  | nil => rfl
  | cons a r ih =>
    have ha : a.bops.length = 1 := by
      have := h a List.mem_cons_self
      cases a <;> first | rfl | cases this
    rw [List.flatMap_cons, List.length_append, ih (fun o ho => h o (List.mem_cons_of_mem _ ho)), ha,
      List.length_cons, Nat.add_comm]

theorem pending_length (mb : Nat) (ops : List Op) (i : Nat) :
    (run mb (ops.take i)).ops.length = ((ops.take i).drop (lastBoundary mb ops i)).countP Op.isUpdate := by
  have h := pending_since_lastBoundary mb ops i
  rw [h.2, flatMap_bops_length _ h.1, List.countP_eq_length.mpr h.1]

/-! ### the at-risk window -/

/-- At every instant fewer than `maxBatch` Put/Remove operations have been acknowledged since the last
    flush boundary: these (and only these) are what a crash can lose. -/
theorem at_risk_window (mb : Nat) (hm : 1 ≤ mb) (ops : List Op) (i : Nat) :
    ((ops.take i).drop (lastBoundary mb ops i)).countP Op.isUpdate < mb := by
  have h := pending_bounded _ (BInv.run mb hm (ops.take i))
  rwa [run_maxBatch, pending_length] at h

/-- all operations since the last flush boundary are Put/Remove (a tick or a reopen is itself a boundary), so the
    window is also fewer than `maxBatch` operations of any kind -/
theorem at_risk_window_length (mb : Nat) (hm : 1 ≤ mb) (ops : List Op) (i : Nat) (hi : i ≤ ops.length) :
    i - lastBoundary mb ops i < mb := by
  have h := at_risk_window mb hm ops i
  rwa [List.countP_eq_length.mpr (pending_since_lastBoundary mb ops i).1, List.length_drop, List.length_take,
    Nat.min_eq_left hi] at h

/-- The same seen from one write.  The write acknowledged by operation `j` is flushed at the latest by the
    `(maxBatch − 1)`-th further Put/Remove: if at least `maxBatch − 1` Put/Remove operations follow operation `j`
    among the first `i`, a flush boundary lies in `(j, i]`. -/
theorem write_flushed_within (mb : Nat) (hm : 1 ≤ mb) (ops : List Op) (i j : Nat) (hji : j < i) (hi : i ≤ ops.length)
    (hcnt : mb ≤ ((ops.take i).drop (j + 1)).countP Op.isUpdate + 1) :
    ∃ j', j < j' ∧ j' ≤ i ∧ Boundary mb ops j' := by
  rcases Nat.lt_or_ge j (lastBoundary mb ops i) with hlt | hge
  · exact ⟨_, hlt, lastBoundary_le mb ops i, lastBoundary_boundary mb ops i⟩
  · exfalso
    have h1 : ((ops.take i).drop (j + 1)).countP Op.isUpdate ≤ ((ops.take i).drop (j + 1)).length :=
      List.countP_le_length
    rw [List.length_drop, List.length_take, Nat.min_eq_left hi] at h1
    -- `mb ≤ i - j ≤ i - lastBoundary < mb`
    have h2 : mb ≤ i - j := Nat.sub_add_cancel (Nat.sub_pos_of_lt hji) ▸ Nat.le_trans hcnt (Nat.succ_le_succ h1)
    exact Nat.lt_irrefl _ (Nat.lt_of_le_of_lt (Nat.le_trans h2 (Nat.sub_le_sub_left hge i))
      (at_risk_window_length mb hm ops i hi))

/-! ### the crash image -/

theorem crash_cases (mb : Nat) (ops : List Op) (i : Nat) (s : Bool) :
    (crashPoint mb ops i s = lastBoundary mb ops i ∧ crashImage mb ops i s = (run mb (ops.take i)).db) ∨
    (∃ o, ops[i]? = some o ∧ s = true ∧ issuesWrite (run mb (ops.take i)) o = true ∧
      crashPoint mb ops i s = i + 1 ∧ crashImage mb ops i s = (run mb (ops.take (i + 1))).db) := by
  unfold crashPoint crashImage
  split
  · rename_i o ho
    split
    · rename_i hc
      rw [Bool.and_eq_true] at hc
      exact Or.inr ⟨o, ho, hc.1, hc.2, rfl, rfl⟩
    · exact Or.inl ⟨rfl, rfl⟩
  · exact Or.inl ⟨rfl, rfl⟩

theorem crashImage_eq (mb : Nat) (ops : List Op) (i : Nat) (s : Bool) :
    crashImage mb ops i s = (run mb (ops.take (crashPoint mb ops i s))).db := by
  rcases crash_cases mb ops i s with ⟨hp, hi⟩ | ⟨o, _, _, _, hp, hi⟩ <;> rw [hp, hi]
  exact db_lastBoundary mb ops i

theorem crashPoint_boundary (mb : Nat) (ops : List Op) (i : Nat) (s : Bool) :
    Boundary mb ops (crashPoint mb ops i s) := by
  rcases crash_cases mb ops i s with ⟨hp, _⟩ | ⟨o, ho, _, hw, hp, _⟩ <;> rw [hp]
  · exact lastBoundary_boundary mb ops i
  · exact boundary_succ_of_write mb ho hw

theorem crashPoint_le (mb : Nat) (ops : List Op) (i : Nat) (s : Bool) : crashPoint mb ops i s ≤ i + 1 := by
  rcases crash_cases mb ops i s with ⟨hp, _⟩ | ⟨o, _, _, _, hp, _⟩ <;> rw [hp]
  · exact Nat.le_succ_of_le (lastBoundary_le mb ops i)
  · exact Nat.le_refl _

theorem lastBoundary_le_crashPoint (mb : Nat) (ops : List Op) (i : Nat) (s : Bool) :
    lastBoundary mb ops i ≤ crashPoint mb ops i s := by
  rcases crash_cases mb ops i s with ⟨hp, _⟩ | ⟨o, _, _, _, hp, _⟩ <;> rw [hp]
  · exact Nat.le_refl _
  · exact Nat.le_succ_of_le (lastBoundary_le mb ops i)

theorem crashPoint_le_length (mb : Nat) (ops : List Op) (i : Nat) (s : Bool) (hi : i ≤ ops.length) :
    crashPoint mb ops i s ≤ ops.length := by
  rcases crash_cases mb ops i s with ⟨hp, _⟩ | ⟨o, ho, _, _, hp, _⟩ <;> rw [hp]
  · exact Nat.le_trans (lastBoundary_le mb ops i) hi
  · exact (List.getElem?_eq_some_iff.mp ho).1

theorem crashImage_eq_before_or_after (mb : Nat) (ops : List Op) (i : Nat) (s : Bool) :
    crashImage mb ops i s = (run mb (ops.take i)).db ∨
    (s = true ∧ crashImage mb ops i s = (run mb (ops.take (i + 1))).db) :=
  (crash_cases mb ops i s).imp (·.2) fun ⟨_, _, hs, _, _, hi⟩ => ⟨hs, hi⟩

theorem crashImage_no_write (mb : Nat) (ops : List Op) (i : Nat) (o : Op) (ho : ops[i]? = some o)
    (hw : issuesWrite (run mb (ops.take i)) o = false) (s : Bool) :
    crashImage mb ops i s = (run mb (ops.take i)).db ∧ (run mb (ops.take (i + 1))).db = (run mb (ops.take i)).db := by
  constructor
  · rcases crash_cases mb ops i s with ⟨_, hi⟩ | ⟨o', ho', _, hw', _, _⟩
    · exact hi
    · rw [ho] at ho'; cases ho'; rw [hw] at hw'; cases hw'
  · rw [run_take_succ mb ho, db_step_eq, hw]; rfl

/-- The boundary recovered (`crashPoint`) is at least the last boundary at or before `i`: a batch whose flush
    completed before the crash is fully present, whatever happens to the in-flight write. -/
theorem completed_flushes_survive (mb : Nat) (ops : List Op) (i : Nat) (survived : Bool)
    (j' : Nat) (hj' : j' ≤ i) (hb : Boundary mb ops j') : j' ≤ crashPoint mb ops i survived :=
  Nat.le_trans (lastBoundary_max mb ops i j' hj' hb) (lastBoundary_le_crashPoint mb ops i survived)

/-- Whatever the crash instant and whatever happens to the in-flight write, the recovered directory is the
    LevelDB state of some flush boundary `j ≤ i + 1` that is at least every boundary completed before the crash
    (`completed_flushes_survive`), and as a map it is EXACTLY the logical map (plain-map semantics of all acknowledged
    Put/Remove) as of that boundary: nothing of a later batch, everything of all earlier ones, in order.
    The witness is `crashPoint`. -/
theorem crash_recovers_a_recent_flush_boundary (mb : Nat) (hm : 1 ≤ mb) (ops : List Op) (i : Nat) (survived : Bool) :
    ∃ j, j ≤ i + 1 ∧ Boundary mb ops j ∧
      (∀ j', j' ≤ i → Boundary mb ops j' → j' ≤ j) ∧
      crashImage mb ops i survived = (run mb (ops.take j)).db ∧
      ∀ k, alookup k (crashImage mb ops i survived) = (ops.take j).foldl specStep (fun _ => none) k := by
  refine ⟨crashPoint mb ops i survived, crashPoint_le mb ops i survived, crashPoint_boundary mb ops i survived,
    completed_flushes_survive mb ops i survived, crashImage_eq mb ops i survived, fun k => ?_⟩
  rw [crashImage_eq]
  exact boundary_db_is_spec mb hm ops _ (crashPoint_boundary mb ops i survived) k

theorem crash_image_is_flush_boundary (mb : Nat) (hm : 1 ≤ mb) (ops : List Op) (i : Nat) (survived : Bool) :
    ∃ j, j ≤ i + 1 ∧ Boundary mb ops j ∧
      crashImage mb ops i survived = (run mb (ops.take j)).db ∧
      ∀ k, alookup k (crashImage mb ops i survived) = (ops.take j).foldl specStep (fun _ => none) k := by
  obtain ⟨j, h1, h2, _, h4, h5⟩ := crash_recovers_a_recent_flush_boundary mb hm ops i survived
  exact ⟨j, h1, h2, h4, h5⟩

/-- what is lost: only acknowledged operations after the crash point, and these are fewer than `maxBatch` Put/Remove
    (plus, when the in-flight write did not survive, the operation in progress, which was never acknowledged) -/
theorem lost_updates_bounded (mb : Nat) (hm : 1 ≤ mb) (ops : List Op) (i : Nat) (survived : Bool) :
    ((ops.take i).drop (crashPoint mb ops i survived)).countP Op.isUpdate < mb := by
  have hle := lastBoundary_le_crashPoint mb ops i survived
  have : (ops.take i).drop (crashPoint mb ops i survived) =
      ((ops.take i).drop (lastBoundary mb ops i)).drop (crashPoint mb ops i survived - lastBoundary mb ops i) := by
    rw [List.drop_drop, Nat.add_sub_cancel' hle]
  rw [this]
  exact Nat.lt_of_le_of_lt ((List.drop_sublist _ _).countP_le) (at_risk_window mb hm ops i)

/-! ### the judgement used by the driver -/

theorem allowedImages_length_le_two (mb : Nat) (ops : List Op) (i : Nat) : (allowedImages mb ops i).length ≤ 2 := by
  unfold allowedImages
  split
  · split <;> simp
  · simp

theorem crashImage_mem_allowedImages (mb : Nat) (ops : List Op) (i : Nat) (survived : Bool) :
    crashImage mb ops i survived ∈ allowedImages mb ops i := by
  unfold crashImage allowedImages
  split
  · rename_i o ho
    cases hw : issuesWrite (run mb (ops.take i)) o <;> cases survived <;> simp
  · simp

theorem allowedImages_all_reachable (mb : Nat) (ops : List Op) (i : Nat) (img : Store)
    (h : img ∈ allowedImages mb ops i) : ∃ survived, img = crashImage mb ops i survived := by
  unfold allowedImages at h
  unfold crashImage
  split at h
  · rename_i o ho
    split at h
    · rename_i hw
      simp only [List.mem_cons, List.not_mem_nil, or_false] at h
      rcases h with h | h
      · exact ⟨false, by simp [h]⟩
      · exact ⟨true, by simp [h, hw]⟩
    · rename_i hw
      simp only [List.mem_singleton] at h
      exact ⟨false, by simp [h]⟩
  · simp only [List.mem_singleton] at h
    exact ⟨false, h⟩

theorem allowedImages_characterised (mb : Nat) (hm : 1 ≤ mb) (ops : List Op) (i : Nat) (img : Store)
    (h : img ∈ allowedImages mb ops i) :
    ∃ j, j ≤ i + 1 ∧ Boundary mb ops j ∧
      (∀ j', j' ≤ i → Boundary mb ops j' → j' ≤ j) ∧
      img = (run mb (ops.take j)).db ∧
      ∀ k, alookup k img = (ops.take j).foldl specStep (fun _ => none) k := by
  obtain ⟨s, rfl⟩ := allowedImages_all_reachable mb ops i img h
  exact crash_recovers_a_recent_flush_boundary mb hm ops i s

theorem sameMap_iff (a b : Store) : sameMap a b = true ↔ ∀ k, alookup k a = alookup k b := by
  unfold sameMap
  rw [List.all_eq_true]
  constructor
  · intro h k
    by_cases hk : k ∈ a.map (·.1) ++ b.map (·.1)
    · exact eq_of_beq (h k hk)
    · rw [List.mem_append, not_or] at hk
      rw [alookup_none_iff.mpr hk.1, alookup_none_iff.mpr hk.2]
  · intro h k _
    rw [h k]
    exact BEq.rfl

/-- soundness of the driver's judgement: an image accepted by `imageAllowed` is, as a map, exactly the logical map at
    a flush boundary `j ≤ i + 1` not older than the last flush completed before the crash -/
theorem imageAllowed_sound (mb : Nat) (hm : 1 ≤ mb) (ops : List Op) (i : Nat) (img : Store)
    (h : imageAllowed mb ops i img = true) :
    ∃ j, j ≤ i + 1 ∧ Boundary mb ops j ∧
      (∀ j', j' ≤ i → Boundary mb ops j' → j' ≤ j) ∧
      ∀ k, alookup k img = (ops.take j).foldl specStep (fun _ => none) k := by
  unfold imageAllowed at h
  rw [List.any_eq_true] at h
  obtain ⟨x, hx, hs⟩ := h
  obtain ⟨j, h1, h2, h3, _, h5⟩ := allowedImages_characterised mb hm ops i x hx
  refine ⟨j, h1, h2, h3, fun k => ?_⟩
  rw [(sameMap_iff img x).mp hs k]
  exact h5 k

/-- completeness: every image the contract permits is accepted -/
theorem imageAllowed_crashImage (mb : Nat) (ops : List Op) (i : Nat) (survived : Bool) :
    imageAllowed mb ops i (crashImage mb ops i survived) = true := by
  unfold imageAllowed
  rw [List.any_eq_true]
  exact ⟨_, crashImage_mem_allowedImages mb ops i survived, (sameMap_iff _ _).mpr fun _ => rfl⟩

/-- completeness up to map equality: any store denoting the logical map at the crash point is accepted -/
theorem imageAllowed_of_spec (mb : Nat) (hm : 1 ≤ mb) (ops : List Op) (i : Nat) (survived : Bool) (img : Store)
    (h : ∀ k, alookup k img =
      (ops.take (crashPoint mb ops i survived)).foldl specStep (fun _ => none) k) :
    imageAllowed mb ops i img = true := by
  unfold imageAllowed
  rw [List.any_eq_true]
  refine ⟨_, crashImage_mem_allowedImages mb ops i survived, (sameMap_iff _ _).mpr fun k => ?_⟩
  rw [h k, crashImage_eq]
  exact (boundary_db_is_spec mb hm ops _ (crashPoint_boundary mb ops i survived) k).symm

theorem allowedImages_eq_map_allowedPoints (mb : Nat) (ops : List Op) (i : Nat) :
    allowedImages mb ops i = (allowedPoints mb ops i).map fun j => (run mb (ops.take j)).db := by
  unfold allowedPoints allowedImages
  split
  · split <;> simp [← db_lastBoundary]
  · simp [← db_lastBoundary]

/-! ### non-vacuity -/

section examples

private def v (n : UInt8) : Val := ⟨false, [n]⟩

/-- maxBatch = 3: two puts, a tick, then put / rm / put (the third one flushes by size), a tick, a put, a reopen -/
def crashDemo : List Op :=
  [.put [1] (v 10), .put [2] (v 20), .tick, .put [3] (v 30), .rm [1], .put [4] (v 40), .tick, .put [5] (v 50), .reopen]

/-- the hypotheses of all theorems are met: `1 ≤ 3`, and the crash point `5 < crashDemo.length` -/
example : 1 ≤ 3 ∧ 5 < crashDemo.length := by decide +kernel

/-- the flushing put (operation 5) issues a write … -/
example : issuesWrite (run 3 (crashDemo.take 5)) (.put [4] (v 40)) = true := by decide +kernel
/-- … so a crash during it leaves either of two DIFFERENT stores: the batch [put 3, rm 1, put 4] wholly absent or
    wholly present -/
example : crashImage 3 crashDemo 5 false = [([1], [10]), ([2], [20])] := by decide +kernel
example : crashImage 3 crashDemo 5 true = [([2], [20]), ([3], [30]), ([4], [40])] := by decide +kernel
example : crashImage 3 crashDemo 5 false ≠ crashImage 3 crashDemo 5 true := by decide +kernel
example : allowedImages 3 crashDemo 5 = [[([1], [10]), ([2], [20])], [([2], [20]), ([3], [30]), ([4], [40])]] := by decide +kernel
example : allowedPoints 3 crashDemo 5 = [3, 6] := by decide +kernel
example : crashPoint 3 crashDemo 5 false = 3 ∧ crashPoint 3 crashDemo 5 true = 6 := by decide +kernel
example : (List.range (crashDemo.length + 1)).filter (fun j => decide (Boundary 3 crashDemo j)) = [0, 3, 6, 7, 9] := by decide +kernel
/-- a non-flushing operation (operation 4, the rm) issues no write: one possible image, the previous boundary;
    the acknowledged put of key 3 is at risk -/
example : allowedImages 3 crashDemo 4 = [[([1], [10]), ([2], [20])]] := by decide +kernel
/-- a partially applied batch, a reordered one and a stale one are rejected; key order is irrelevant -/
example : imageAllowed 3 crashDemo 5 [([4], [40]), ([3], [30]), ([2], [20])] = true := by decide +kernel
example : imageAllowed 3 crashDemo 5 [([1], [10]), ([2], [20]), ([3], [30])] = false := by decide +kernel
example : imageAllowed 3 crashDemo 5 [([2], [20]), ([3], [30])] = false := by decide +kernel
example : imageAllowed 3 crashDemo 5 [([1], [10])] = false := by decide +kernel
/-- `completed_flushes_survive` is not vacuous: boundary 3 ≤ 5 exists and both crash points are ≥ 3 -/
example : Boundary 3 crashDemo 3 ∧ 3 ≤ crashPoint 3 crashDemo 5 false ∧ 3 ≤ crashPoint 3 crashDemo 5 true := by decide +kernel
/-- `at_risk_window`: after 5 operations two updates (put 3, rm 1) are at risk, 2 < 3 -/
example : ((crashDemo.take 5).drop (lastBoundary 3 crashDemo 5)).countP Op.isUpdate = 2 := by decide +kernel
/-- `write_flushed_within`: hypotheses satisfiable (j = 3, i = 6: two further updates follow the put of key 3, 3 ≤ 2 + 1) -/
example : 3 < 6 ∧ 6 ≤ crashDemo.length ∧ 3 ≤ ((crashDemo.take 6).drop (3 + 1)).countP Op.isUpdate + 1 := by decide +kernel

end examples

end SV.Persist
