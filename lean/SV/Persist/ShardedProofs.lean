/-
  SV.Persist.ShardedProofs — the sharded persister over batching persisters behaves as ONE map over whole
  histories (Put / Remove / timer flush of every shard / Close + reopen of every shard), and RangeKeys after a
  flush visits exactly that map, each key once (C08, C09, C19).
-/
import SV.Persist.Proofs
import SV.ShardProofs
namespace SV.Persist
open SV

/-! ### one operation: every operation on a key goes to one and the same shard, so the whole behaves as a single map -/

def SInv (s : Sharded) : Prop := 2 ≤ s.n ∧ s.shards.length = s.n ∧ ∀ p ∈ s.shards, BInv p

theorem idx_lt (s : Sharded) (k : Bytes) (h : SInv s) : s.idx k < s.shards.length := by
  rw [h.2.1]; exact Shard.computeId_lt s.n k h.1

theorem shard_getElem? (s : Sharded) (k : Bytes) (h : SInv s) : s.shards[s.idx k]? = some (s.shard k) := by
  unfold Sharded.shard
  rw [List.getElem?_eq_getElem (idx_lt s k h)]
  rfl

theorem shard_mem (s : Sharded) (k : Bytes) (h : SInv s) : s.shard k ∈ s.shards :=
  List.mem_of_getElem? (shard_getElem? s k h)

theorem SInv.shard {s : Sharded} (h : SInv s) (k : Bytes) : BInv (s.shard k) :=
  h.2.2 _ (shard_mem s k h)

theorem shard_upd (s : Sharded) (k k' : Bytes) (f : P → P) (h : SInv s) :
    (s.upd k f).shard k' = if s.idx k' = s.idx k then f (s.shard k) else s.shard k' := by
  show ((s.shards.set (s.idx k) (f (s.shard k)))[s.idx k']?).getD _ = _
  split
  · rename_i heq
    rw [heq, List.getElem?_set_self (idx_lt s k h)]
    rfl
  · rename_i hne
    rw [List.getElem?_set_ne (fun e => hne e.symm)]
    rfl

theorem SInv.upd (s : Sharded) (k : Bytes) (f : P → P) (h : SInv s) (hf : BInv (f (s.shard k))) :
    SInv (s.upd k f) := by
  refine ⟨h.1, ?_, ?_⟩
  · show (s.shards.set _ _).length = s.n
    rw [List.length_set]; exact h.2.1
  · intro p hp
    rcases List.mem_or_eq_of_mem_set hp with hp | hp
    · exact h.2.2 p hp
    · exact hp ▸ hf

theorem SInv.init (n maxBatch : Nat) (hn : 2 ≤ n) (hm : 1 ≤ maxBatch) : SInv (Sharded.init n maxBatch) := by
  refine ⟨hn, List.length_replicate, ?_⟩
  intro p hp
  rw [(List.mem_replicate.mp hp).2]
  exact BInv.init maxBatch [] hm List.nodup_nil

theorem SInv.put (s : Sharded) (k : Bytes) (v : Val) (h : SInv s) : SInv (s.put k v) :=
  SInv.upd s k _ h (BInv.put _ k v (h.shard k))

theorem SInv.remove (s : Sharded) (k : Bytes) (h : SInv s) : SInv (s.remove k) :=
  SInv.upd s k _ h (BInv.remove _ k (h.shard k))

theorem sharded_get_upd (s : Sharded) (k k' : Bytes) (f : P → P) (w : Option Bytes) (h : SInv s)
    (hf : (f (s.shard k)).abs k' = if k' = k then w else (s.shard k).abs k') :
    (s.upd k f).get Variant.current k' = if k' = k then w else s.get Variant.current k' := by
  unfold Sharded.get
  rw [shard_upd s k k' f h]
  split
  · rename_i he
    have : s.shard k' = s.shard k := by unfold Sharded.shard; rw [he]
    rw [get_eq_abs, get_eq_abs, hf, this]
  · rename_i hne
    rw [if_neg (fun e : k' = k => hne (e ▸ rfl))]

theorem sharded_get_put (s : Sharded) (k k' : Bytes) (v : Val) (h : SInv s) :
    (s.put k v).get Variant.current k' = if k' = k then some v.bytes else s.get Variant.current k' :=
  sharded_get_upd s k k' _ _ h (abs_put _ k k' v (h.shard k))

theorem sharded_get_remove (s : Sharded) (k k' : Bytes) (h : SInv s) :
    (s.remove k).get Variant.current k' = if k' = k then none else s.get Variant.current k' :=
  sharded_get_upd s k k' _ _ h (abs_remove _ k k' (h.shard k))

/-! ### histories: every step keeps `SInv`, and the reads are those of one plain map -/

/-- one step of a history: Put/Remove are routed to one shard, `tick` fires the flush timer of every shard,
    `reopen` closes every shard and opens it again on the same path -/
def Sharded.step (s : Sharded) : Op → Sharded
  | .put k v => s.put k v
  | .rm k => s.remove k
  | .tick => s.flushAll
  | .reopen => s.reopen

def Sharded.run (n maxBatch : Nat) (ops : List Op) : Sharded := ops.foldl Sharded.step (Sharded.init n maxBatch)

theorem Sharded.run_snoc (n maxBatch : Nat) (ops : List Op) (o : Op) :
    Sharded.run n maxBatch (ops ++ [o]) = (Sharded.run n maxBatch ops).step o :=
  List.foldl_append ..

def Sharded.mapShards (s : Sharded) (f : P → P) : Sharded := { s with shards := s.shards.map f }

theorem flushAll_eq (s : Sharded) : s.flushAll = s.mapShards P.flush := rfl

theorem SInv.mapShards (s : Sharded) (f : P → P) (h : SInv s) (hf : ∀ p, BInv p → BInv (f p)) :
    SInv (s.mapShards f) := by
  refine ⟨h.1, ?_, ?_⟩
  · show (s.shards.map f).length = s.n
    rw [List.length_map]; exact h.2.1
  · intro p hp
    obtain ⟨q, hq, rfl⟩ := List.mem_map.mp hp
    exact hf q (h.2.2 q hq)

theorem SInv.flushAll (s : Sharded) (h : SInv s) : SInv s.flushAll :=
  SInv.mapShards s _ h BInv.flush

theorem SInv.reopen (s : Sharded) (h : SInv s) : SInv s.reopen :=
  SInv.mapShards s _ h BInv.reopen

theorem SInv.step (s : Sharded) (o : Op) (h : SInv s) : SInv (s.step o) := by
  cases o with
  | put k v => exact SInv.put s k v h
  | rm k => exact SInv.remove s k h
  | tick => exact SInv.flushAll s h
  | reopen => exact SInv.reopen s h

theorem shard_mapShards (s : Sharded) (f : P → P) (k : Bytes) (h : SInv s) :
    (s.mapShards f).shard k = f (s.shard k) := by
  show ((s.shards.map f)[s.idx k]?).getD _ = _
  rw [List.getElem?_map, shard_getElem? s k h]
  rfl

theorem sharded_get_mapShards (s : Sharded) (f : P → P) (k : Bytes) (h : SInv s)
    (hf : ∀ p, BInv p → (f p).abs k = p.abs k) :
    (s.mapShards f).get Variant.current k = s.get Variant.current k := by
  unfold Sharded.get
  rw [shard_mapShards s f k h, get_eq_abs, get_eq_abs, hf _ (h.shard k)]

/-- C08/C19: the timer flush of every shard changes no read -/
theorem sharded_flushAll_preserves (s : Sharded) (k : Bytes) (h : SInv s) :
    (s.flushAll).get Variant.current k = s.get Variant.current k :=
  sharded_get_mapShards s _ k h fun p hp => abs_flush p k (hp.replay k)

/-- C09/C19: Close + reopen of all shards: nothing lost, nothing resurrected -/
theorem sharded_reopen_preserves (s : Sharded) (k : Bytes) (h : SInv s) :
    (s.reopen).get Variant.current k = s.get Variant.current k :=
  sharded_get_mapShards s _ k h fun p => abs_reopen p k

theorem sharded_get_step (s : Sharded) (o : Op) (h : SInv s) :
    (s.step o).get Variant.current = specStep (s.get Variant.current) o := by
  funext x
  cases o with
  | put k v => exact sharded_get_put s k x v h
  | rm k => exact sharded_get_remove s k x h
  | tick => exact sharded_flushAll_preserves s x h
  | reopen => exact sharded_reopen_preserves s x h

theorem sharded_run_refines (ops : List Op) (s : Sharded) (h : SInv s) :
    SInv (ops.foldl Sharded.step s) ∧
      (ops.foldl Sharded.step s).get Variant.current = ops.foldl specStep (s.get Variant.current) :=
  List.foldl_rel (r := fun t m => SInv t ∧ t.get Variant.current = m) ⟨h, rfl⟩
    fun o _ t _ ⟨ht, e⟩ => ⟨ht.step t o, e ▸ sharded_get_step t o ht⟩

theorem sharded_get_init (n maxBatch : Nat) (hn : 2 ≤ n) (hm : 1 ≤ maxBatch) :
    (Sharded.init n maxBatch).get Variant.current = fun _ => none := by
  funext k
  have hmem := shard_mem _ k (SInv.init n maxBatch hn hm)
  unfold Sharded.get
  rw [(List.mem_replicate.mp hmem).2]
  rfl

/-- C08/C09/C19: any history of Put/Remove, timer flushes and close/reopen cycles, any number of shards ≥ 2, any
    batch size ≥ 1: the reads of the sharded persister are the reads of ONE plain map -/
theorem sharded_run_refines_map (n maxBatch : Nat) (hn : 2 ≤ n) (hm : 1 ≤ maxBatch) (ops : List Op) (k : Bytes) :
    (Sharded.run n maxBatch ops).get Variant.current k = (ops.foldl specStep (fun _ => none)) k := by
  rw [Sharded.run, (sharded_run_refines ops _ (SInv.init n maxBatch hn hm)).2, sharded_get_init n maxBatch hn hm]

/-! ### the routing invariant -/

def BOp.key : BOp → Bytes
  | .put k _ => k
  | .del k => k

/-- `x` is stored somewhere in `p`: in the database, in the read caches of the batch or in the pending batch -/
def P.holds (p : P) (x : Bytes) : Prop :=
  x ∈ p.db.map (·.1) ∨ x ∈ p.cached.map (·.1) ∨ x ∈ p.removed ∨ x ∈ p.ops.map BOp.key

/-- every key stored in shard `i` is a key that `computeId` routes to shard `i` -/
def Routed (s : Sharded) : Prop :=
  ∀ i p, s.shards[i]? = some p → ∀ x, p.holds x → Shard.computeId s.n x = i

theorem mem_keys_applyOp {x : Bytes} (db : Store) (op : BOp) :
    x ∈ (applyOp db op).map (·.1) → x = op.key ∨ x ∈ db.map (·.1) := by
  cases op with
  | put k v => exact mem_keys_aset
  | del k => exact fun h => Or.inr (mem_keys_aerase h)

theorem mem_keys_applyBatch {x : Bytes} (ops : List BOp) (db : Store) :
    x ∈ (applyBatch db ops).map (·.1) → x ∈ db.map (·.1) ∨ x ∈ ops.map BOp.key := by
  induction ops generalizing db with
  | nil => exact Or.inl
  | cons op r ih =>
    intro h
    rcases ih (applyOp db op) h with h | h
    · rcases mem_keys_applyOp db op h with h | h
      · exact Or.inr (h ▸ List.mem_cons_self)
      · exact Or.inl h
    · exact Or.inr (List.mem_cons_of_mem _ h)

theorem holds_init_nil (maxBatch : Nat) (x : Bytes) : ¬ (P.init maxBatch []).holds x := by
  simp [P.holds, P.init]

theorem holds_flush (p : P) (x : Bytes) (h : p.flush.holds x) : p.holds x := by
  rcases h with h | h | h | h
  · exact (mem_keys_applyBatch p.ops p.db h).imp id fun h => Or.inr (Or.inr h)
  all_goals cases h

theorem holds_reopen (p : P) (x : Bytes) (h : p.reopen.holds x) : p.holds x := by
  rcases h with h | h | h | h
  · exact holds_flush p x (Or.inl h)
  all_goals cases h

theorem holds_bump (q : P) (x : Bytes) (h : q.bump.holds x) : q.holds x := by
  rcases bump_cases q with ⟨_, e⟩ | ⟨_, e⟩ <;> rw [e] at h
  · exact h
  · exact holds_flush _ x h

theorem mem_keys_snoc {x : Bytes} {ops : List BOp} {op : BOp} (h : x ∈ (ops ++ [op]).map BOp.key) :
    x = op.key ∨ x ∈ ops.map BOp.key := by
  rw [List.map_append, List.mem_append, List.map_singleton, List.mem_singleton] at h
  exact h.symm

theorem holds_put (p : P) (k : Bytes) (v : Val) (x : Bytes) (h : (p.put k v).holds x) :
    x = k ∨ p.holds x := by
  rcases holds_bump _ x h with h | h | h | h
  · exact Or.inr (Or.inl h)
  · exact (mem_keys_aset h).imp id fun h => Or.inr (Or.inl h)
  · exact Or.inr (Or.inr (Or.inr (Or.inl ((mem_putPre_removed p k v x).mp h).1)))
  · exact (mem_keys_snoc h).imp id fun h => Or.inr (Or.inr (Or.inr h))

theorem holds_remove (p : P) (k : Bytes) (x : Bytes) (h : (p.remove k).holds x) :
    x = k ∨ p.holds x := by
  rcases holds_bump _ x h with h | h | h | h
  · exact Or.inr (Or.inl h)
  · exact Or.inr (Or.inr (Or.inl (mem_keys_aerase h)))
  · exact ((mem_rmPre_removed p k x).mp h).imp id fun h => Or.inr (Or.inr (Or.inl h))
  · exact (mem_keys_snoc h).imp id fun h => Or.inr (Or.inr (Or.inr h))

theorem Routed.init (n maxBatch : Nat) : Routed (Sharded.init n maxBatch) := by
  intro i p hp x hx
  rw [(List.mem_replicate.mp (List.mem_of_getElem? hp)).2] at hx
  exact absurd hx (holds_init_nil maxBatch x)

theorem Routed.mapShards (s : Sharded) (f : P → P) (h : Routed s) (hf : ∀ p x, (f p).holds x → p.holds x) :
    Routed (s.mapShards f) := by
  intro i p hp x hx
  obtain ⟨q, hq, rfl⟩ := Option.map_eq_some_iff.mp ((List.getElem?_map (f := f)).symm.trans hp)
  exact h i q hq x (hf q x hx)

theorem Routed.upd (s : Sharded) (k : Bytes) (f : P → P) (hs : SInv s) (h : Routed s)
    (hf : ∀ x, (f (s.shard k)).holds x → x = k ∨ (s.shard k).holds x) : Routed (s.upd k f) := by
  intro i p hp x hx
  have hp' : (s.shards.set (s.idx k) (f (s.shard k)))[i]? = some p := hp
  show Shard.computeId s.n x = i
  by_cases hi : s.idx k = i
  · subst hi
    rw [List.getElem?_set_self (idx_lt s k hs)] at hp'
    cases hp'
    rcases hf x hx with hx | hx
    · rw [hx]; rfl
    · exact h _ _ (shard_getElem? s k hs) x hx
  · rw [List.getElem?_set_ne hi] at hp'
    exact h i p hp' x hx

theorem Routed.put (s : Sharded) (k : Bytes) (v : Val) (hs : SInv s) (h : Routed s) : Routed (s.put k v) :=
  Routed.upd s k _ hs h (holds_put _ k v)

theorem Routed.remove (s : Sharded) (k : Bytes) (hs : SInv s) (h : Routed s) : Routed (s.remove k) :=
  Routed.upd s k _ hs h (holds_remove _ k)

theorem Routed.flushAll (s : Sharded) (h : Routed s) : Routed s.flushAll :=
  Routed.mapShards s _ h holds_flush

theorem Routed.reopen (s : Sharded) (h : Routed s) : Routed s.reopen :=
  Routed.mapShards s _ h holds_reopen

theorem Routed.step (s : Sharded) (o : Op) (hs : SInv s) (h : Routed s) : Routed (s.step o) := by
  cases o with
  | put k v => exact Routed.put s k v hs h
  | rm k => exact Routed.remove s k hs h
  | tick => exact Routed.flushAll s h
  | reopen => exact Routed.reopen s h

theorem run_invariants (ops : List Op) (s : Sharded) (hs : SInv s) (h : Routed s) :
    SInv (ops.foldl Sharded.step s) ∧ Routed (ops.foldl Sharded.step s) :=
  List.foldlRecOn (motive := fun t => SInv t ∧ Routed t) ops Sharded.step ⟨hs, h⟩
    fun t ⟨ht, hr⟩ o _ => ⟨ht.step t o, hr.step t o ht⟩

/-! ### RangeKeys over all shards -/

/-- C19: in ANY reachable state the keys visited by RangeKeys over all shards are pairwise distinct: each database has
    distinct keys, and a key of the database of shard `i` is routed to `i`, so two databases share none -/
theorem sharded_range_nodup_of (s : Sharded) (hs : SInv s) (h : Routed s) : (s.range.map (·.1)).Nodup := by
  show ((s.shards.flatMap P.range).map (·.1)).Pairwise (· ≠ ·)
  rw [List.map_flatMap, List.pairwise_flatMap]
  refine ⟨fun p hp => (hs.2.2 p hp).dbNodup, ?_⟩
  rw [List.pairwise_iff_getElem]
  intro i j hi hj hij x hx y hy hxy
  subst hxy
  have h1 := h i _ (List.getElem?_eq_getElem hi) x (Or.inl hx)
  have h2 := h j _ (List.getElem?_eq_getElem hj) x (Or.inl hy)
  exact Nat.ne_of_lt hij (h1.symm.trans h2)

/-- C09/C19: after the flush of every shard, RangeKeys visits each key exactly once across ALL shards -/
theorem sharded_range_nodup (s : Sharded) (hs : SInv s) (h : Routed s) :
    ((s.flushAll).range.map (·.1)).Nodup :=
  sharded_range_nodup_of _ (SInv.flushAll s hs) (Routed.flushAll s h)

/-- C19: in ANY reachable state a lookup in `range` is a lookup in the database of the key's own shard: keys are distinct
    on both sides, and a binding of `k` in some shard's database is in the database of the shard `k` is routed to -/
theorem alookup_range (s : Sharded) (k : Bytes) (hs : SInv s) (h : Routed s) :
    alookup k s.range = alookup k (s.shard k).db := by
  apply Option.ext
  intro v
  rw [alookup_iff_mem (sharded_range_nodup_of s hs h), alookup_iff_mem (hs.shard k).dbNodup]
  show (k, v) ∈ s.shards.flatMap P.range ↔ _
  rw [List.mem_flatMap]
  constructor
  · rintro ⟨q, hq, hmem⟩
    obtain ⟨i, hi⟩ := List.getElem?_of_mem hq
    have : s.idx k = i := h i q hi k (Or.inl (List.mem_map.mpr ⟨_, hmem, rfl⟩))
    rw [← this, shard_getElem? s k hs] at hi
    cases hi
    exact hmem
  · exact fun hmem => ⟨_, shard_mem s k hs, hmem⟩

/-- C09/C19: RangeKeys after the flush of every shard visits exactly the logical map: the union of the shards -/
theorem sharded_range_is_the_map (s : Sharded) (hs : SInv s) (h : Routed s) :
    ∀ k, alookup k (s.flushAll).range = s.get Variant.current k := by
  intro k
  rw [alookup_range _ k (SInv.flushAll s hs) (Routed.flushAll s h), flushAll_eq, shard_mapShards s _ k hs]
  exact (hs.shard k).replay k

theorem range_reopen (s : Sharded) : (s.reopen).range = (s.flushAll).range := by
  unfold Sharded.range Sharded.reopen Sharded.flushAll
  simp only [List.flatMap_map]
  rfl

theorem sharded_range_mem_iff (s : Sharded) (hs : SInv s) (h : Routed s) (k v : Bytes) :
    (k, v) ∈ (s.flushAll).range ↔ s.get Variant.current k = some v := by
  rw [← sharded_range_is_the_map s hs h k, alookup_iff_mem (sharded_range_nodup s hs h)]

/-! ### whole histories -/

theorem run_SInv (n maxBatch : Nat) (hn : 2 ≤ n) (hm : 1 ≤ maxBatch) (ops : List Op) :
    SInv (Sharded.run n maxBatch ops) :=
  (run_invariants ops _ (SInv.init n maxBatch hn hm) (Routed.init n maxBatch)).1

theorem run_Routed (n maxBatch : Nat) (hn : 2 ≤ n) (hm : 1 ≤ maxBatch) (ops : List Op) :
    Routed (Sharded.run n maxBatch ops) :=
  (run_invariants ops _ (SInv.init n maxBatch hn hm) (Routed.init n maxBatch)).2

/-- C09/C19: after ANY history followed by a timer flush of every shard, RangeKeys over all shards enumerates
    exactly the plain map of the history, each key once -/
theorem sharded_run_range (n maxBatch : Nat) (hn : 2 ≤ n) (hm : 1 ≤ maxBatch) (ops : List Op) :
    ((Sharded.run n maxBatch (ops ++ [Op.tick])).range.map (·.1)).Nodup ∧
    ∀ k, alookup k (Sharded.run n maxBatch (ops ++ [Op.tick])).range = (ops.foldl specStep (fun _ => none)) k := by
  have hs := run_SInv n maxBatch hn hm ops
  have hr := run_Routed n maxBatch hn hm ops
  rw [Sharded.run_snoc]
  exact ⟨sharded_range_nodup _ hs hr, fun k =>
    (sharded_range_is_the_map _ hs hr k).trans (sharded_run_refines_map n maxBatch hn hm ops k)⟩

theorem sharded_run_range_reopen (n maxBatch : Nat) (hn : 2 ≤ n) (hm : 1 ≤ maxBatch) (ops : List Op) :
    ((Sharded.run n maxBatch (ops ++ [Op.reopen])).range.map (·.1)).Nodup ∧
    ∀ k, alookup k (Sharded.run n maxBatch (ops ++ [Op.reopen])).range = (ops.foldl specStep (fun _ => none)) k := by
  have h := sharded_run_range n maxBatch hn hm ops
  rw [Sharded.run_snoc] at h ⊢
  exact range_reopen _ ▸ h

theorem sharded_run_range_mem_iff (n maxBatch : Nat) (hn : 2 ≤ n) (hm : 1 ≤ maxBatch) (ops : List Op) (k v : Bytes) :
    (k, v) ∈ ((ops ++ [Op.tick]).foldl Sharded.step (Sharded.init n maxBatch)).range
      ↔ (ops.foldl specStep (fun _ => none)) k = some v := by
  obtain ⟨hnd, hl⟩ := sharded_run_range n maxBatch hn hm ops
  rw [← hl k]
  exact (alookup_iff_mem hnd).symm

/-! ### non-vacuity: 3 shards, batch size 2, a 7-operation history over all three shards with a reopen in the middle -/

section example_history

example : Shard.computeId 3 [1] = 1 ∧ Shard.computeId 3 [2] = 2 ∧ Shard.computeId 3 [3] = 1 ∧
    Shard.computeId 3 [4] = 0 := by decide +kernel

/-- keys `[1]`,`[3]` live in shard 1, `[2]` in shard 2, `[4]` in shard 0; the third Put fills the batch of shard 1
    (flush by size), the reopen closes everything, the last three operations stay pending, one in each shard -/
def exHist : List Op :=
  [.put [1] ⟨false, [10]⟩, .put [2] ⟨false, [20]⟩, .put [3] ⟨false, [30]⟩, .reopen,
   .rm [1], .put [4] ⟨false, [40]⟩, .put [2] ⟨false, [21]⟩]

example : exHist.length = 7 := rfl

example : SInv (Sharded.run 3 2 exHist) ∧ Routed (Sharded.run 3 2 exHist) :=
  ⟨run_SInv 3 2 (by decide) (by decide) _, run_Routed 3 2 (by decide) (by decide) _⟩

/-- that state is not trivial: every shard has a pending operation; `[1]` is removed but still in the database of
    shard 1, `[2]` is overwritten but the database of shard 2 still has the old value, `[4]` is in no database yet -/
example : ((Sharded.run 3 2 exHist).shards.map (·.ops)) = [[.put [4] [40]], [.del [1]], [.put [2] [21]]] := by decide +kernel
example : ((Sharded.run 3 2 exHist).shards.map (·.db)) = [[], [([1], [10]), ([3], [30])], [([2], [20])]] := by decide +kernel

example : (Sharded.run 3 2 exHist).get Variant.current [1] = none := by decide +kernel
example : (Sharded.run 3 2 exHist).get Variant.current [2] = some [21] := by decide +kernel
example : (Sharded.run 3 2 exHist).get Variant.current [3] = some [30] := by decide +kernel
example : (Sharded.run 3 2 exHist).get Variant.current [4] = some [40] := by decide +kernel
example : (Sharded.run 3 2 exHist).get Variant.current [5] = none := by decide +kernel

/-- the reads in the middle of the history, right after the reopen -/
example : (Sharded.run 3 2 (exHist.take 4)).get Variant.current [1] = some [10] ∧
    (Sharded.run 3 2 (exHist.take 4)).get Variant.current [2] = some [20] ∧
    (Sharded.run 3 2 (exHist.take 4)).get Variant.current [3] = some [30] := by decide +kernel

/-- RangeKeys: before the flush the pending operations are not visible, after the flush it is exactly the map -/
example : (Sharded.run 3 2 exHist).range = [([1], [10]), ([3], [30]), ([2], [20])] := by decide +kernel
example : (Sharded.run 3 2 (exHist ++ [.tick])).range = [([4], [40]), ([3], [30]), ([2], [21])] := by decide +kernel
example : (Sharded.run 3 2 (exHist ++ [.reopen])).range = [([4], [40]), ([3], [30]), ([2], [21])] := by decide +kernel

example (k : Bytes) : (Sharded.run 3 2 exHist).get Variant.current k = (exHist.foldl specStep (fun _ => none)) k :=
  sharded_run_refines_map 3 2 (by decide) (by decide) exHist k

example : ∀ k, alookup k (Sharded.run 3 2 (exHist ++ [.tick])).range = (exHist.foldl specStep (fun _ => none)) k :=
  (sharded_run_range 3 2 (by decide) (by decide) exHist).2

end example_history

/-! ### the routing invariant is needed: `SInv` alone does not make `range` a map -/

/-- two well-formed shards that both hold key `[1]` (which is routed to shard 1) -/
def exMisrouted : Sharded := ⟨2, [P.init 1 [([1], [7])], P.init 1 [([1], [8])]]⟩

example : SInv exMisrouted := by
  refine ⟨by decide, rfl, ?_⟩
  intro p hp
  simp only [exMisrouted, List.mem_cons, List.not_mem_nil, or_false] at hp
  rcases hp with rfl | rfl <;> exact BInv.init 1 _ (by decide) (by decide)

example : ¬ Routed exMisrouted := by
  intro h
  have := h 0 _ rfl [1] (Or.inl (by decide))
  revert this
  decide

example : ¬ ((exMisrouted.flushAll).range.map (·.1)).Nodup := by decide +kernel
example : alookup [1] (exMisrouted.flushAll).range = some [7] ∧ exMisrouted.get Variant.current [1] = some [8] := by
  decide +kernel

end SV.Persist
