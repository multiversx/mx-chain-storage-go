/-
  SV.Persist.Proofs — the batching persister behaves as a plain map (C08, C09, C10 logic part),
  and the F8 counter-example for the legacy variant.
-/
import SV.Persist.Model
import SV.AssocList
namespace SV.Persist
open SV

/-! ### the LevelDB batch -/

theorem applyBatch_snoc (db : Store) (ops : List BOp) (op : BOp) :
    applyBatch db (ops ++ [op]) = applyOp (applyBatch db ops) op := by
  simp [applyBatch, List.foldl_append]

theorem alookup_applyOp_put (db : Store) (k v x : Bytes) :
    alookup x (applyOp db (.put k v)) = if x = k then some v else alookup x db := by
  simp [applyOp, alookup_aset]

theorem alookup_applyOp_del (db : Store) (k x : Bytes) :
    alookup x (applyOp db (.del k)) = if x = k then none else alookup x db := by
  simp [applyOp, alookup_aerase]

theorem nodup_applyOp (db : Store) (op : BOp) (h : (db.map (·.1)).Nodup) :
    ((applyOp db op).map (·.1)).Nodup := by
  cases op with
  | put k v => exact nodup_keys_aset k v h
  | del k => exact nodup_keys_aerase k h

theorem nodup_applyBatch (ops : List BOp) (db : Store) (h : (db.map (·.1)).Nodup) :
    ((applyBatch db ops).map (·.1)).Nodup := by
  induction ops generalizing db with
  | nil => exact h
  | cons op r ih => exact ih _ (nodup_applyOp db op h)

/-! ### the invariant -/

structure BInv (p : P) : Prop where
  disjoint : ∀ k, k ∈ p.removed → alookup k p.cached = none
  replay : ∀ k, alookup k (applyBatch p.db p.ops) = p.abs k
  dbNodup : (p.db.map (·.1)).Nodup
  count : p.sizeBatch = p.ops.length
  size : p.sizeBatch < p.maxBatch

/-- the state between the bookkeeping of Put/Remove and `updateBatchWithIncrement` -/
structure Pre (q : P) : Prop where
  disjoint : ∀ k, k ∈ q.removed → alookup k q.cached = none
  replay : ∀ k, alookup k (applyBatch q.db q.ops) = q.abs k
  dbNodup : (q.db.map (·.1)).Nodup
  count : q.sizeBatch + 1 = q.ops.length
  size : q.sizeBatch < q.maxBatch

/-! #### the logical map -/

theorem abs_of_removed {p : P} {k : Bytes} (h : k ∈ p.removed) : p.abs k = none :=
  if_pos (List.contains_iff_mem.mpr h)

theorem abs_of_cached {p : P} {k : Bytes} {v : Val} (hr : k ∉ p.removed) (hc : alookup k p.cached = some v) :
    p.abs k = some v.bytes := by
  unfold P.abs
  rw [if_neg (fun h => hr (List.contains_iff_mem.mp h)), hc]

theorem abs_congr {p q : P} {k : Bytes} (hr : k ∈ q.removed ↔ k ∈ p.removed)
    (hc : alookup k q.cached = alookup k p.cached) (hd : alookup k q.db = alookup k p.db) : q.abs k = p.abs k := by
  have : q.removed.contains k = p.removed.contains k := by
    rw [Bool.eq_iff_iff, List.contains_iff_mem, List.contains_iff_mem, hr]
  unfold P.abs
  rw [this, hc, hd]

/-! #### flush and `updateBatchWithIncrement` -/

theorem BInv.flush_of (p : P) (hd : (p.db.map (·.1)).Nodup) (hm : 0 < p.maxBatch) : BInv p.flush where
  disjoint := fun _ hk => nomatch hk
  replay := fun _ => rfl
  dbNodup := nodup_applyBatch p.ops p.db hd
  count := rfl
  size := hm

theorem bump_cases (q : P) :
    (q.sizeBatch + 1 < q.maxBatch ∧ q.bump = { q with sizeBatch := q.sizeBatch + 1 }) ∨
    (¬ q.sizeBatch + 1 < q.maxBatch ∧ q.bump = P.flush { q with sizeBatch := q.sizeBatch + 1 }) :=
  (Decidable.em (q.sizeBatch + 1 < q.maxBatch)).imp (fun h => ⟨h, if_pos h⟩) (fun h => ⟨h, if_neg h⟩)

theorem Pre.bump (q : P) (h : Pre q) : BInv q.bump := by
  rcases bump_cases q with ⟨hlt, e⟩ | ⟨_, e⟩ <;> rw [e]
  · exact ⟨h.disjoint, h.replay, h.dbNodup, h.count, hlt⟩
  · exact BInv.flush_of _ h.dbNodup (Nat.zero_lt_of_lt h.size)

/-- C08: a flush (by size or by the timer) never changes what is read: after it nothing is pending, the logical map is
    the new database, which is the replay -/
theorem abs_flush (p : P) (k : Bytes) (hr : alookup k (applyBatch p.db p.ops) = p.abs k) : p.flush.abs k = p.abs k :=
  hr

theorem abs_bump (q : P) (k : Bytes) (hr : alookup k (applyBatch q.db q.ops) = q.abs k) : q.bump.abs k = q.abs k := by
  rcases bump_cases q with ⟨_, e⟩ | ⟨_, e⟩ <;> rw [e]
  · rfl
  · exact hr

/-! #### the bookkeeping of Put and Remove -/

def putPre (p : P) (k : Bytes) (v : Val) : P :=
  { p with cached := aset k v p.cached, removed := p.removed.filter (· != k), ops := p.ops ++ [.put k v.bytes] }

def rmPre (p : P) (k : Bytes) : P :=
  { p with removed := if p.removed.contains k then p.removed else p.removed ++ [k],
           cached := aerase k p.cached, ops := p.ops ++ [.del k] }

theorem put_eq (p : P) (k : Bytes) (v : Val) : p.put k v = (putPre p k v).bump := rfl
theorem remove_eq (p : P) (k : Bytes) : p.remove k = (rmPre p k).bump := rfl

theorem mem_putPre_removed (p : P) (k : Bytes) (v : Val) (x : Bytes) :
    x ∈ (putPre p k v).removed ↔ x ∈ p.removed ∧ x ≠ k := by
  show x ∈ p.removed.filter (· != k) ↔ _
  rw [List.mem_filter, bne_iff_ne]

theorem mem_rmPre_removed (p : P) (k x : Bytes) :
    x ∈ (rmPre p k).removed ↔ x = k ∨ x ∈ p.removed := by
  unfold rmPre
  dsimp only
  split
  · rename_i hc
    have hc' : k ∈ p.removed := by simpa using hc
    exact ⟨Or.inr, fun h => h.elim (fun e => e ▸ hc') id⟩
  · simp [or_comm]

theorem abs_putPre (p : P) (k k' : Bytes) (v : Val) :
    (putPre p k v).abs k' = if k' = k then some v.bytes else p.abs k' := by
  have hmem := mem_putPre_removed p k v k'
  by_cases hk : k' = k
  · rw [if_pos hk, hk]
    exact abs_of_cached (fun h => ((mem_putPre_removed p k v k).mp h).2 rfl) (alookup_aset_self k v p.cached)
  · rw [if_neg hk]
    exact abs_congr (by rw [hmem, and_iff_left hk]) (alookup_aset_ne v p.cached hk) rfl

theorem abs_rmPre (p : P) (k k' : Bytes) :
    (rmPre p k).abs k' = if k' = k then none else p.abs k' := by
  have hmem := mem_rmPre_removed p k k'
  by_cases hk : k' = k
  · rw [if_pos hk]
    exact abs_of_removed (hmem.mpr (Or.inl hk))
  · rw [if_neg hk]
    exact abs_congr (by rw [hmem, or_iff_right hk]) (alookup_aerase_ne p.cached hk) rfl

/-- the bookkeeping keeps removed and cached keys disjoint and the replay right in ANY state where they are, whatever
    the counters: so stated, the two facts serve the invariant between operations, the one between blocks of the
    interleaving model, and `Pre` -/
theorem disjoint_putPre (p : P) (k : Bytes) (v : Val) (h : ∀ x, x ∈ p.removed → alookup x p.cached = none) :
    ∀ x, x ∈ (putPre p k v).removed → alookup x (putPre p k v).cached = none := by
  intro x hx
  obtain ⟨hx, hne⟩ := (mem_putPre_removed p k v x).mp hx
  exact (alookup_aset_ne v _ hne).trans (h x hx)

theorem replay_putPre (p : P) (k : Bytes) (v : Val) (h : ∀ x, alookup x (applyBatch p.db p.ops) = p.abs x) :
    ∀ x, alookup x (applyBatch (putPre p k v).db (putPre p k v).ops) = (putPre p k v).abs x := by
  intro x
  rw [abs_putPre, ← h x]
  show alookup x (applyBatch p.db (p.ops ++ [.put k v.bytes])) = _
  rw [applyBatch_snoc, alookup_applyOp_put]

theorem disjoint_rmPre (p : P) (k : Bytes) (h : ∀ x, x ∈ p.removed → alookup x p.cached = none) :
    ∀ x, x ∈ (rmPre p k).removed → alookup x (rmPre p k).cached = none := by
  intro x hx
  show alookup x (aerase k p.cached) = none
  by_cases hk : x = k
  · rw [hk, alookup_aerase_self]
  · rw [alookup_aerase_ne _ hk]
    exact h x (((mem_rmPre_removed p k x).mp hx).resolve_left hk)

theorem replay_rmPre (p : P) (k : Bytes) (h : ∀ x, alookup x (applyBatch p.db p.ops) = p.abs x) :
    ∀ x, alookup x (applyBatch (rmPre p k).db (rmPre p k).ops) = (rmPre p k).abs x := by
  intro x
  rw [abs_rmPre, ← h x]
  show alookup x (applyBatch p.db (p.ops ++ [.del k])) = _
  rw [applyBatch_snoc, alookup_applyOp_del]

theorem Pre.put (p : P) (k : Bytes) (v : Val) (h : BInv p) : Pre (putPre p k v) where
  disjoint := disjoint_putPre p k v h.disjoint
  replay := replay_putPre p k v h.replay
  dbNodup := h.dbNodup
  count := by
    show p.sizeBatch + 1 = (p.ops ++ [BOp.put k v.bytes]).length
    rw [List.length_append, h.count]; rfl
  size := h.size

theorem Pre.remove (p : P) (k : Bytes) (h : BInv p) : Pre (rmPre p k) where
  disjoint := disjoint_rmPre p k h.disjoint
  replay := replay_rmPre p k h.replay
  dbNodup := h.dbNodup
  count := by
    show p.sizeBatch + 1 = (p.ops ++ [BOp.del k]).length
    rw [List.length_append, h.count]; rfl
  size := h.size

/-! #### the invariant is kept by every operation, and the logical map moves as a plain map -/

theorem BInv.init (maxBatch : Nat) (db : Store) (hm : 1 ≤ maxBatch) (hd : (db.map (·.1)).Nodup) :
    BInv (P.init maxBatch db) where
  disjoint := fun _ hk => nomatch hk
  replay := fun _ => rfl
  dbNodup := hd
  count := rfl
  size := hm

theorem BInv.put (p : P) (k : Bytes) (v : Val) (h : BInv p) : BInv (p.put k v) :=
  (Pre.put p k v h).bump

theorem BInv.remove (p : P) (k : Bytes) (h : BInv p) : BInv (p.remove k) :=
  (Pre.remove p k h).bump

theorem BInv.flush (p : P) (h : BInv p) : BInv p.flush :=
  BInv.flush_of p h.dbNodup (Nat.zero_lt_of_lt h.size)

theorem BInv.reopen (p : P) (h : BInv p) : BInv p.reopen :=
  BInv.init _ _ (Nat.zero_lt_of_lt h.size) (BInv.flush p h).dbNodup

/-- C08: Get/Has return the logical map, whatever the batching state (the current variant does not test for nil) -/
theorem get_eq_abs (p : P) (k : Bytes) : p.get Variant.current k = p.abs k := rfl

theorem has_eq_abs (p : P) (k : Bytes) : p.has Variant.current k = (p.abs k).isSome := rfl

/-- C08: the logical map behaves like a plain map under Put and Remove, for every batch size -/
theorem abs_put (p : P) (k k' : Bytes) (v : Val) (h : BInv p) :
    (p.put k v).abs k' = if k' = k then some v.bytes else p.abs k' := by
  rw [put_eq, abs_bump _ _ ((Pre.put p k v h).replay k'), abs_putPre]

theorem abs_remove (p : P) (k k' : Bytes) (h : BInv p) :
    (p.remove k).abs k' = if k' = k then none else p.abs k' := by
  rw [remove_eq, abs_bump _ _ ((Pre.remove p k h).replay k'), abs_rmPre]

/-- C09: Close + reopen yields exactly the same map -/
theorem abs_reopen (p : P) (k : Bytes) (h : BInv p) : p.reopen.abs k = p.abs k :=
  (show p.reopen.abs k = p.flush.abs k from rfl).trans (abs_flush p k (h.replay k))

/-- C09: after a flush RangeKeys enumerates exactly the logical map, each key once -/
theorem range_after_flush (p : P) (h : BInv p) :
    ((p.flush.range).map (·.1)).Nodup ∧ ∀ k, alookup k p.flush.range = p.abs k :=
  ⟨(BInv.flush p h).dbNodup, h.replay⟩

/-- C10 (logic part): every acknowledged operation is counted by sizeBatch, and sizeBatch < maxBatch after every
    operation: an acknowledged write is flushed after at most maxBatch − 1 further operations -/
theorem pending_bounded (p : P) (h : BInv p) : p.ops.length < p.maxBatch :=
  h.count ▸ h.size

/-! ### histories -/

inductive Op where
  | put (k : Bytes) (v : Val) | rm (k : Bytes) | tick | reopen

def P.step (p : P) : Op → P
  | .put k v => p.put k v
  | .rm k => p.remove k
  | .tick => p.flush
  | .reopen => p.reopen

/-- the reference: a plain map -/
def specStep (m : Bytes → Option Bytes) : Op → (Bytes → Option Bytes)
  | .put k v => fun x => if x = k then some v.bytes else m x
  | .rm k => fun x => if x = k then none else m x
  | .tick => m
  | .reopen => m

theorem BInv.step (p : P) (o : Op) (h : BInv p) : BInv (p.step o) := by
  cases o with
  | put k v => exact BInv.put p k v h
  | rm k => exact BInv.remove p k h
  | tick => exact BInv.flush p h
  | reopen => exact BInv.reopen p h

theorem abs_step (p : P) (o : Op) (h : BInv p) : (p.step o).abs = specStep p.abs o := by
  funext x
  cases o with
  | put k v => exact abs_put p k x v h
  | rm k => exact abs_remove p k x h
  | tick => exact abs_flush p x (h.replay x)
  | reopen => exact abs_reopen p x h

theorem run_refines (ops : List Op) (p : P) (h : BInv p) :
    BInv (ops.foldl P.step p) ∧ (ops.foldl P.step p).abs = ops.foldl specStep p.abs :=
  List.foldl_rel (r := fun q m => BInv q ∧ q.abs = m) ⟨h, rfl⟩
    fun o _ q _ ⟨hq, e⟩ => ⟨hq.step q o, e ▸ abs_step q o hq⟩

/-- C08/C09: any history of Put/Remove, timer flushes and close/reopen cycles, any batch size ≥ 1: reads are the reads of a plain map -/
theorem run_refines_map (maxBatch : Nat) (hm : 1 ≤ maxBatch) (ops : List Op) (k : Bytes) :
    (ops.foldl P.step (P.init maxBatch [])).get Variant.current k = (ops.foldl specStep (fun _ => none)) k :=
  congrFun (run_refines ops (P.init maxBatch []) (BInv.init maxBatch [] hm List.nodup_nil)).2 k

/-- F8 (pre-repair): a nil value in the pending batch read as "absent" -/
theorem legacy_nil_counterexample :
    ∃ (p : P) (k : Bytes), (p.put k ⟨true, []⟩).get Variant.legacy k ≠ (p.put k ⟨true, []⟩).abs k :=
  ⟨P.init 2 [], [], by decide⟩

end SV.Persist
