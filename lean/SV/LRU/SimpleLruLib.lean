/-
  SV.LRU.SimpleLruLib — hashicorp/golang-lru v0.6.0 `simplelru.LRU` (and the `ContainsOrAdd` of the `lru.Cache`
  wrapper) modelled AS THE LIBRARY IMPLEMENTS IT, and the proof that this model refines the hand-written plain-LRU
  model `SV.LRU.Simple` (SV/LRU/Model.lean) that property C15 is stated on.

  Library state (simplelru/lru.go):
      type LRU struct { size int; evictList *list.List; items map[interface{}]*list.Element; onEvict EvictCallback }
  Model state:
      `size`       the capacity (`NewLRU` refuses `size <= 0`);
      `evictList`  `container/list` abstracted to the sequence of its elements, FRONT (most recent) FIRST; an element is
                   `(id, key, value)`: `id` stands for the identity of the `*list.Element`, `key`/`value` for the
                   `*entry` it carries;
      `items`      the Go map as an association list key ↦ element id (the map stores POINTERS to list elements, the value
                   is reached through the pointer, which is why `Add` on a present key can overwrite it in place);
      `nextId`     allocation counter: ids are never reused;
      `onEvict`    is not state: every operation returns the list of `(key, value)` pairs the callback is invoked with,
                   in invocation order.
  Not modelled: `Resize` and `GetOldest` (not reachable through `types.LRUCacheHandler`, the interface lrucache.go uses).

  Results
    * `Inv` (representation invariant), kept by every operation (`inv_step`);
    * `step_refines`, `lib_refines_plain_model` (every history), `lib_refines_plain_model_eq` (equal traces without `Purge`);
    * on the library model (section 8): `lib_len_le_size`, `lib_add_evicts_lru` and one corollary `lib_…` per operation;
    * `lib_refines_reference`: under the `lruCache` wrapper the library model refines the reference LRU of RefSpec.lean.
  Correspondence with the hand model `Simple`: under `Inv` the common operations behave alike — that is `step_refines` (`Add`
  returns false on overwrite in both, `Keys` is oldest-first in both, `ContainsOrAdd` does not refresh in both).  What the
  hand model lacks: the `present` result of `Remove` (read off as `has`), `RemoveOldest` (`dropLast`), and the callback altogether —
  its counterpart is `gone`, the entries that leave the state.  Two facts about the callback worth knowing: the library
  invokes it on `Remove`/`RemoveOldest`/`Purge` too, not only on capacity evictions (`lib_remove`), and `Purge` invokes it in
  Go's map iteration order, so only the multiset of `Purge` callbacks is determined (last-but-one example of section 10).
-/
import SV.LRU.RefSpec
import SV.PtrList
namespace SV.LRU.Lib
open SV SV.LRU SV.PtrList

/-! ## 1. The model -/

/-- a `*list.Element` whose `Value` is an `*entry{key, value}` -/
structure Elem where
  id : Nat
  key : Bytes
  val : Bytes
  deriving Repr, DecidableEq

def Elem.kv (e : Elem) : Bytes × Bytes := (e.key, e.val)

/-- the pairs the `onEvict` callback is invoked with, in order -/
abbrev Cb := List (Bytes × Bytes)

/-! ### `container/list`, reduced to the order of the elements -/
namespace DL

/-- following an element pointer -/
def deref (l : List Elem) (id : Nat) : Option Elem := l.find? (·.id == id)
/-- `PushFront` -/
def pushFront (e : Elem) (l : List Elem) : List Elem := e :: l
/-- `MoveToFront(e)` (a no-op when `e` is not an element of the list, as in Go) -/
def moveToFront (l : List Elem) (id : Nat) : List Elem :=
  match deref l id with
  | none => l
  | some e => e :: l.filter (·.id != id)
/-- `Remove(e)` -/
def remove (l : List Elem) (id : Nat) : List Elem := l.filter (·.id != id)
/-- `Back()` -/
def back (l : List Elem) : Option Elem := l.getLast?
/-- `e.Value.(*entry).value = v` -/
def setValue (l : List Elem) (id : Nat) (v : Bytes) : List Elem :=
  l.map (fun e => if e.id == id then { e with val := v } else e)

end DL

structure LRU where
  size : Nat
  evictList : List Elem
  items : List (Bytes × Nat)
  nextId : Nat
  deriving Repr

namespace LRU

/-- `NewLRU(size, onEvict)`; Go returns an error for `size <= 0`, hence `0 < size` in the invariant -/
def new (size : Nat) : LRU := ⟨size, [], [], 0⟩

/-- `removeElement(e)`: `evictList.Remove(e)`, `delete(items, kv.key)`, `onEvict(kv.key, kv.value)` -/
def removeElement (c : LRU) (e : Elem) : LRU × Cb :=
  ({ c with evictList := DL.remove c.evictList e.id, items := aerase e.key c.items }, [e.kv])

/-- the unexported `removeOldest()` -/
def evictOldest (c : LRU) : LRU × Cb :=
  match DL.back c.evictList with
  | some e => c.removeElement e
  | none => (c, [])

/-- `ent := &entry{key, value}; entry := evictList.PushFront(ent); items[key] = entry` -/
def pushNew (c : LRU) (k v : Bytes) : LRU :=
  { c with evictList := DL.pushFront ⟨c.nextId, k, v⟩ c.evictList, items := aset k c.nextId c.items,
           nextId := c.nextId + 1 }

/-- `Add` → (cache, evicted, callback invocations) -/
def add (c : LRU) (k v : Bytes) : LRU × Bool × Cb :=
  match alookup k c.items with
  | some id => ({ c with evictList := DL.setValue (DL.moveToFront c.evictList id) id v }, false, [])
  | none =>
    if (c.pushNew k v).evictList.length > (c.pushNew k v).size then
      ((c.pushNew k v).evictOldest.1, true, (c.pushNew k v).evictOldest.2)
    else (c.pushNew k v, false, [])

/-- `Get` → (cache, value if ok).  (`ent.Value.(*entry) == nil` never holds: only `Add` creates elements.) -/
def get (c : LRU) (k : Bytes) : LRU × Option Bytes :=
  match alookup k c.items with
  | some id => ({ c with evictList := DL.moveToFront c.evictList id }, (DL.deref c.evictList id).map (·.val))
  | none => (c, none)

/-- `Contains` -/
def contains (c : LRU) (k : Bytes) : Bool := (alookup k c.items).isSome

/-- `Peek` -/
def peek (c : LRU) (k : Bytes) : Option Bytes :=
  match alookup k c.items with
  | some id => (DL.deref c.evictList id).map (·.val)
  | none => none

/-- `Remove` → (cache, present, callback invocations).  The `none` branch of the inner match is a dangling map entry;
    the invariant excludes it (`Inv.deref`). -/
def remove (c : LRU) (k : Bytes) : LRU × Bool × Cb :=
  match alookup k c.items with
  | some id =>
    match DL.deref c.evictList id with
    | some e => ((c.removeElement e).1, true, (c.removeElement e).2)
    | none => (c, true, [])
  | none => (c, false, [])

/-- `RemoveOldest` → (cache, (key, value) if ok, callback invocations) -/
def removeOldest (c : LRU) : LRU × Option (Bytes × Bytes) × Cb :=
  match DL.back c.evictList with
  | some e => ((c.removeElement e).1, some e.kv, (c.removeElement e).2)
  | none => (c, none, [])

/-- `Keys`: oldest to newest (walks `Back()`, `Prev()`, … into a slice of `len(items)` slots; `Inv.sameLen` says the
    slice is filled exactly) -/
def keys (c : LRU) : List Bytes := c.evictList.reverse.map (·.key)

/-- `Len` -/
def len (c : LRU) : Nat := c.evictList.length

/-- `Purge`: `for k, v := range items { onEvict(k, v.Value.(*entry).value); delete(items, k) }; evictList.Init()`.
    Go iterates the map in an unspecified order; the model uses the order of the association list, and the theorems
    about `purge` only speak about the callback list up to permutation. -/
def purge (c : LRU) : LRU × Cb :=
  ({ c with evictList := [], items := [] },
   c.items.filterMap (fun p => (DL.deref c.evictList p.2).map (fun e => (p.1, e.val))))

/-- `lru.Cache.ContainsOrAdd` → (cache, ok, evicted, callback invocations).  (With a callback installed the wrapper
    buffers the pair handed to `onEvict` and invokes the user callback with it after unlocking: same pair.) -/
def containsOrAdd (c : LRU) (k v : Bytes) : LRU × Bool × Bool × Cb :=
  if c.contains k then (c, true, false, []) else ((c.add k v).1, false, (c.add k v).2.1, (c.add k v).2.2)

end LRU

/-! ### operations and outputs -/

inductive Op
  | add (k v : Bytes)
  | get (k : Bytes)
  | contains (k : Bytes)
  | peek (k : Bytes)
  | remove (k : Bytes)
  | removeOldest
  | keys
  | len
  | purge
  | containsOrAdd (k v : Bytes)
  deriving Repr, DecidableEq

inductive Out
  | evicted (b : Bool)
  | value (v : Option Bytes)
  | present (b : Bool)
  | removed (b : Bool)
  | oldest (kv : Option (Bytes × Bytes))
  | keys (l : List Bytes)
  | len (n : Nat)
  | purged
  | okEvicted (ok evicted : Bool)
  deriving Repr, DecidableEq

/-- one call on the library model → (cache, return value, callback invocations) -/
def LRU.step (c : LRU) : Op → LRU × Out × Cb
  | .add k v => ((c.add k v).1, .evicted (c.add k v).2.1, (c.add k v).2.2)
  | .get k => ((c.get k).1, .value (c.get k).2, [])
  | .contains k => (c, .present (c.contains k), [])
  | .peek k => (c, .value (c.peek k), [])
  | .remove k => ((c.remove k).1, .removed (c.remove k).2.1, (c.remove k).2.2)
  | .removeOldest => (c.removeOldest.1, .oldest c.removeOldest.2.1, c.removeOldest.2.2)
  | .keys => (c, .keys c.keys, [])
  | .len => (c, .len c.len, [])
  | .purge => (c.purge.1, .purged, c.purge.2)
  | .containsOrAdd k v =>
    ((c.containsOrAdd k v).1, .okEvicted (c.containsOrAdd k v).2.1 (c.containsOrAdd k v).2.2.1,
     (c.containsOrAdd k v).2.2.2)

/-! ### the hand-written model, driven by the same operations

`SV.LRU.Simple` has no callback.  What the callback reports is, on a model that only has states, the set of entries that
were resident before the call and are not resident after it: `gone`, oldest first.  `Simple` has no `RemoveOldest`
either; it is the obvious `dropLast` on the recency list (front = most recent). -/

/-- entries of `s` whose key is no longer resident in `s'`, oldest first -/
def gone (s s' : Simple) : Cb := s.entries.reverse.filter (fun p => !s'.has p.1)

def plainNext (s : Simple) : Op → Simple × Out
  | .add k v => ((s.add k v).1, .evicted (s.add k v).2)
  | .get k => ((s.get k).1, .value (s.get k).2)
  | .contains k => (s, .present (s.has k))
  | .peek k => (s, .value (s.peek k))
  | .remove k => (s.remove k, .removed (s.has k))
  | .removeOldest => ({ s with entries := s.entries.dropLast }, .oldest s.entries.getLast?)
  | .keys => (s, .keys s.keys)
  | .len => (s, .len s.entries.length)
  | .purge => ({ s with entries := [] }, .purged)
  | .containsOrAdd k v => ((s.containsOrAdd k v).1, .okEvicted (s.containsOrAdd k v).2.1 (s.containsOrAdd k v).2.2)

def plainStep (s : Simple) (op : Op) : Simple × Out × Cb :=
  ((plainNext s op).1, (plainNext s op).2, gone s (plainNext s op).1)

/-- the abstraction function: forget element ids and the map -/
def LRU.abs (c : LRU) : Simple := ⟨c.size, c.evictList.map Elem.kv⟩

/-! ### histories -/

/-- what a caller sees of one call: the return value and the callback invocations -/
abbrev CallObs := Out × Cb

def finalState {σ : Type} (step : σ → Op → σ × Out × Cb) : σ → List Op → σ
  | s, [] => s
  | s, op :: ops => finalState step (step s op).1 ops

def trace {σ : Type} (step : σ → Op → σ × Out × Cb) : σ → List Op → List CallObs
  | _, [] => []
  | s, op :: ops => (step s op).2 :: trace step (step s op).1 ops

/-- equal return value; equal callback invocations in the same order — except for `Purge`, where Go's map iteration
    order is unspecified: there the same pairs, in some order -/
def ObsEq (a b : CallObs) : Prop := a.1 = b.1 ∧ (if a.1 = Out.purged then a.2.Perm b.2 else a.2 = b.2)

def TraceEq : List CallObs → List CallObs → Prop
  | [], [] => True
  | a :: as, b :: bs => ObsEq a b ∧ TraceEq as bs
  | _, _ => False

/-- size 2; an eviction (step 4 evicts key 2, NOT key 1 which step 3 refreshed), a refresh by `Get`, an overwrite -/
def demo : List Op :=
  [ .add [1] [10], .add [2] [20], .get [1], .add [3] [30], .add [1] [11], .containsOrAdd [4] [40] ]

/-! ## 2. The representation invariant -/

/-- the part of the invariant that also holds between `PushFront` and `removeOldest` inside `Add` -/
structure Core (c : LRU) : Prop where
  /-- no key twice in the list -/
  keysNodup : (c.evictList.map (·.key)).Nodup
  /-- an element is linked once -/
  idsNodup : (c.evictList.map (·.id)).Nodup
  /-- ids are never reused -/
  idsFresh : ∀ e ∈ c.evictList, e.id < c.nextId
  /-- a Go map binds a key once -/
  itemsNodup : (c.items.map (·.1)).Nodup
  /-- `items[k]` is (the pointer to) the list element that carries key `k` — in both directions -/
  lookup : ∀ k, alookup k c.items = (c.evictList.find? (·.key == k)).map (·.id)

/-- the representation invariant of `simplelru.LRU` -/
structure Inv (c : LRU) : Prop where
  core : Core c
  sizePos : 0 < c.size
  bound : c.evictList.length ≤ c.size

theorem Core.agree {c : LRU} (h : Core c) : Agree Elem.id Elem.key c.items c.evictList c.nextId :=
  ⟨h.keysNodup, h.idsNodup, h.idsFresh, h.itemsNodup, h.lookup⟩

theorem Core.of_agree {c : LRU} (h : Agree Elem.id Elem.key c.items c.evictList c.nextId) : Core c :=
  ⟨h.keysNodup, h.idsNodup, h.idsFresh, h.itemsNodup, h.lookup⟩

theorem Core.resolve {c : LRU} (h : Core c) {k : Bytes} {id : Nat} (hl : alookup k c.items = some id) :
    ∃ e, e ∈ c.evictList ∧ e.key = k ∧ e.id = id ∧ c.evictList.find? (·.key == k) = some e ∧
      DL.deref c.evictList id = some e := h.agree.resolve hl

theorem Core.absent {c : LRU} (h : Core c) {k : Bytes} (hl : alookup k c.items = none) :
    c.evictList.find? (·.key == k) = none := h.agree.absent hl

theorem Core.removeElement {c : LRU} (h : Core c) {e : Elem} (he : e ∈ c.evictList) :
    Core (c.removeElement e).1 ∧ (c.removeElement e).1.evictList = c.evictList.filter (·.key != e.key) ∧
    (c.removeElement e).1.size = c.size :=
  ⟨.of_agree (h.agree.erase he), h.agree.filter_ptr he, rfl⟩

theorem Core.pushNew {c : LRU} (h : Core c) {k : Bytes} (v : Bytes) (hl : alookup k c.items = none) :
    Core (c.pushNew k v) := .of_agree (h.agree.cons (e := ⟨c.nextId, k, v⟩) hl rfl)

/-- `MoveToFront` of a linked element, possibly with a new value: `Add` of a present key writes the value through the
    pointer after the move, which is `DL.setValue` on the moved list -/
theorem Core.touch {c : LRU} (h : Core c) {e : Elem} (he : e ∈ c.evictList) (w : Bytes) :
    Core { c with evictList := { e with val := w } :: c.evictList.filter (·.key != e.key) } :=
  .of_agree (h.agree.touch he (fun x => { x with val := w }) (fun _ => rfl) fun _ => rfl)

theorem Core.empty {c : LRU} (hl : c.evictList = []) (hi : c.items = []) : Core c :=
  .of_agree (hl ▸ hi ▸ Agree.nil)

theorem Inv.new (size : Nat) (hs : 0 < size) : Inv (LRU.new size) := ⟨Core.empty rfl rfl, hs, Nat.zero_le _⟩

/-! ## 3. What each operation does, case by case -/

theorem touch_eq {c : LRU} (h : Core c) {e : Elem} (he : e ∈ c.evictList) (v : Bytes) :
    DL.moveToFront c.evictList e.id = e :: c.evictList.filter (·.key != e.key) ∧
    DL.setValue (DL.moveToFront c.evictList e.id) e.id v = { e with val := v } :: c.evictList.filter (·.key != e.key) := by
  have hm : DL.moveToFront c.evictList e.id = e :: c.evictList.filter (·.id != e.id) := by
    unfold DL.moveToFront DL.deref
    rw [h.agree.deref_mem he]
  rw [hm, ← h.agree.filter_ptr he]
  exact ⟨rfl, map_ite_attr_cons_filter Elem.id (fun x => { x with val := v }) rfl _⟩

theorem present_case {c : LRU} (h : Core c) {k : Bytes} {id : Nat} (v : Bytes) (hl : alookup k c.items = some id) :
    ∃ e, e ∈ c.evictList ∧ e.key = k ∧ e.id = id ∧ c.peek k = some e.val ∧
      c.add k v = ({ c with evictList := { e with val := v } :: c.evictList.filter (·.key != k) }, false, []) ∧
      c.get k = ({ c with evictList := e :: c.evictList.filter (·.key != k) }, some e.val) ∧
      c.remove k = ((c.removeElement e).1, true, [e.kv]) := by
  obtain ⟨e, he, hek, hid, _, hd⟩ := h.resolve hl
  obtain ⟨t1, t2⟩ := touch_eq h he v
  subst hek hid
  refine ⟨e, he, rfl, rfl, ?_, ?_, ?_, ?_⟩
  · simp only [LRU.peek, hl, hd, Option.map_some]
  · simp only [LRU.add, hl, t2]
  · simp only [LRU.get, hl, hd, t1, Option.map_some]
  · simp only [LRU.remove, hl, hd]
    rfl

theorem absent_case {c : LRU} {k : Bytes} (hl : alookup k c.items = none) :
    c.contains k = false ∧ c.peek k = none ∧ c.get k = (c, none) ∧ c.remove k = (c, false, []) := by
  simp only [LRU.contains, LRU.peek, LRU.get, LRU.remove, hl, Option.isSome_none, and_self]

theorem room_case {c : LRU} {k : Bytes} (v : Bytes) (hl : alookup k c.items = none)
    (hle : c.evictList.length + 1 ≤ c.size) : c.add k v = (c.pushNew k v, false, []) := by
  simp only [LRU.add, hl]
  exact if_neg (Nat.not_lt.mpr hle)

theorem full_case {c : LRU} (h : Inv c) {k : Bytes} (v : Bytes) (hl : alookup k c.items = none)
    (hgt : c.evictList.length + 1 > c.size) :
    ∃ o init, c.evictList = init ++ [o] ∧ c.add k v = (((c.pushNew k v).removeElement o).1, true, [o.kv]) ∧
      ((c.pushNew k v).removeElement o).1.evictList = ⟨c.nextId, k, v⟩ :: init ∧
      ∀ x ∈ (⟨c.nextId, k, v⟩ :: init : List Elem), x.key ≠ o.key := by
  have hp := h.sizePos
  cases hg : c.evictList.getLast? with
  | none =>
    rw [List.getLast?_eq_none_iff.mp hg] at hgt
    exact absurd hgt (by simp; omega)
  | some o =>
    obtain ⟨init, hinit⟩ := List.getLast?_eq_some_iff.mp hg
    have hev : (c.pushNew k v).evictList = (⟨c.nextId, k, v⟩ :: init) ++ [o] := congrArg (_ :: ·) hinit
    have hb : DL.back (c.pushNew k v).evictList = some o := by rw [hev]; exact List.getLast?_concat
    refine ⟨o, init, hinit, ?_, ?_, ?_⟩
    · simp only [LRU.add, hl, LRU.evictOldest, hb]
      exact if_pos hgt
    · have hn := (h.core.pushNew v hl).idsNodup
      rw [hev] at hn
      show DL.remove (c.pushNew k v).evictList o.id = _
      rw [hev]
      have := filter_attr_ne_middle Elem.id (suf := []) hn
      rwa [List.append_nil] at this
    · have hn := (h.core.pushNew v hl).keysNodup
      rw [hev, List.map_append, List.nodup_append] at hn
      exact fun x hx => hn.2.2 x.key (List.mem_map_of_mem hx) o.key (List.mem_singleton.mpr rfl)

/-! ## 4. The hand model's side -/

theorem has_kv (l : List Elem) (k : Bytes) : (l.map Elem.kv).any (·.1 == k) = l.any (·.key == k) := List.any_map

theorem find_kv (l : List Elem) (k : Bytes) :
    (l.map Elem.kv).find? (·.1 == k) = (l.find? (·.key == k)).map Elem.kv := List.find?_map

theorem filter_kv (l : List Elem) (k : Bytes) :
    (l.map Elem.kv).filter (·.1 != k) = (l.filter (·.key != k)).map Elem.kv := List.filter_map

theorem abs_has {c : LRU} (h : Core c) (k : Bytes) : c.abs.has k = c.contains k :=
  (has_kv _ k).trans (h.agree.isSome_lookup k).symm

theorem abs_inv {c : LRU} (h : Inv c) : SimpleInv c.abs :=
  ⟨by rw [LRU.abs, List.map_map]; exact h.core.keysNodup, by rw [LRU.abs, List.length_map]; exact h.bound⟩

theorem abs_mem {c : LRU} {e : Elem} (he : e ∈ c.evictList) : e.kv ∈ c.abs.entries := List.mem_map_of_mem he

theorem abs_removeElement {c : LRU} (h : Core c) {e : Elem} (he : e ∈ c.evictList) :
    (c.removeElement e).1.abs = c.abs.remove e.key := by
  show (⟨c.size, (c.removeElement e).1.evictList.map Elem.kv⟩ : Simple) = ⟨c.size, (c.evictList.map Elem.kv).filter _⟩
  rw [(h.removeElement he).2.1, filter_kv]

theorem abs_touch (c : LRU) (e : Elem) (w : Bytes) :
    ({ c with evictList := { e with val := w } :: c.evictList.filter (·.key != e.key) } : LRU).abs
      = ⟨c.size, (e.key, w) :: (c.abs.remove e.key).entries⟩ :=
  congrArg (fun l => (⟨c.size, (e.key, w) :: l⟩ : Simple)) (filter_kv _ _).symm

theorem simple_add (s : Simple) (k v : Bytes) :
    s.add k v = if s.has k then (⟨s.cap, (k, v) :: (s.remove k).entries⟩, false)
                else if s.entries.length + 1 > s.cap then (⟨s.cap, ((k, v) :: s.entries).dropLast⟩, true)
                else (⟨s.cap, (k, v) :: s.entries⟩, false) := rfl

theorem dropLast_eq_remove {s : Simple} (hn : (s.entries.map (·.1)).Nodup) {o : Bytes × Bytes}
    (ho : s.entries.getLast? = some o) : ({ s with entries := s.entries.dropLast } : Simple) = s.remove o.1 :=
  congrArg (Simple.mk s.cap) (filter_attr_ne_getLast Prod.fst hn ho).symm

/-! ### what `gone` is -/

theorem gone_nil (s s' : Simple) (hs : ∀ p ∈ s.entries, s'.has p.1 = true) : gone s s' = [] :=
  List.filter_eq_nil_iff.mpr fun p hp => by simp [hs p (List.mem_reverse.mp hp)]

theorem gone_self (s : Simple) : gone s s = [] :=
  gone_nil s s fun p hp => List.any_eq_true.mpr ⟨p, hp, beq_self_eq_true _⟩

theorem has_remove (s : Simple) (k : Bytes) {p : Bytes × Bytes} (hp : p ∈ s.entries) :
    (s.remove k).has p.1 = (p.1 != k) := by
  rw [Bool.eq_iff_iff, Simple.has, List.any_eq_true]
  constructor
  · rintro ⟨q, hq, hqp⟩
    exact eq_of_beq hqp ▸ (List.mem_filter.mp hq).2
  · exact fun h => ⟨p, List.mem_filter.mpr ⟨hp, h⟩, beq_self_eq_true _⟩

theorem gone_touch (s : Simple) (k w : Bytes) : gone s ⟨s.cap, (k, w) :: (s.remove k).entries⟩ = [] :=
  gone_nil _ _ fun p hp => by
    show ((k == p.1) || (s.remove k).has p.1) = true
    rw [has_remove s k hp]
    by_cases hk : p.1 = k <;> simp [hk]

theorem gone_single {s s' : Simple} (hn : (s.entries.map (·.1)).Nodup) {p : Bytes × Bytes} (hp : p ∈ s.entries)
    (hs : ∀ q ∈ s.entries, s'.has q.1 = (q.1 != p.1)) : gone s s' = [p] := by
  unfold gone
  rw [List.filter_reverse, List.filter_congr (q := (·.1 == p.1)) fun q hq => by rw [hs q hq]; simp [bne],
    filter_attr_eq_of_mem Prod.fst hn hp]
  rfl

theorem gone_remove {s : Simple} (hn : (s.entries.map (·.1)).Nodup) {p : Bytes × Bytes} (hp : p ∈ s.entries) :
    gone s (s.remove p.1) = [p] := gone_single hn hp fun _ hq => has_remove s p.1 hq

theorem gone_push {s : Simple} (hn : (s.entries.map (·.1)).Nodup) {p : Bytes × Bytes} (hp : s.entries.getLast? = some p)
    {k : Bytes} (hk : s.has k = false) (v : Bytes) : gone s ⟨s.cap, ((k, v) :: s.entries).dropLast⟩ = [p] := by
  have hm := List.mem_of_getLast? hp
  rw [List.dropLast_cons_of_ne_nil (List.ne_nil_of_mem hm), ← filter_attr_ne_getLast Prod.fst hn hp]
  exact gone_single hn hm fun q hq => by
    show ((k == q.1) || (s.remove p.1).has q.1) = _
    rw [has_remove s p.1 hq, beq_false_of_ne fun e => by
      rw [Simple.has, List.any_eq_false] at hk
      exact hk q hq (by simp [e]), Bool.false_or]

/-! ## 5. Every operation: invariant, abstraction, outputs -/

/-- the invariant after `Add` of a present key and after `Get` of a present key, in one statement (`w` is the value the
    element ends up with) -/
theorem touch_refines {c : LRU} (h : Inv c) {e : Elem} (he : e ∈ c.evictList) (w : Bytes) :
    Inv { c with evictList := { e with val := w } :: c.evictList.filter (·.key != e.key) } :=
  ⟨h.core.touch he w, h.sizePos, by
    have := length_filter_attr_ne Elem.key h.core.keysNodup he
    have := h.bound
    show (_ :: c.evictList.filter (·.key != e.key)).length ≤ c.size
    rw [List.length_cons]
    omega⟩

theorem removeElement_refines {c : LRU} (h : Inv c) {e : Elem} (he : e ∈ c.evictList) :
    Inv (c.removeElement e).1 ∧ (c.removeElement e).1.abs = c.abs.remove e.key ∧
    (c.removeElement e).2 = gone c.abs (c.abs.remove e.key) := by
  obtain ⟨h1, h2, h3⟩ := h.core.removeElement he
  refine ⟨⟨h1, h.sizePos, ?_⟩, abs_removeElement h.core he, (gone_remove (abs_inv h).keysNodup (abs_mem he)).symm⟩
  rw [h2, h3]
  exact Nat.le_trans (List.length_filter_le _ _) h.bound

theorem add_refines (c : LRU) (k v : Bytes) (h : Inv c) :
    Inv (c.add k v).1 ∧ (c.add k v).1.abs = (c.abs.add k v).1 ∧ (c.add k v).2.1 = (c.abs.add k v).2 ∧
    (c.add k v).2.2 = gone c.abs (c.abs.add k v).1 := by
  have hhas := abs_has h.core k
  have hb := h.bound
  rw [simple_add]
  cases hl : alookup k c.items with
  | some id =>
    obtain ⟨e, he, rfl, _, _, hadd, _⟩ := present_case h.core v hl
    rw [hadd, hhas, LRU.contains, hl]
    exact ⟨touch_refines h he v, abs_touch c e v, rfl, (gone_touch _ _ _).symm⟩
  | none =>
    rw [(absent_case hl).1] at hhas
    rw [hhas, if_neg Bool.false_ne_true, show c.abs.entries.length = c.evictList.length from List.length_map _,
      show c.abs.cap = c.size from rfl]
    by_cases hgt : c.evictList.length + 1 > c.size
    · -- the list was full: `removeOldest` runs
      obtain ⟨o, init, hinit, hadd, hev, _⟩ := full_case h v hl hgt
      have ho : o ∈ c.evictList := by rw [hinit]; simp
      have hlast : c.abs.entries.getLast? = some o.kv := by
        rw [LRU.abs, hinit, List.map_append]
        exact List.getLast?_concat
      rw [hadd, if_pos hgt]
      refine ⟨⟨((h.core.pushNew v hl).removeElement (List.mem_cons_of_mem _ ho)).1, h.sizePos, ?_⟩, ?_, rfl,
        (gone_push (abs_inv h).keysNodup hlast hhas v).symm⟩
      · rw [hev, List.length_cons]
        rw [hinit, List.length_append] at hb
        exact hb
      · show (⟨c.size, ((c.pushNew k v).removeElement o).1.evictList.map Elem.kv⟩ : Simple)
          = ⟨c.size, ((k, v) :: c.evictList.map Elem.kv).dropLast⟩
        rw [hev, hinit, List.map_append, List.map_singleton, ← List.cons_append, List.dropLast_concat]
        rfl
    · rw [room_case v hl (by omega), if_neg hgt]
      refine ⟨⟨h.core.pushNew v hl, h.sizePos, by show (_ :: c.evictList).length ≤ c.size; rw [List.length_cons]; omega⟩, rfl,
        rfl, (gone_nil _ _ fun p hp => ?_).symm⟩
      exact List.any_eq_true.mpr ⟨p, List.mem_cons_of_mem _ hp, beq_self_eq_true _⟩

theorem peek_eq_find {c : LRU} (h : Core c) (k : Bytes) :
    c.peek k = (c.evictList.find? (·.key == k)).map (·.val) := by
  cases hl : alookup k c.items with
  | some id =>
    obtain ⟨e, _, _, _, hf, hd⟩ := h.resolve hl
    simp only [LRU.peek, hl, hd, hf]
  | none => simp only [LRU.peek, hl, h.absent hl, Option.map_none]

theorem contains_eq_find {c : LRU} (h : Core c) (k : Bytes) :
    c.contains k = (c.evictList.find? (·.key == k)).isSome := by
  rw [LRU.contains, h.lookup, Option.isSome_map]

theorem peek_refines (c : LRU) (k : Bytes) (h : Inv c) : c.peek k = c.abs.peek k := by
  rw [peek_eq_find h.core, Simple.peek, LRU.abs, find_kv, Option.map_map]
  rfl

theorem get_refines (c : LRU) (k : Bytes) (h : Inv c) :
    Inv (c.get k).1 ∧ (c.get k).1.abs = (c.abs.get k).1 ∧ (c.get k).2 = (c.abs.get k).2 ∧
    ([] : Cb) = gone c.abs (c.abs.get k).1 := by
  have hfind : c.abs.entries.find? (·.1 == k) = (c.evictList.find? (·.key == k)).map Elem.kv := find_kv _ k
  unfold Simple.get
  rw [hfind]
  cases hl : alookup k c.items with
  | some id =>
    obtain ⟨e, he, rfl, _, _, _, hget, _⟩ := present_case h.core [] hl
    rw [hget, find?_attr_of_mem Elem.key h.core.keysNodup he]
    exact ⟨touch_refines h he e.val, abs_touch c e e.val, rfl, (gone_touch _ _ _).symm⟩
  | none =>
    rw [(absent_case hl).2.2.1, h.core.absent hl]
    exact ⟨h, rfl, rfl, (gone_self _).symm⟩

theorem remove_refines (c : LRU) (k : Bytes) (h : Inv c) :
    Inv (c.remove k).1 ∧ (c.remove k).1.abs = c.abs.remove k ∧ (c.remove k).2.1 = c.abs.has k ∧
    (c.remove k).2.2 = gone c.abs (c.abs.remove k) := by
  rw [abs_has h.core]
  cases hl : alookup k c.items with
  | some id =>
    obtain ⟨e, he, rfl, _, _, _, _, hrm⟩ := present_case h.core [] hl
    obtain ⟨h1, h2, h3⟩ := removeElement_refines h he
    rw [hrm, LRU.contains, hl]
    exact ⟨h1, h2, rfl, h3⟩
  | none =>
    have hrm : c.abs.remove k = c.abs :=
      congrArg (Simple.mk c.size) (filter_attr_ne_of_absent Prod.fst ((find_kv _ k).trans (by rw [h.core.absent hl]; rfl)))
    rw [(absent_case hl).2.2.2, (absent_case hl).1, hrm]
    exact ⟨h, rfl, rfl, (gone_self _).symm⟩

theorem removeOldest_refines (c : LRU) (h : Inv c) :
    Inv c.removeOldest.1 ∧ c.removeOldest.1.abs = { c.abs with entries := c.abs.entries.dropLast } ∧
    c.removeOldest.2.1 = c.abs.entries.getLast? ∧
    c.removeOldest.2.2 = gone c.abs { c.abs with entries := c.abs.entries.dropLast } := by
  have hlast : c.abs.entries.getLast? = c.evictList.getLast?.map Elem.kv := List.getLast?_map
  unfold LRU.removeOldest DL.back
  cases hb : c.evictList.getLast? with
  | none =>
    have habs : ({ c.abs with entries := c.abs.entries.dropLast } : Simple) = c.abs := by
      rw [LRU.abs, List.getLast?_eq_none_iff.mp hb]
      rfl
    rw [habs, hlast, hb]
    exact ⟨h, rfl, rfl, (gone_self _).symm⟩
  | some o =>
    obtain ⟨h1, h2, h3⟩ := removeElement_refines h (List.mem_of_getLast? hb)
    rw [dropLast_eq_remove (abs_inv h).keysNodup (hlast.trans (congrArg _ hb)), hlast, hb]
    exact ⟨h1, h2, rfl, h3⟩

theorem keys_refines (c : LRU) : c.keys = c.abs.keys := by
  show c.evictList.reverse.map (·.key) = (c.evictList.map Elem.kv).reverse.map (·.1)
  rw [← List.map_reverse, List.map_map]
  rfl

theorem len_refines (c : LRU) : c.len = c.abs.entries.length := (List.length_map _).symm

theorem containsOrAdd_refines (c : LRU) (k v : Bytes) (h : Inv c) :
    Inv (c.containsOrAdd k v).1 ∧ (c.containsOrAdd k v).1.abs = (c.abs.containsOrAdd k v).1 ∧
    (c.containsOrAdd k v).2.1 = (c.abs.containsOrAdd k v).2.1 ∧
    (c.containsOrAdd k v).2.2.1 = (c.abs.containsOrAdd k v).2.2 ∧
    (c.containsOrAdd k v).2.2.2 = gone c.abs (c.abs.containsOrAdd k v).1 := by
  unfold LRU.containsOrAdd Simple.containsOrAdd
  rw [abs_has h.core k]
  cases hc : c.contains k with
  | true => exact ⟨h, rfl, rfl, rfl, (gone_self _).symm⟩
  | false =>
    obtain ⟨h1, h2, h3, h4⟩ := add_refines c k v h
    exact ⟨h1, h2, rfl, h3, h4⟩

/-- `Purge` invokes the callback once for every resident entry (in the map's iteration order) -/
theorem purge_callbacks_perm {c : LRU} (h : Core c) : c.purge.2.Perm (c.evictList.map Elem.kv) :=
  h.agree.filterMap_perm Elem.val

theorem purge_refines (c : LRU) (h : Inv c) :
    Inv c.purge.1 ∧ c.purge.1.abs = { c.abs with entries := [] } ∧
    c.purge.2.Perm (gone c.abs { c.abs with entries := [] }) := by
  refine ⟨⟨Core.empty rfl rfl, h.sizePos, Nat.zero_le _⟩, rfl, ?_⟩
  have hg : gone c.abs { c.abs with entries := [] } = (c.evictList.map Elem.kv).reverse :=
    List.filter_eq_self.mpr fun p _ => rfl
  rw [hg]
  exact (purge_callbacks_perm h.core).trans (List.reverse_perm _).symm

/-! ## 6. Refinement -/

theorem obsEq_of_eq {a b : CallObs} (h1 : a.1 = b.1) (h2 : a.2 = b.2) : ObsEq a b := by
  refine ⟨h1, ?_⟩
  split
  · rw [h2]
  · exact h2

/-- STEP LEMMA: one call on the library model — the invariant is kept, the abstraction commutes with the hand model's
    operation, the return value is the hand model's, and the callback is invoked with exactly the entries that leave the
    hand model's state, oldest first (for `Purge`: in some order) -/
theorem step_refines (c : LRU) (op : Op) (h : Inv c) :
    Inv (c.step op).1 ∧ (c.step op).1.abs = (plainStep c.abs op).1 ∧ ObsEq (c.step op).2 (plainStep c.abs op).2 := by
  have same : ∀ out : Out, Inv c ∧ c.abs = c.abs ∧ ObsEq (out, []) (out, gone c.abs c.abs) :=
    fun _ => ⟨h, rfl, obsEq_of_eq rfl (gone_self _).symm⟩
  cases op <;> dsimp only [LRU.step, plainStep, plainNext]
  case add k v =>
    obtain ⟨h1, h2, h3, h4⟩ := add_refines c k v h
    exact ⟨h1, h2, obsEq_of_eq (congrArg Out.evicted h3) h4⟩
  case get k =>
    obtain ⟨h1, h2, h3, h4⟩ := get_refines c k h
    exact ⟨h1, h2, obsEq_of_eq (congrArg Out.value h3) h4⟩
  case contains k => exact abs_has h.core k ▸ same _
  case peek k => exact peek_refines c k h ▸ same _
  case remove k =>
    obtain ⟨h1, h2, h3, h4⟩ := remove_refines c k h
    exact ⟨h1, h2, obsEq_of_eq (congrArg Out.removed h3) h4⟩
  case removeOldest =>
    obtain ⟨h1, h2, h3, h4⟩ := removeOldest_refines c h
    exact ⟨h1, h2, obsEq_of_eq (congrArg Out.oldest h3) h4⟩
  case keys => exact keys_refines c ▸ same _
  case len => exact len_refines c ▸ same _
  case purge =>
    obtain ⟨h1, h2, h3⟩ := purge_refines c h
    exact ⟨h1, h2, rfl, (if_pos rfl).mpr h3⟩
  case containsOrAdd k v =>
    obtain ⟨h1, h2, h3, h4, h5⟩ := containsOrAdd_refines c k v h
    exact ⟨h1, h2, obsEq_of_eq (by rw [h3, h4]) h5⟩

theorem lib_sim_run (ops : List Op) : ∀ c : LRU, Inv c →
    TraceEq (trace LRU.step c ops) (trace plainStep c.abs ops) ∧
    (finalState LRU.step c ops).abs = finalState plainStep c.abs ops ∧ Inv (finalState LRU.step c ops) := by
  induction ops with
  | nil => intro c h; exact ⟨trivial, rfl, h⟩
  | cons op ops ih =>
    intro c h
    obtain ⟨h1, h2, h3⟩ := step_refines c op h
    obtain ⟨i1, i2, i3⟩ := ih (c.step op).1 h1
    rw [h2] at i1 i2
    exact ⟨⟨h3, i1⟩, i2, i3⟩

/-- MAIN THEOREM.  For every capacity `size > 0` (what `NewLRU` accepts) and EVERY history of `Add`, `Get`, `Contains`,
    `Peek`, `Remove`, `RemoveOldest`, `Keys`, `Len`, `Purge`, `ContainsOrAdd`: the library's `simplelru.LRU` (linked list +
    map of element pointers) and the hand-written recency-list model `SV.LRU.Simple` return the same value at every step,
    the eviction callback is invoked with exactly the entries that leave the hand model's state, in the same order (for
    `Purge`, whose order is Go's map iteration order: the same entries in some order); the final states are related by
    the abstraction function, and the representation invariant holds. -/
theorem lib_refines_plain_model (size : Nat) (hs : 0 < size) (ops : List Op) :
    TraceEq (trace LRU.step (LRU.new size) ops) (trace plainStep ⟨size, []⟩ ops) ∧
    (finalState LRU.step (LRU.new size) ops).abs = finalState plainStep ⟨size, []⟩ ops ∧
    Inv (finalState LRU.step (LRU.new size) ops) :=
  lib_sim_run ops (LRU.new size) (Inv.new size hs)

theorem step_out_purged (c : LRU) (op : Op) : (c.step op).2.1 = Out.purged ↔ op = Op.purge := by
  cases op <;> simp [LRU.step]

theorem lib_sim_run_eq (ops : List Op) (hp : ∀ op ∈ ops, op ≠ Op.purge) : ∀ c : LRU, Inv c →
    trace LRU.step c ops = trace plainStep c.abs ops := by
  induction ops with
  | nil => intro c _; rfl
  | cons op ops ih =>
    intro c h
    obtain ⟨h1, h2, h3, h4⟩ := step_refines c op h
    have hne : ¬ (c.step op).2.1 = Out.purged := fun e => hp op (List.mem_cons_self ..) ((step_out_purged c op).mp e)
    rw [if_neg hne] at h4
    have := ih (fun o ho => hp o (List.mem_cons_of_mem _ ho)) (c.step op).1 h1
    rw [h2] at this
    show (c.step op).2 :: _ = (plainStep c.abs op).2 :: _
    rw [this, Prod.ext h3 h4]

/-- without `Purge` in the history the two traces are EQUAL -/
theorem lib_refines_plain_model_eq (size : Nat) (hs : 0 < size) (ops : List Op) (hp : ∀ op ∈ ops, op ≠ Op.purge) :
    trace LRU.step (LRU.new size) ops = trace plainStep ⟨size, []⟩ ops :=
  lib_sim_run_eq ops hp (LRU.new size) (Inv.new size hs)

/-! ## 7. The invariant in the words of the library, and its preservation -/

theorem inv_step (c : LRU) (op : Op) (h : Inv c) : Inv (c.step op).1 := (step_refines c op h).1

theorem inv_add (c : LRU) (k v : Bytes) (h : Inv c) : Inv (c.add k v).1 := (add_refines c k v h).1
theorem inv_get (c : LRU) (k : Bytes) (h : Inv c) : Inv (c.get k).1 := (get_refines c k h).1
theorem inv_removeOldest (c : LRU) (h : Inv c) : Inv c.removeOldest.1 := (removeOldest_refines c h).1
theorem inv_purge (c : LRU) (h : Inv c) : Inv c.purge.1 := (purge_refines c h).1
theorem inv_containsOrAdd (c : LRU) (k v : Bytes) (h : Inv c) : Inv (c.containsOrAdd k v).1 :=
  (containsOrAdd_refines c k v h).1

/-- `items` and `evictList` hold the same keys (each once) -/
theorem Inv.sameKeys {c : LRU} (h : Inv c) : (c.items.map (·.1)).Perm (c.evictList.map (·.key)) :=
  h.core.agree.sameKeys

/-- `len(c.items) == c.evictList.Len()` -/
theorem Inv.sameLen {c : LRU} (h : Inv c) : c.items.length = c.evictList.length := h.core.agree.sameLen

/-- no dangling and no stale map entry: `items[k]` points to a linked element, and that element carries key `k` -/
theorem Inv.deref {c : LRU} (h : Inv c) {k : Bytes} {id : Nat} (hp : (k, id) ∈ c.items) :
    ∃ e, DL.deref c.evictList id = some e ∧ e ∈ c.evictList ∧ e.key = k ∧ e.id = id :=
  h.core.agree.deref_of_mem_items hp

theorem evictOldest_size (c : LRU) : c.evictOldest.1.size = c.size := by
  unfold LRU.evictOldest; split <;> rfl

theorem add_size (c : LRU) (k v : Bytes) : (c.add k v).1.size = c.size := by
  unfold LRU.add
  split
  · rfl
  · split
    · exact evictOldest_size _
    · rfl

theorem step_size (c : LRU) (op : Op) : (c.step op).1.size = c.size := by
  cases op with
  | add k v => exact add_size c k v
  | get k => show (c.get k).1.size = _; unfold LRU.get; split <;> rfl
  | remove k =>
    show (c.remove k).1.size = _
    unfold LRU.remove
    split
    · split <;> rfl
    · rfl
  | removeOldest => show c.removeOldest.1.size = _; unfold LRU.removeOldest; split <;> rfl
  | containsOrAdd k v =>
    show (c.containsOrAdd k v).1.size = _
    unfold LRU.containsOrAdd
    split
    · rfl
    · exact add_size c k v
  | _ => rfl

theorem finalState_size (ops : List Op) : ∀ c : LRU, (finalState LRU.step c ops).size = c.size := by
  induction ops with
  | nil => intro c; rfl
  | cons op ops ih => intro c; show (finalState LRU.step (c.step op).1 ops).size = _; rw [ih, step_size]

/-! ## 8. Corollaries, stated on the library model -/

/-- never more than `size` entries, after any history -/
theorem lib_len_le_size (size : Nat) (hs : 0 < size) (ops : List Op) :
    (finalState LRU.step (LRU.new size) ops).len ≤ size ∧
    (finalState LRU.step (LRU.new size) ops).items.length ≤ size := by
  obtain ⟨_, _, h⟩ := lib_refines_plain_model size hs ops
  have hb := h.bound
  rw [finalState_size] at hb
  exact ⟨hb, by rw [h.sameLen]; exact hb⟩

theorem peek_touch {c : LRU} (h : Inv c) {e : Elem} (he : e ∈ c.evictList) (w : Bytes) :
    let c' : LRU := { c with evictList := { e with val := w } :: c.evictList.filter (·.key != e.key) }
    c'.peek e.key = some w ∧ ∀ k', k' ≠ e.key → c'.peek k' = c.peek k' := by
  intro c'
  have hi : Core c' := h.core.touch he w
  refine ⟨?_, fun k' hk => ?_⟩
  · rw [peek_eq_find hi, List.find?_cons_of_pos (by simp)]
    rfl
  · rw [peek_eq_find hi, peek_eq_find h.core, List.find?_cons_of_neg (by simpa using Ne.symm hk),
      find?_attr_filter_ne Elem.key, if_neg (by simpa using hk)]

theorem keys_touch (l : List Elem) (e e' : Elem) (he : e'.key = e.key) :
    (e' :: l.filter (·.key != e.key)).reverse.map (·.key) = (l.reverse.map (·.key)).filter (· != e.key) ++ [e.key] := by
  rw [List.reverse_cons, List.map_append, List.filter_map, List.filter_reverse, List.map_singleton, he]
  rfl

/-- the evicted entry is the least recently used one: `Add` evicts iff the key is new and the cache is full; then the
    callback gets exactly the back element of the list = the head of `Keys()` (oldest first) = what `GetOldest` shows,
    that key is gone, and `Keys()` afterwards is the old `Keys()` without its head, followed by the new key.
    Without an eviction the callback is not invoked. -/
theorem lib_add_evicts_lru (c : LRU) (k v : Bytes) (h : Inv c) :
    (c.add k v).2.1 = (!c.contains k && decide (c.len = c.size)) ∧
    ((c.add k v).2.1 = false → (c.add k v).2.2 = []) ∧
    ((c.add k v).2.1 = true → ∃ o, DL.back c.evictList = some o ∧ (c.add k v).2.2 = [(o.key, o.val)] ∧
        c.keys.head? = some o.key ∧ (c.add k v).1.keys = c.keys.tail ++ [k] ∧
        (c.add k v).1.contains o.key = false) := by
  have hb := h.bound
  cases hl : alookup k c.items with
  | some id =>
    obtain ⟨e, _, _, _, _, hadd, _⟩ := present_case h.core v hl
    rw [hadd, LRU.contains, hl]
    exact ⟨rfl, fun _ => rfl, (fun hf => nomatch hf)⟩
  | none =>
    rw [(absent_case hl).1]
    by_cases hgt : c.evictList.length + 1 > c.size
    · obtain ⟨o, init, hinit, hadd, hev, hgone⟩ := full_case h v hl hgt
      have hlen : c.len = c.size := by show c.evictList.length = c.size; omega
      have hi := (inv_add c k v h).core
      rw [hadd] at hi ⊢
      refine ⟨by simp [hlen], (fun hf => nomatch hf), fun _ => ⟨o, by rw [DL.back, hinit]; exact List.getLast?_concat, rfl, ?_, ?_, ?_⟩⟩
      · rw [LRU.keys, hinit, List.reverse_append]
        rfl
      · rw [LRU.keys, LRU.keys, hev, hinit, List.reverse_append, List.reverse_cons, List.map_append (l₁ := init.reverse)]
        rfl
      · rw [contains_eq_find hi, hev, Option.isSome_eq_false_iff, Option.isNone_iff_eq_none, List.find?_eq_none]
        exact fun x hx => by simpa using hgone x hx
    · have hlen : ¬ c.len = c.size := by show ¬ c.evictList.length = c.size; omega
      rw [room_case v hl (by omega)]
      exact ⟨by simp [hlen], fun _ => rfl, (fun hf => nomatch hf)⟩

/-- `Add` of a present key does not evict, does not invoke the callback, keeps `Len`, overwrites the value and makes
    the key the most recently used one; nothing else moves -/
theorem lib_add_present (c : LRU) (k v : Bytes) (h : Inv c) (hc : c.contains k = true) :
    (c.add k v).2 = (false, []) ∧ (c.add k v).1.len = c.len ∧
    (c.add k v).1.keys = c.keys.filter (· != k) ++ [k] ∧ (c.add k v).1.peek k = some v ∧
    (∀ k', k' ≠ k → (c.add k v).1.peek k' = c.peek k') := by
  cases hl : alookup k c.items with
  | none => rw [LRU.contains, hl] at hc; cases hc
  | some id =>
    obtain ⟨e, he, rfl, _, _, hadd, _⟩ := present_case h.core v hl
    rw [hadd]
    exact ⟨rfl, length_filter_attr_ne Elem.key h.core.keysNodup he, keys_touch _ e _ rfl, (peek_touch h he v).1,
      (peek_touch h he v).2⟩

theorem add_front (c : LRU) (k v : Bytes) (h : Inv c) :
    ∃ i rest, (c.add k v).1.evictList = ⟨i, k, v⟩ :: rest := by
  cases hl : alookup k c.items with
  | some id =>
    obtain ⟨e, _, rfl, _, _, hadd, _⟩ := present_case h.core v hl
    exact ⟨e.id, _, congrArg (·.1.evictList) hadd⟩
  | none =>
    by_cases hgt : c.evictList.length + 1 > c.size
    · obtain ⟨o, init, _, hadd, hev, _⟩ := full_case h v hl hgt
      exact ⟨_, _, (congrArg (·.1.evictList) hadd).trans hev⟩
    · exact ⟨_, _, congrArg (·.1.evictList) (room_case v hl (by omega))⟩

theorem lib_add_then_read (c : LRU) (k v : Bytes) (h : Inv c) :
    (c.add k v).1.contains k = true ∧ (c.add k v).1.peek k = some v ∧ (c.add k v).1.keys.getLast? = some k := by
  have hi := (inv_add c k v h).core
  obtain ⟨i, rest, hev⟩ := add_front c k v h
  refine ⟨?_, ?_, ?_⟩
  · rw [contains_eq_find hi, hev]; simp
  · rw [peek_eq_find hi, hev]; simp
  · rw [LRU.keys, hev]; simp

/-- `Get`, `Contains`, `Peek` agree on presence and on the value; `Contains` and `Peek` leave the cache as it is (their
    model has no resulting state at all), `Get` of an absent key too; `Get` of a present key moves it to the most recent
    end of `Keys()` and changes nothing else -/
theorem lib_get_contains_peek (c : LRU) (k : Bytes) (h : Inv c) :
    (c.get k).2 = c.peek k ∧ (c.peek k).isSome = c.contains k ∧
    (c.step (.contains k)).1 = c ∧ (c.step (.peek k)).1 = c ∧
    (c.contains k = false → (c.get k).1 = c) ∧
    (c.contains k = true → (c.get k).1.keys = c.keys.filter (· != k) ++ [k] ∧ (c.get k).1.len = c.len) ∧
    (∀ k', (c.get k).1.peek k' = c.peek k') := by
  cases hl : alookup k c.items with
  | some id =>
    obtain ⟨e, he, rfl, _, hpk, _, hget, _⟩ := present_case h.core [] hl
    obtain ⟨t1, t2⟩ := peek_touch h he e.val
    rw [hget, hpk, LRU.contains, hl]
    refine ⟨rfl, rfl, rfl, rfl, (fun hf => nomatch hf),
      fun _ => ⟨keys_touch _ e _ rfl, length_filter_attr_ne Elem.key h.core.keysNodup he⟩, fun k' => ?_⟩
    by_cases hk : k' = e.key
    · rw [hk, hpk]; exact t1
    · exact t2 k' hk
  | none =>
    obtain ⟨hc, hpk, hget, _⟩ := absent_case hl
    rw [hget, hpk, hc]
    exact ⟨rfl, rfl, rfl, rfl, fun _ => rfl, (fun hf => nomatch hf), fun _ => rfl⟩

/-- `ContainsOrAdd` reports `ok` = the key was resident; then nothing at all happens (no refresh, no overwrite, no
    callback).  Otherwise it is `Add`: the key is resident afterwards with the given value, `evicted` is `Add`'s flag,
    i.e. true exactly when the cache was full, and the callback gets `Add`'s (the least recently used) entry. -/
theorem lib_containsOrAdd (c : LRU) (k v : Bytes) (h : Inv c) :
    (c.containsOrAdd k v).2.1 = c.contains k ∧
    (c.contains k = true → c.containsOrAdd k v = (c, true, false, [])) ∧
    (c.contains k = false →
      (c.containsOrAdd k v).1 = (c.add k v).1 ∧ (c.containsOrAdd k v).2.2 = (c.add k v).2 ∧
      (c.containsOrAdd k v).1.contains k = true ∧ (c.containsOrAdd k v).1.peek k = some v ∧
      (c.containsOrAdd k v).2.2.1 = decide (c.len = c.size)) := by
  unfold LRU.containsOrAdd
  cases hc : c.contains k with
  | true => exact ⟨rfl, fun _ => rfl, (fun hf => nomatch hf)⟩
  | false =>
    obtain ⟨r1, r2, _⟩ := lib_add_then_read c k v h
    have hflag := (lib_add_evicts_lru c k v h).1
    rw [hc] at hflag
    exact ⟨rfl, (fun hf => nomatch hf), fun _ => ⟨rfl, rfl, r1, r2, hflag⟩⟩

/-- `Remove` reports whether the key was resident; a resident key is unlinked, nothing else moves, AND THE EVICTION
    CALLBACK IS INVOKED with the removed pair (`removeElement` does not distinguish an eviction from a removal) -/
theorem lib_remove (c : LRU) (k : Bytes) (h : Inv c) :
    (c.remove k).2.1 = c.contains k ∧
    (c.contains k = false → c.remove k = (c, false, [])) ∧
    (c.contains k = true → ∃ v, c.peek k = some v ∧ (c.remove k).2.2 = [(k, v)] ∧
        (c.remove k).1.contains k = false ∧ (c.remove k).1.keys = c.keys.filter (· != k)) := by
  cases hl : alookup k c.items with
  | none =>
    obtain ⟨hc, _, _, hrm⟩ := absent_case hl
    rw [hrm, hc]
    exact ⟨rfl, fun _ => rfl, (fun hf => nomatch hf)⟩
  | some id =>
    obtain ⟨e, he, rfl, _, hpk, _, _, hrm⟩ := present_case h.core [] hl
    obtain ⟨hi, hev, _⟩ := h.core.removeElement he
    rw [hrm, LRU.contains, hl]
    refine ⟨rfl, (fun hf => nomatch hf), fun _ => ⟨_, hpk, rfl, ?_, ?_⟩⟩
    · rw [contains_eq_find hi, hev, find?_attr_filter_ne Elem.key, if_pos (beq_self_eq_true _)]
      rfl
    · rw [LRU.keys, hev, LRU.keys, List.filter_map, List.filter_reverse]
      rfl

/-! ## 9. Closing the chain of C15: the library model under the `lruCache` wrapper refines the reference LRU

`SV/LRU/RefSpec.lean` proves `Simple.stepL` (the hand model under the wrapper's `Put`/`HasOrAdd`/`Get`/`Peek`/`Has`/
`Remove`/`Clear`) equal to the independent reference `Ref`.  Here the same wrapper is put on the library model; by the step
lemmas above it yields the hand model's outputs, hence the reference's. -/

/-- `lruCache` → `simpleLRUCacheAdapter` → `lru.Cache` → `simplelru.LRU`: `Put` is `Add` (size dropped); `HasOrAdd` is
    `ContainsOrAdd` followed, when not found, by `added = Contains(key)`; `Remove` drops the flag; `Clear` is `Purge` -/
def LRU.stepL (c : LRU) : LOp → LRU × LOut
  | .put k v _ => ((c.add k v).1, .evicted (c.add k v).2.1)
  | .hoa k v _ =>
    ((c.containsOrAdd k v).1,
     if (c.containsOrAdd k v).2.1 then .hasAdded true false
     else .hasAdded false ((c.containsOrAdd k v).1.contains k))
  | .get k => ((c.get k).1, .value (c.get k).2)
  | .peek k => (c, .value (c.peek k))
  | .has k => (c, .present (c.contains k))
  | .rm k => ((c.remove k).1, .done)
  | .clear => (c.purge.1, .done)

/-- `Keys()`, the values in the same order, `SizeInBytesContained()` (the adapter returns 0), `Len()` -/
def LRU.obsL (c : LRU) : SV.LRU.Obs := ⟨c.keys, c.evictList.reverse.map (·.val), 0, c.len⟩

theorem obsL_eq (c : LRU) : c.obsL = c.abs.obs := by
  show (⟨c.keys, c.evictList.reverse.map (·.val), 0, c.len⟩ : SV.LRU.Obs)
    = ⟨c.abs.keys, (c.evictList.map Elem.kv).reverse.map (·.2), 0, (c.evictList.map Elem.kv).length⟩
  rw [keys_refines, ← List.map_reverse, List.map_map, List.length_map]
  rfl

theorem stepL_refines (c : LRU) (op : LOp) (h : Inv c) :
    Inv (c.stepL op).1 ∧ (c.stepL op).1.abs = (c.abs.stepL op).1 ∧ (c.stepL op).2 = (c.abs.stepL op).2 := by
  cases op with
  | put k v sz =>
    obtain ⟨h1, h2, h3, _⟩ := add_refines c k v h
    exact ⟨h1, h2, congrArg LOut.evicted h3⟩
  | hoa k v sz =>
    obtain ⟨c1, c2, c3⟩ := lib_containsOrAdd c k v h
    obtain ⟨h1, h2, h3, _⟩ := containsOrAdd_refines c k v h
    dsimp only [LRU.stepL, Simple.stepL]
    rw [← h3, c1]
    cases hc : c.contains k with
    | true =>
      rw [c2 hc]
      exact ⟨h, rfl, rfl⟩
    | false =>
      rw [(c3 hc).2.2.1]
      exact ⟨h1, h2, rfl⟩
  | get k =>
    obtain ⟨h1, h2, h3, _⟩ := get_refines c k h
    exact ⟨h1, h2, congrArg LOut.value h3⟩
  | peek k => exact ⟨h, rfl, congrArg LOut.value (peek_refines c k h)⟩
  | has k => exact ⟨h, rfl, congrArg LOut.present (abs_has h.core k).symm⟩
  | rm k =>
    obtain ⟨h1, h2, _, _⟩ := remove_refines c k h
    exact ⟨h1, h2, rfl⟩
  | clear =>
    obtain ⟨h1, h2, _⟩ := purge_refines c h
    exact ⟨h1, h2, rfl⟩

/-- C15 without the assumption on hashicorp's library: for every capacity ≥ 1 and every history of the wrapper's
    operations, the LIBRARY model (list + pointer map) produces the reference LRU's outputs and observations
    (`Keys` in order, values, `Len`) at every step -/
theorem lib_refines_reference (cap : Nat) (hc : 1 ≤ cap) (ops : List LOp) :
    SV.LRU.runTrace LRU.stepL LRU.obsL (LRU.new cap) ops
      = SV.LRU.runTrace Ref.step Ref.obs (Ref.init cap none) ops ∧
    (SV.LRU.runFinal LRU.stepL (LRU.new cap) ops).abs.toRef = SV.LRU.runFinal Ref.step (Ref.init cap none) ops ∧
    Inv (SV.LRU.runFinal LRU.stepL (LRU.new cap) ops) :=
  SV.LRU.sim_run LRU.stepL LRU.obsL Inv (fun c => c.abs.toRef)
    (fun c op h => by
      obtain ⟨h1, h2, h3⟩ := stepL_refines c op h
      obtain ⟨_, g2, g3⟩ := Simple.step_refines c.abs op (abs_inv h) h.sizePos
      exact ⟨h1, by rw [h2]; exact g2, by rw [h3]; exact g3⟩)
    (fun c _ => by rw [obsL_eq]; exact Simple.obs_eq c.abs)
    ops (LRU.new cap) (Inv.new cap hc)

/-! ## 10. Non-vacuity: size 2, six operations with a refresh, an eviction, an overwrite and an evicting `ContainsOrAdd` -/

/-- the hypotheses of the main theorem can be met -/
example : Inv (LRU.new 2) := Inv.new 2 (by decide)

/-- what the library model does on `demo`: step 3 (`Get 1`) refreshes key 1, so step 4 evicts key 2 and the callback
    sees `(2, 20)`; step 5 overwrites key 1 without evicting; step 6 (`ContainsOrAdd 4`) evicts key 3 -/
example : trace LRU.step (LRU.new 2) demo =
    [ (.evicted false, []), (.evicted false, []), (.value (some [10]), []), (.evicted true, [([2], [20])]),
      (.evicted false, []), (.okEvicted false true, [([3], [30])]) ] := by decide +kernel

/-- and the hand model says the same, step by step -/
example : trace LRU.step (LRU.new 2) demo = trace plainStep ⟨2, []⟩ demo := by decide +kernel

example : (finalState LRU.step (LRU.new 2) demo).abs = finalState plainStep ⟨2, []⟩ demo := rfl

/-- the concrete final state: two linked elements, two map entries pointing at them, ids not reused -/
example : (finalState LRU.step (LRU.new 2) demo).evictList = [⟨3, [4], [40]⟩, ⟨0, [1], [11]⟩] ∧
    (finalState LRU.step (LRU.new 2) demo).items = [([1], 0), ([4], 3)] ∧
    (finalState LRU.step (LRU.new 2) demo).keys = [[1], [4]] := by decide +kernel

/-- the state after `Add 1, Add 2, Get 1` (full, key 2 least recently used) -/
def demoFull : LRU := finalState LRU.step (LRU.new 2) (demo.take 3)

theorem demoFull_inv : Inv demoFull := (lib_refines_plain_model 2 (by decide) (demo.take 3)).2.2

/-- `lib_add_evicts_lru`, evicting instance: key new, cache full → flag, callback = least recently used entry -/
example : (demoFull.add [3] [30]).2 = (true, [([2], [20])]) ∧ demoFull.keys = [[2], [1]] ∧
    (demoFull.add [3] [30]).1.keys = [[1], [3]] := by decide +kernel

/-- `lib_add_present`, instance: the hypothesis `contains` holds, no eviction, refreshed and overwritten -/
example : demoFull.contains [2] = true ∧ (demoFull.add [2] [21]).2 = (false, []) ∧
    (demoFull.add [2] [21]).1.keys = [[1], [2]] ∧ (demoFull.add [2] [21]).1.peek [2] = some [21] := by decide +kernel

/-- `lib_get_contains_peek`, instances: `Peek`/`Contains` do not protect key 2 from eviction, `Get` does -/
example : demoFull.peek [2] = some [20] ∧ ((demoFull.get [2]).1.add [3] [30]).2.2 = [([1], [10])] ∧
    (demoFull.add [3] [30]).2.2 = [([2], [20])] := by decide +kernel

/-- `lib_containsOrAdd`, both branches -/
example : demoFull.containsOrAdd [1] [99] = (demoFull, true, false, []) ∧
    (demoFull.containsOrAdd [3] [30]).2 = (false, true, [([2], [20])]) := by
  refine ⟨rfl, by decide⟩

/-- why `Purge` is compared up to the order of the callbacks: the library walks the MAP (here: insertion order `1, 2`,
    in Go: unspecified), the recency order is `2, 1` -/
example : (demoFull.step .purge).2 = (.purged, [([1], [10]), ([2], [20])]) ∧
    (plainStep demoFull.abs .purge).2 = (.purged, [([2], [20]), ([1], [10])]) := by decide +kernel

/-- the wrapper-level chain on a concrete history (the plain-cache demo of RefSpec) -/
example : SV.LRU.runTrace LRU.stepL LRU.obsL (LRU.new 2) demoPlain
    = SV.LRU.runTrace Ref.step Ref.obs (Ref.init 2 none) demoPlain := by decide +kernel

end SV.LRU.Lib
