/-
  SV.LRU.Proofs — invariants and behavioural theorems for the LRU models (C15/C17).
-/
import SV.LRU.Model
import SV.PtrList
namespace SV.LRU

theorem head_of_prefix {α : Type} (x : α) (rest p q : List α) (h : x :: rest = p ++ q) (hp : p ≠ []) :
    ∃ p', p = x :: p' ∧ rest = p' ++ q := by
  cases p with
  | nil => exact absurd rfl hp
  | cons y ys =>
    obtain ⟨rfl, ht⟩ := List.cons.inj h
    exact ⟨ys, rfl, ht⟩

def sumSizes (l : List Entry) : Int := (l.map (·.size)).foldl (· + ·) 0

/-- within limits, or a single entry (the most recently written entry always stays) -/
def Fits (cap : Nat) (maxBytes : Int) (l : List Entry) : Prop :=
  l.length ≤ 1 ∨ (l.length ≤ cap ∧ sumSizes l ≤ maxBytes)

structure CapInv (c : Cap) : Prop where
  keysNodup : (c.entries.map (·.key)).Nodup
  sizes : ∀ e ∈ c.entries, 0 ≤ e.size
  bytes : c.bytes = sumSizes c.entries
  fits : Fits c.cap c.maxBytes c.entries

theorem sumSizes_eq_sum (l : List Entry) : sumSizes l = (l.map (·.size)).sum := List.sum_eq_foldl.symm

@[simp] theorem sumSizes_nil : sumSizes [] = 0 := rfl

@[simp] theorem sumSizes_cons (e : Entry) (l : List Entry) : sumSizes (e :: l) = e.size + sumSizes l := by
  rw [sumSizes_eq_sum, sumSizes_eq_sum, List.map_cons, List.sum_cons]

@[simp] theorem sumSizes_append (a b : List Entry) : sumSizes (a ++ b) = sumSizes a + sumSizes b := by
  rw [sumSizes_eq_sum, sumSizes_eq_sum, sumSizes_eq_sum, List.map_append, List.sum_append]

theorem sumSizes_reverse (l : List Entry) : sumSizes l.reverse = sumSizes l := by
  rw [sumSizes_eq_sum, sumSizes_eq_sum, List.map_reverse, List.sum_reverse_int]

theorem Fits.of_le {cap : Nat} {maxBytes : Int} {l l' : List Entry} (h : Fits cap maxBytes l)
    (hl : l'.length ≤ l.length) (hs : sumSizes l' ≤ sumSizes l) : Fits cap maxBytes l' :=
  h.imp (Nat.le_trans hl) fun ⟨a, b⟩ => ⟨Nat.le_trans hl a, Int.le_trans hs b⟩

/-! ### eviction loop -/

theorem evictLoop_false (fuel : Nat) (c : Cap) (acc : List Entry) (h : c.shouldEvict = false) :
    Cap.evictLoop (fuel + 1) c acc = (c, acc) := by
  simp [Cap.evictLoop, h]

theorem evictLoop_none (fuel : Nat) (c : Cap) (acc : List Entry) (h : c.shouldEvict = true)
    (hg : c.entries.getLast? = none) : Cap.evictLoop (fuel + 1) c acc = (c, acc) := by
  simp [Cap.evictLoop, Cap.removeOldest, h, hg]

theorem evictLoop_some (fuel : Nat) (c : Cap) (acc : List Entry) (e : Entry) (h : c.shouldEvict = true)
    (hg : c.entries.getLast? = some e) :
    Cap.evictLoop (fuel + 1) c acc =
      Cap.evictLoop fuel { c with entries := c.entries.dropLast, bytes := c.bytes - e.size } (acc ++ [e]) := by
  simp [Cap.evictLoop, Cap.removeOldest, h, hg]

/-- with a true byte count the loop runs exactly while the entries do not fit: `shouldEvict` differs from
    `¬ Fits` only on the empty cache, where `removeOldest` finds nothing and the loop stops as well -/
theorem not_fits_iff (c : Cap) (hb : c.bytes = sumSizes c.entries) :
    ¬ Fits c.cap c.maxBytes c.entries ↔ c.shouldEvict = true ∧ c.entries ≠ [] := by
  unfold Fits Cap.shouldEvict
  rw [← hb, ← List.length_pos_iff]
  split
  · next h1 => exact ⟨fun h => absurd (Or.inl (Nat.le_of_eq h1)) h, fun h => Bool.noConfusion h.1⟩
  · next h1 =>
    rw [Bool.or_eq_true, decide_eq_true_eq, decide_eq_true_eq, not_or, Decidable.not_and_iff_not_or_not, Nat.not_le,
      Nat.not_le, Int.not_le]
    exact ⟨fun ⟨a, b⟩ => ⟨b, Nat.lt_of_succ_lt a⟩, fun ⟨b, a⟩ => ⟨Nat.lt_of_le_of_ne a (Ne.symm h1), b⟩⟩

theorem evictLoop_of_fits (fuel : Nat) (c : Cap) (acc : List Entry) (hb : c.bytes = sumSizes c.entries)
    (hf : Fits c.cap c.maxBytes c.entries) : Cap.evictLoop fuel c acc = (c, acc) := by
  cases fuel with
  | zero => rfl
  | succ fuel =>
    cases hs : c.shouldEvict with
    | false => exact evictLoop_false fuel c acc hs
    | true =>
      have hnil : c.entries = [] := Decidable.by_contra fun hne => (not_fits_iff c hb).mpr ⟨hs, hne⟩ hf
      exact evictLoop_none fuel c acc hs (by rw [hnil]; rfl)

theorem evictLoop_of_not_fits (fuel : Nat) (c : Cap) (acc : List Entry) (hb : c.bytes = sumSizes c.entries)
    (hf : ¬ Fits c.cap c.maxBytes c.entries) :
    ∃ l e, c.entries = l ++ [e] ∧ c.bytes - e.size = sumSizes l ∧
      Cap.evictLoop (fuel + 1) c acc =
        Cap.evictLoop fuel { c with entries := l, bytes := c.bytes - e.size } (acc ++ [e]) := by
  obtain ⟨hs, hne⟩ := (not_fits_iff c hb).mp hf
  have he := (List.dropLast_concat_getLast hne).symm
  generalize c.entries.dropLast = l, c.entries.getLast hne = e at he
  refine ⟨l, e, he, by rw [hb, he, sumSizes_append, sumSizes_cons, sumSizes_nil, Int.add_zero, Int.add_sub_cancel], ?_⟩
  have := evictLoop_some fuel c acc e hs (by rw [he]; exact List.getLast?_concat)
  rwa [he, List.dropLast_concat] at this

/-- the loop keeps the longest prefix of the entries (most recent first) that fits and reports the rest, least
    recent first -/
theorem evictLoop_spec (fuel : Nat) (c : Cap) (acc : List Entry) (hb : c.bytes = sumSizes c.entries)
    (hl : c.entries.length < fuel) :
    ∃ kept dropped, c.entries = kept ++ dropped ∧
      Cap.evictLoop fuel c acc = ({ c with entries := kept, bytes := sumSizes kept }, acc ++ dropped.reverse) ∧
      Fits c.cap c.maxBytes kept ∧ ∀ e rest, dropped = e :: rest → ¬ Fits c.cap c.maxBytes (kept ++ [e]) := by
  induction fuel generalizing c acc with
  | zero => omega
  | succ fuel ih =>
    by_cases hf : Fits c.cap c.maxBytes c.entries
    · refine ⟨c.entries, [], (List.append_nil _).symm, ?_, hf, nofun⟩
      rw [evictLoop_of_fits _ c acc hb hf, ← hb, List.reverse_nil, List.append_nil]
    · obtain ⟨l, e, he, hb', hstep⟩ := evictLoop_of_not_fits fuel c acc hb hf
      rw [he, List.length_append, List.length_singleton] at hl
      obtain ⟨kept, dropped, h1, h2, h3, h4⟩ :=
        ih { c with entries := l, bytes := c.bytes - e.size } (acc ++ [e]) hb' (Nat.lt_of_succ_lt_succ hl)
      have h1 : l = kept ++ dropped := h1
      refine ⟨kept, dropped ++ [e], by rw [he, h1, List.append_assoc], ?_, h3, ?_⟩
      · rw [hstep, h2, List.reverse_append, List.reverse_singleton, List.append_assoc, List.singleton_append]
      · intro e0 rest hd
        cases dropped with
        | nil =>
          cases hd
          rw [List.append_nil] at h1
          rw [← h1, ← he]; exact hf
        | cons x xs => exact h4 e0 xs (congrArg (· :: xs) (List.cons.inj hd).1)

theorem evictIfNeeded_spec (c : Cap) (hb : c.bytes = sumSizes c.entries) :
    ∃ kept dropped, c.entries = kept ++ dropped ∧
      c.evictIfNeeded = ({ c with entries := kept, bytes := sumSizes kept }, dropped.reverse) ∧
      Fits c.cap c.maxBytes kept ∧ ∀ e rest, dropped = e :: rest → ¬ Fits c.cap c.maxBytes (kept ++ [e]) :=
  evictLoop_spec (c.entries.length + 1) c [] hb (Nat.lt_succ_self _)

/-- C15: eviction drops a suffix (the least recently used entries) and reports exactly what it dropped, LRU first -/
theorem evictIfNeeded_split (c : Cap) (hb : c.bytes = sumSizes c.entries) :
    c.entries = (c.evictIfNeeded).1.entries ++ (c.evictIfNeeded).2.reverse ∧
    (c.evictIfNeeded).1.bytes = sumSizes (c.evictIfNeeded).1.entries ∧
    (c.evictIfNeeded).1.cap = c.cap ∧ (c.evictIfNeeded).1.maxBytes = c.maxBytes := by
  obtain ⟨kept, dropped, h1, h2, _, _⟩ := evictIfNeeded_spec c hb
  rw [h2, List.reverse_reverse]
  exact ⟨h1, rfl, rfl, rfl⟩

theorem evictIfNeeded_fits (c : Cap) (hb : c.bytes = sumSizes c.entries) :
    Fits c.cap c.maxBytes (c.evictIfNeeded).1.entries ∧ (c.entries ≠ [] → (c.evictIfNeeded).1.entries ≠ []) := by
  obtain ⟨kept, dropped, h1, h2, h3, h4⟩ := evictIfNeeded_spec c hb
  rw [h2]
  refine ⟨h3, fun hne (hk : kept = []) => ?_⟩
  subst hk
  cases dropped with
  | nil => exact hne h1
  | cons e rest => exact h4 e rest rfl (Or.inl (Nat.le_refl 1))

/-- C15: eviction drops no more than needed: if anything was dropped, keeping one more entry would not fit -/
theorem evictIfNeeded_minimal (c : Cap) (hb : c.bytes = sumSizes c.entries)
    (e : Entry) (rest : List Entry) (h : (c.evictIfNeeded).2.reverse = e :: rest) :
    ¬ Fits c.cap c.maxBytes ((c.evictIfNeeded).1.entries ++ [e]) := by
  obtain ⟨kept, dropped, _, h2, _, h4⟩ := evictIfNeeded_spec c hb
  rw [h2, List.reverse_reverse] at h
  rw [h2]
  exact h4 e rest h

theorem evictIfNeeded_noop (c : Cap) (hb : c.bytes = sumSizes c.entries) (hf : Fits c.cap c.maxBytes c.entries) :
    c.evictIfNeeded = (c, []) :=
  evictLoop_of_fits _ c [] hb hf

/-! ### lookups -/

theorem has_find (c : Cap) (k : Bytes) (h : c.has k = true) :
    ∃ e, c.find k = some e ∧ e ∈ c.entries ∧ e.key = k := by
  obtain ⟨e, he⟩ := Option.isSome_iff_exists.mp (List.find?_isSome.mpr (List.any_eq_true.mp h))
  exact ⟨e, he, List.mem_of_find?_eq_some he, eq_of_beq (List.find?_some (p := fun x : Entry => x.key == k) he)⟩

theorem has_false (c : Cap) (k : Bytes) (h : c.has k = false) :
    c.find k = none ∧ ∀ e ∈ c.entries, e.key ≠ k := by
  have h := List.any_eq_false.mp h
  exact ⟨List.find?_eq_none.mpr h, fun e he hk => h e he (beq_iff_eq.mpr hk)⟩

theorem Cap.remove_entries (c : Cap) (k : Bytes) : (c.remove k).1.entries = c.entries.filter (·.key != k) := by
  unfold Cap.remove
  cases hf : c.find k with
  | none => exact (PtrList.filter_attr_ne_of_absent Entry.key hf).symm
  | some e => rfl

theorem filter_keys_nodup (k : Bytes) (l : List Entry) (hn : (l.map (·.key)).Nodup) :
    ((l.filter (·.key != k)).map (·.key)).Nodup :=
  hn.sublist (List.filter_sublist.map _)

theorem not_mem_filter_keys (k : Bytes) (l : List Entry) : k ∉ (l.filter (·.key != k)).map (·.key) :=
  PtrList.not_mem_map_filter_attr_ne Entry.key l k

theorem nodup_cons_filter {α : Type} (key : α → Bytes) (l : List α) (x : α) (hn : (l.map key).Nodup) :
    ((x :: l.filter (fun a => key a != key x)).map key).Nodup :=
  List.nodup_cons.mpr ⟨PtrList.not_mem_map_filter_attr_ne key l (key x), hn.sublist (List.filter_sublist.map key)⟩

theorem filter_find_facts (k : Bytes) (l : List Entry) (e : Entry) (hn : (l.map (·.key)).Nodup)
    (hf : l.find? (·.key == k) = some e) :
    (l.filter (·.key != k)).length + 1 = l.length ∧
    sumSizes (l.filter (·.key != k)) + e.size = sumSizes l := by
  obtain ⟨he, rfl⟩ := (PtrList.find?_attr_eq_some_iff Entry.key hn).mp hf
  obtain ⟨a, b, rfl⟩ := List.append_of_mem he
  rw [PtrList.filter_attr_ne_middle Entry.key hn, sumSizes_append, sumSizes_append, sumSizes_cons, List.length_append,
    List.length_append, List.length_cons, Int.add_assoc, Int.add_comm (sumSizes b)]
  exact ⟨rfl, rfl⟩

/-! ### every operation keeps `CapInv` -/

theorem CapInv.evict (c : Cap) (hn : (c.entries.map (·.key)).Nodup) (hs : ∀ e ∈ c.entries, 0 ≤ e.size)
    (hb : c.bytes = sumSizes c.entries) : CapInv (c.evictIfNeeded).1 := by
  obtain ⟨kept, dropped, h1, h2, h3, _⟩ := evictIfNeeded_spec c hb
  rw [h1, List.map_append] at hn
  rw [h2]
  exact ⟨hn.sublist (List.sublist_append_left _ _), fun e he => hs e (h1 ▸ List.mem_append_left _ he), rfl, h3⟩

theorem CapInv.init (cap : Nat) (maxBytes : Int) : CapInv (Cap.init cap maxBytes) :=
  ⟨List.nodup_nil, nofun, rfl, Or.inl (Nat.zero_le 1)⟩

theorem CapInv.cons_filter {c : Cap} (h : CapInv c) (x : Entry) (hx : 0 ≤ x.size) :
    ((x :: c.entries.filter (·.key != x.key)).map (·.key)).Nodup ∧
    ∀ e ∈ x :: c.entries.filter (·.key != x.key), 0 ≤ e.size :=
  ⟨nodup_cons_filter Entry.key c.entries x h.keysNodup,
   List.forall_mem_cons.mpr ⟨hx, fun e he => h.sizes e (List.mem_filter.mp he).1⟩⟩

theorem addSizedCore_eq (c : Cap) (k v : Bytes) (size : Int) (h : CapInv c) (hs : 0 ≤ size) :
    c.addSizedCore Variant.current k v size =
      { c with entries := ⟨k, v, size⟩ :: c.entries.filter (·.key != k),
               bytes := sumSizes (⟨k, v, size⟩ :: c.entries.filter (·.key != k)) } := by
  unfold Cap.addSizedCore
  rw [if_neg (Int.not_lt.mpr hs)]
  cases hk : c.has k with
  | true =>
    obtain ⟨old, hfind, _, _⟩ := has_find c k hk
    obtain ⟨_, hsum⟩ := filter_find_facts k c.entries old h.keysNodup hfind
    rw [if_pos rfl, Cap.update, hfind]
    refine congrArg (Cap.mk c.cap c.maxBytes _) ?_
    rw [sumSizes_cons, h.bytes, ← hsum, Int.add_assoc, Int.add_comm old.size, Int.sub_add_cancel, Int.add_comm]
  | false =>
    rw [if_neg Bool.false_ne_true, Cap.addNew, PtrList.filter_attr_ne_of_absent Entry.key (has_false c k hk).1, sumSizes_cons, h.bytes, Int.add_comm]

theorem addSizedCore_shape (c : Cap) (k v : Bytes) (size : Int) (h : CapInv c) (hs : 0 ≤ size) :
    ∃ rest, (c.addSizedCore Variant.current k v size).entries = ⟨k, v, size⟩ :: rest ∧
      (∀ e, e ∈ rest ↔ (e ∈ c.entries ∧ e.key ≠ k)) ∧
      (rest.map (·.key)).Nodup ∧
      (c.addSizedCore Variant.current k v size).bytes = sumSizes (c.addSizedCore Variant.current k v size).entries ∧
      (c.addSizedCore Variant.current k v size).cap = c.cap ∧
      (c.addSizedCore Variant.current k v size).maxBytes = c.maxBytes := by
  rw [addSizedCore_eq c k v size h hs]
  exact ⟨_, rfl, fun e => List.mem_filter.trans (and_congr_right fun _ => bne_iff_ne),
    filter_keys_nodup k _ h.keysNodup, rfl, rfl, rfl⟩

theorem addSizedCore_negative (c : Cap) (k v : Bytes) (size : Int) (hs : size < 0) :
    c.addSizedCore Variant.current k v size = c := by
  unfold Cap.addSizedCore
  rw [if_pos hs]

theorem CapInv.addSizedCore_evict (c : Cap) (k v : Bytes) (size : Int) (h : CapInv c) :
    CapInv ((c.addSizedCore Variant.current k v size).evictIfNeeded).1 := by
  by_cases hs : size < 0
  · rw [addSizedCore_negative c k v size hs]
    exact CapInv.evict c h.keysNodup h.sizes h.bytes
  · rw [addSizedCore_eq c k v size h (Int.not_lt.mp hs)]
    obtain ⟨hn, hsz⟩ := h.cons_filter ⟨k, v, size⟩ (Int.not_lt.mp hs)
    exact CapInv.evict _ hn hsz rfl

theorem addSized_eq (vr : Variant) (c : Cap) (k v : Bytes) (size : Int) :
    c.addSized vr k v size = (((c.addSizedCore vr k v size).evictIfNeeded).1,
      !((c.addSizedCore vr k v size).evictIfNeeded).2.isEmpty) := by
  unfold Cap.addSized
  generalize (c.addSizedCore vr k v size).evictIfNeeded = r
  rfl

theorem CapInv.addSized (c : Cap) (k v : Bytes) (size : Int) (h : CapInv c) :
    CapInv (c.addSized Variant.current k v size).1 := by
  rw [addSized_eq]
  exact CapInv.addSizedCore_evict c k v size h

theorem addNew_eq_core (c : Cap) (k v : Bytes) (size : Int) (hk : c.has k = false) (hs : ¬ size < 0) :
    c.addNew k v size = c.addSizedCore Variant.current k v size := by
  unfold Cap.addSizedCore
  rw [if_neg hs, hk, if_neg Bool.false_ne_true]

theorem addSizedIfMissing_present (c : Cap) (k v : Bytes) (size : Int) (hk : c.has k = true) :
    c.addSizedIfMissing Variant.current k v size = (c, true, false) := by
  unfold Cap.addSizedIfMissing
  rw [if_neg (by simp [Variant.current]), if_pos hk]

theorem addSizedIfMissing_negative (c : Cap) (k v : Bytes) (size : Int) (hk : c.has k = false) (hs : size < 0) :
    c.addSizedIfMissing Variant.current k v size = (c, false, false) := by
  unfold Cap.addSizedIfMissing
  rw [if_neg (by simp [Variant.current]), hk, if_neg Bool.false_ne_true, if_pos hs]

theorem addSizedIfMissing_absent (c : Cap) (k v : Bytes) (size : Int) (hk : c.has k = false) (hs : ¬ size < 0) :
    c.addSizedIfMissing Variant.current k v size =
      (((c.addSizedCore Variant.current k v size).evictIfNeeded).1, false,
        !((c.addSizedCore Variant.current k v size).evictIfNeeded).2.isEmpty) := by
  unfold Cap.addSizedIfMissing
  rw [if_neg (by simp [Variant.current]), hk, if_neg Bool.false_ne_true, if_neg hs, addNew_eq_core c k v size hk hs]

theorem CapInv.addSizedIfMissing (c : Cap) (k v : Bytes) (size : Int) (h : CapInv c) :
    CapInv (c.addSizedIfMissing Variant.current k v size).1 := by
  cases hk : c.has k with
  | true => rw [addSizedIfMissing_present c k v size hk]; exact h
  | false =>
    by_cases hs : size < 0
    · rw [addSizedIfMissing_negative c k v size hk hs]; exact h
    · rw [addSizedIfMissing_absent c k v size hk hs]; exact CapInv.addSizedCore_evict c k v size h

theorem CapInv.get (c : Cap) (k : Bytes) (h : CapInv c) : CapInv (c.get k).1 := by
  unfold Cap.get
  cases hf : c.find k with
  | none => exact h
  | some e =>
    show CapInv ⟨_, _, e :: c.entries.filter (·.key != k), c.bytes⟩
    obtain ⟨hlen, hsum⟩ := filter_find_facts k c.entries e h.keysNodup hf
    have hek : e.key = k := eq_of_beq (List.find?_some (p := fun x : Entry => x.key == k) hf)
    obtain ⟨hn, hs⟩ := h.cons_filter e (h.sizes e (List.mem_of_find?_eq_some hf))
    rw [hek] at hn hs
    have hb : c.bytes = sumSizes (e :: c.entries.filter (·.key != k)) := by rw [sumSizes_cons, h.bytes, ← hsum, Int.add_comm]
    exact ⟨hn, hs, hb, h.fits.of_le (Nat.le_of_eq hlen) (Int.le_of_eq (hb.symm.trans h.bytes))⟩

theorem CapInv.remove (c : Cap) (k : Bytes) (h : CapInv c) : CapInv (c.remove k).1 := by
  unfold Cap.remove
  cases hf : c.find k with
  | none => exact h
  | some e =>
    show CapInv ⟨_, _, c.entries.filter (·.key != k), c.bytes - e.size⟩
    obtain ⟨hlen, hsum⟩ := filter_find_facts k c.entries e h.keysNodup hf
    have hes := h.sizes e (List.mem_of_find?_eq_some hf)
    have hb : c.bytes - e.size = sumSizes (c.entries.filter (·.key != k)) := by
      rw [h.bytes, ← hsum]; exact Int.add_sub_cancel _ _
    exact ⟨filter_keys_nodup k _ h.keysNodup, fun x hx => h.sizes x (List.mem_filter.mp hx).1, hb,
      h.fits.of_le (Nat.le_of_succ_le (Nat.le_of_eq hlen)) (hsum ▸ Int.le_add_of_nonneg_right hes)⟩

theorem CapInv.purge (c : Cap) : CapInv c.purge := CapInv.init c.cap c.maxBytes

/-! ### the clauses of C15 / C17 on the sized cache -/

theorem evictIfNeeded_cons (c : Cap) (x : Entry) (rest : List Entry) (hb : c.bytes = sumSizes c.entries)
    (he : c.entries = x :: rest) :
    ∃ kept, (c.evictIfNeeded).1.entries = x :: kept ∧ rest = kept ++ (c.evictIfNeeded).2.reverse := by
  obtain ⟨hsplit, _⟩ := evictIfNeeded_split c hb
  rw [he] at hsplit
  exact head_of_prefix _ _ _ _ hsplit ((evictIfNeeded_fits c hb).2 (he ▸ List.cons_ne_nil _ _))

theorem write_entries (c : Cap) (k v : Bytes) (size : Int) (h : CapInv c) (hs : 0 ≤ size) :
    ∃ kept, ((c.addSizedCore Variant.current k v size).evictIfNeeded).1.entries = ⟨k, v, size⟩ :: kept ∧
      c.entries.filter (·.key != k) = kept ++ ((c.addSizedCore Variant.current k v size).evictIfNeeded).2.reverse := by
  rw [addSizedCore_eq c k v size h hs]
  exact evictIfNeeded_cons _ _ _ rfl rfl

/-- C15: a Put with a valid size makes the entry the most recently used one, with the given value and size -/
theorem addSized_head (c : Cap) (k v : Bytes) (size : Int) (h : CapInv c) (hs : 0 ≤ size) :
    (c.addSized Variant.current k v size).1.entries.head? = some ⟨k, v, size⟩ := by
  obtain ⟨kept, h1, _⟩ := write_entries c k v size h hs
  rw [addSized_eq, h1]
  rfl

/-- C15: a negative size is rejected: nothing changes, nothing is reported -/
theorem addSized_negative (c : Cap) (k v : Bytes) (size : Int) (h : CapInv c) (hs : size < 0) :
    c.addSized Variant.current k v size = (c, false) := by
  rw [addSized_eq, addSizedCore_negative c k v size hs, evictIfNeeded_noop c h.bytes h.fits]
  rfl

/-- C15/C17: conservation: every entry resident before a write (other than the written key) is afterwards either
    still resident, unchanged, or among the reported victims; victims are no longer resident; the evicted flag says
    exactly whether there are victims -/
theorem addSizedAndReturnEvicted_conservation (c : Cap) (k v : Bytes) (size : Int) (h : CapInv c) :
    let r := c.addSizedAndReturnEvicted Variant.current k v size
    (∀ e ∈ c.entries, e.key ≠ k → (e ∈ r.1.entries ∨ e ∈ r.2)) ∧
    (∀ e ∈ r.2, e ∈ c.entries ∧ e.key ≠ k ∧ r.1.has e.key = false) ∧
    ((c.addSized Variant.current k v size).2 = !r.2.isEmpty) ∧ (c.addSized Variant.current k v size).1 = r.1 := by
  intro r
  have hr : r = (c.addSizedCore Variant.current k v size).evictIfNeeded := rfl
  suffices h12 : (∀ e ∈ c.entries, e.key ≠ k → (e ∈ r.1.entries ∨ e ∈ r.2)) ∧
      (∀ e ∈ r.2, e ∈ c.entries ∧ e.key ≠ k ∧ r.1.has e.key = false) from
    ⟨h12.1, h12.2, by rw [addSized_eq]; rfl, by rw [addSized_eq]; rfl⟩
  rw [hr]
  by_cases hs : size < 0
  · rw [addSizedCore_negative c k v size hs, evictIfNeeded_noop c h.bytes h.fits]
    exact ⟨fun e he _ => Or.inl he, nofun⟩
  · obtain ⟨kept, h1, h2⟩ := write_entries c k v size h (Int.not_lt.mp hs)
    generalize (c.addSizedCore Variant.current k v size).evictIfNeeded = r at h1 h2
    -- the other entries are the survivors followed by the victims, and their keys are distinct
    have hmem : ∀ e, e ∈ c.entries ∧ e.key ≠ k ↔ e ∈ kept ∨ e ∈ r.2 := fun e => by
      rw [← List.mem_reverse (as := r.2), ← List.mem_append, ← h2, List.mem_filter, bne_iff_ne]
    have hnd := filter_keys_nodup k _ h.keysNodup
    rw [h2, List.map_append, List.nodup_append] at hnd
    refine ⟨fun e he hek => ((hmem e).mp ⟨he, hek⟩).imp (fun hk => h1 ▸ List.mem_cons_of_mem _ hk) id,
      fun e he => ?_⟩
    obtain ⟨hec, hek⟩ := (hmem e).mpr (Or.inr he)
    refine ⟨hec, hek, ?_⟩
    rw [Cap.has, h1]
    refine List.any_eq_false.mpr fun x hx hxe => ?_
    rcases List.mem_cons.mp hx with rfl | hx
    · exact hek (eq_of_beq hxe).symm
    · exact hnd.2.2 x.key (List.mem_map_of_mem hx) e.key (List.mem_map_of_mem (List.mem_reverse.mpr he))
        (eq_of_beq hxe)

/-- C15: recency: Get moves the entry to the most-recent end of Keys and changes nothing else -/
theorem get_keys (c : Cap) (k : Bytes) (hk : c.has k = true) :
    (c.get k).1.keys = (c.keys.filter (· != k)) ++ [k] := by
  obtain ⟨e, hfind, _, hek⟩ := has_find c k hk
  unfold Cap.get
  rw [hfind]
  simp only [Cap.keys, List.reverse_cons, List.map_append, List.map_cons, List.map_nil, hek,
    List.filter_map, List.filter_reverse]
  rfl

theorem peek_isSome (c : Cap) (k : Bytes) : (c.peek k).isSome = c.has k := by
  rw [Bool.eq_iff_iff, Cap.peek, Option.isSome_map, Cap.find, List.find?_isSome, Cap.has, List.any_eq_true]

/-- C15: HasOrAdd on the sized cache: has ⇔ was present; inserts iff absent and size valid -/
theorem addSizedIfMissing_flags (c : Cap) (k v : Bytes) (size : Int) (h : CapInv c) :
    let r := c.addSizedIfMissing Variant.current k v size
    r.2.1 = c.has k ∧ (c.has k = true → r.1 = c) ∧ (c.has k = false → 0 ≤ size → r.1.entries.head? = some ⟨k, v, size⟩) ∧
    (c.has k = false → size < 0 → r.1 = c) := by
  intro r
  cases hk : c.has k with
  | true =>
    rw [show r = _ from addSizedIfMissing_present c k v size hk]
    exact ⟨rfl, fun _ => rfl, nofun, nofun⟩
  | false =>
    by_cases hs : size < 0
    · rw [show r = _ from addSizedIfMissing_negative c k v size hk hs]
      exact ⟨rfl, nofun, fun _ h0 => absurd hs (Int.not_lt.mpr h0), fun _ _ => rfl⟩
    · rw [show r = _ from addSizedIfMissing_absent c k v size hk hs]
      obtain ⟨kept, h1, _⟩ := write_entries c k v size h (Int.not_lt.mp hs)
      exact ⟨rfl, nofun, fun _ _ => by rw [h1]; rfl, fun _ h' => absurd h' hs⟩

/-! ### simple (hashicorp) LRU -/

structure SimpleInv (c : Simple) : Prop where
  keysNodup : (c.entries.map (·.1)).Nodup
  bound : c.entries.length ≤ c.cap

theorem SimpleInv.empty (cap : Nat) : SimpleInv ⟨cap, []⟩ := ⟨List.nodup_nil, Nat.zero_le _⟩

theorem Simple.has_false (c : Simple) (k : Bytes) (h : c.has k = false) : k ∉ c.entries.map (·.1) := fun hmem => by
  obtain ⟨x, hx, hxk⟩ := List.mem_map.mp hmem
  exact List.any_eq_false.mp h x hx (beq_iff_eq.mpr hxk)

theorem Simple.add_of_has (c : Simple) (k v : Bytes) (hk : c.has k = true) :
    c.add k v = ({ c with entries := (k, v) :: c.entries.filter (·.1 != k) }, false) := by
  unfold Simple.add
  rw [if_pos hk]

theorem Simple.add_of_not_has (c : Simple) (k v : Bytes) (hk : c.has k = false) :
    c.add k v = if c.entries.length + 1 > c.cap then ({ c with entries := ((k, v) :: c.entries).dropLast }, true)
      else ({ c with entries := (k, v) :: c.entries }, false) := by
  unfold Simple.add
  rw [if_neg (hk ▸ Bool.false_ne_true)]
  rfl

theorem Simple.add_cap (c : Simple) (k v : Bytes) : (c.add k v).1.cap = c.cap := by
  unfold Simple.add
  split
  · rfl
  · dsimp only; split <;> rfl

theorem Simple.filter_lt (c : Simple) (k : Bytes) (hk : c.has k = true) :
    (c.entries.filter (·.1 != k)).length + 1 ≤ c.entries.length := by
  obtain ⟨x, hx, hxk⟩ := List.any_eq_true.mp hk
  exact List.length_filter_lt_length_iff_exists.mpr ⟨x, hx, fun h => bne_iff_ne.mp h (eq_of_beq hxk)⟩

theorem Simple.add_eq (c : Simple) (k v : Bytes) (h : SimpleInv c) :
    c.add k v =
      if c.cap < ((k, v) :: c.entries.filter (·.1 != k)).length
      then ({ c with entries := ((k, v) :: c.entries.filter (·.1 != k)).dropLast }, true)
      else ({ c with entries := (k, v) :: c.entries.filter (·.1 != k) }, false) := by
  cases hk : c.has k with
  | true =>
    have hle : ((k, v) :: c.entries.filter (·.1 != k)).length ≤ c.cap :=
      Nat.le_trans (Simple.filter_lt c k hk) h.bound
    rw [Simple.add_of_has c k v hk, if_neg (Nat.not_lt.mpr hle)]
  | false =>
    rw [Simple.add_of_not_has c k v hk,
      PtrList.filter_attr_ne_of_absent Prod.fst (List.find?_eq_none.mpr (List.any_eq_false.mp hk))]
    rfl

theorem SimpleInv.add (c : Simple) (k v : Bytes) (h : SimpleInv c) (hc : 1 ≤ c.cap) : SimpleInv (c.add k v).1 := by
  have _ := hc
  have hn := nodup_cons_filter Prod.fst c.entries (k, v) h.keysNodup
  have hl : ((k, v) :: c.entries.filter (·.1 != k)).length ≤ c.cap + 1 :=
    Nat.succ_le_succ (Nat.le_trans (List.length_filter_le _ _) h.bound)
  rw [Simple.add_eq c k v h]
  by_cases hgt : c.cap < ((k, v) :: c.entries.filter (·.1 != k)).length
  · rw [if_pos hgt]
    exact ⟨((List.dropLast_sublist _).map _).nodup hn, by
      show ((k, v) :: c.entries.filter (·.1 != k)).dropLast.length ≤ c.cap
      rw [List.length_dropLast]; exact Nat.sub_le_of_le_add hl⟩
  · rw [if_neg hgt]
    exact ⟨hn, Nat.not_lt.mp hgt⟩

theorem SimpleInv.get (c : Simple) (k : Bytes) (h : SimpleInv c) : SimpleInv (c.get k).1 := by
  unfold Simple.get
  cases hf : c.entries.find? (·.1 == k) with
  | none => exact h
  | some e =>
    have hek : (e.1 == k) = true := List.find?_some (p := fun x : Bytes × Bytes => x.1 == k) hf
    have hk : c.has k = true := List.any_eq_true.mpr ⟨e, List.mem_of_find?_eq_some hf, hek⟩
    have hn := nodup_cons_filter Prod.fst c.entries e h.keysNodup
    rw [eq_of_beq hek] at hn
    exact ⟨hn, Nat.le_trans (Simple.filter_lt c k hk) h.bound⟩

theorem SimpleInv.remove (c : Simple) (k : Bytes) (h : SimpleInv c) : SimpleInv (c.remove k) :=
  ⟨h.keysNodup.sublist (List.filter_sublist.map _), Nat.le_trans (List.length_filter_le _ _) h.bound⟩

theorem Simple.add_head (c : Simple) (k v : Bytes) (hc : 1 ≤ c.cap) : (c.add k v).1.entries.head? = some (k, v) := by
  cases hk : c.has k with
  | true => rw [Simple.add_of_has c k v hk]; rfl
  | false =>
    rw [Simple.add_of_not_has c k v hk]
    split
    · next hgt =>
      have hne : c.entries ≠ [] := fun h0 => by rw [h0] at hgt; exact absurd hc (Nat.not_le.mpr hgt)
      show ((k, v) :: c.entries).dropLast.head? = _
      rw [List.dropLast_cons_of_ne_nil hne]; rfl
    · rfl

/-- unlike `Simple.add_evicted`, this half needs no lower bound on the capacity -/
theorem Simple.add_evicted_flag (c : Simple) (k v : Bytes) (h : SimpleInv c) :
    (c.add k v).2 = (!c.has k && decide (c.entries.length = c.cap)) := by
  have hb := h.bound
  cases hk : c.has k with
  | true => rw [Simple.add_of_has c k v hk]; rfl
  | false =>
    rw [Simple.add_of_not_has c k v hk, Bool.not_false, Bool.true_and]
    split
    · next hgt => exact (decide_eq_true (Nat.le_antisymm hb (Nat.le_of_lt_succ hgt))).symm
    · next hgt => exact (decide_eq_false fun he => hgt (Nat.lt_succ_of_le (Nat.le_of_eq he.symm))).symm

/-- evicted ⇔ the cache was full and the key new; then exactly the least recently used entry goes.
    `hc : 1 ≤ c.cap` is what the Go constructor enforces; for `cap = 0` the second conjunct is false, see
    `Simple.add_evicted_cap0_counterexample`. -/
theorem Simple.add_evicted (c : Simple) (k v : Bytes) (h : SimpleInv c) (hc : 1 ≤ c.cap) :
    (c.add k v).2 = (!c.has k && decide (c.entries.length = c.cap)) ∧
    ((c.add k v).2 = true → (c.add k v).1.entries = (k, v) :: c.entries.dropLast) := by
  refine ⟨Simple.add_evicted_flag c k v h, ?_⟩
  cases hk : c.has k with
  | true => rw [Simple.add_of_has c k v hk]; nofun
  | false =>
    rw [Simple.add_of_not_has c k v hk]
    split
    · next hgt =>
      have hne : c.entries ≠ [] := fun h0 => by rw [h0] at hgt; exact absurd hc (Nat.not_le.mpr hgt)
      exact fun _ => List.dropLast_cons_of_ne_nil hne
    · nofun

/-- without `1 ≤ cap` the second conjunct of `Simple.add_evicted` fails: a zero-capacity cache evicts the entry
    it has just been given -/
theorem Simple.add_evicted_cap0_counterexample :
    ∃ (c : Simple) (k v : Bytes), SimpleInv c ∧ (c.add k v).2 = true ∧
      (c.add k v).1.entries ≠ (k, v) :: c.entries.dropLast :=
  ⟨⟨0, []⟩, [1], [2], ⟨by simp, by simp⟩, by decide, by decide⟩

/-! ### wrapper and handler registry -/

/-- C15: handlers: every Put yields exactly one invocation per registered handler, with the written key and value -/
theorem put_notifies (c : Cache) (k v : Bytes) (size : Int) :
    (c.put Variant.current k v size).2.2 = c.handlers.map (·, k, v) := by
  unfold Cache.put
  cases c.b <;> rfl

/-- C15: handlers: so does every inserting HasOrAdd; a non-inserting one yields none, and a HasOrAdd that reports the
    key present inserts nothing -/
theorem hasOrAdd_notifies (c : Cache) (k v : Bytes) (size : Int) :
    let r := c.hasOrAdd Variant.current k v size
    r.2.2.2 = (if r.2.2.1 then c.handlers.map (·, k, v) else []) ∧ (r.2.1 = true → r.2.2.1 = false) := by
  -- whatever the backend answers, the flags and invocations are those of one of the branches of `hasOrAdd`
  unfold Cache.hasOrAdd
  cases c.b with
  | sized s =>
    dsimp only
    generalize s.addSizedIfMissing Variant.current k v size = t
    obtain ⟨s', has, ev⟩ := t
    cases has
    · cases hk : s'.has k
      · exact ⟨rfl, nofun⟩
      · exact ⟨rfl, nofun⟩
    · exact ⟨rfl, fun _ => rfl⟩
  | plain s =>
    dsimp only
    generalize s.containsOrAdd k v = t
    obtain ⟨s', has, ev⟩ := t
    cases has
    · exact ⟨rfl, nofun⟩
    · exact ⟨rfl, fun _ => rfl⟩

theorem register_nodup (c : Cache) (id : String) (h : c.handlers.Nodup) :
    (c.register id).handlers.Nodup ∧ id ∈ (c.register id).handlers := by
  unfold Cache.register
  split
  · next hc => exact ⟨h, List.contains_iff_mem.mp hc⟩
  · next hc =>
    have hnm : id ∉ c.handlers := fun hm => hc (List.contains_iff_mem.mpr hm)
    refine ⟨List.nodup_append.mpr ⟨h, List.nodup_cons.mpr ⟨List.not_mem_nil, List.nodup_nil⟩, fun a ha b hb hab => ?_⟩,
      List.mem_append_right _ (List.mem_singleton_self id)⟩
    rw [hab, List.mem_singleton.mp hb] at ha
    exact hnm ha

theorem unregister_removes (c : Cache) (id : String) : id ∉ (c.unregister id).handlers := by
  unfold Cache.unregister
  simp

/-- the legacy `update` evicted silently: entries vanish without being reported (breaks conservation) -/
theorem legacy_silent_eviction_counterexample : ∃ (c : Cap) (k v : Bytes) (size : Int) (e : Entry),
    let r := c.addSizedAndReturnEvicted Variant.legacy k v size
    e ∈ c.entries ∧ e.key ≠ k ∧ e ∉ r.1.entries ∧ e ∉ r.2 ∧ (c.addSized Variant.legacy k v size).2 = false :=
  ⟨⟨3, 10, [⟨[1], [], 4⟩, ⟨[2], [], 4⟩], 8⟩, [1], [], 8, ⟨[2], [], 4⟩, by decide⟩

end SV.LRU
