/-
  SV.LRU.RefSpec — property C15 at the level of whole histories.

  1. `Ref`: an INDEPENDENT reference LRU, written for readability (one recency list, oldest first; operations
     defined declaratively; one `trim` for both the item and the byte bound).
  2. `LOp`/`LOut`, `Ref.step`, and the implementations seen through the `lruCache` wrapper of lrucache.go:
     `Cap.stepL` (capacityLRU), `Simple.stepL` (hashicorp simplelru), `Cache.stepL` (the wrapper model itself);
     the abstraction functions `Cap.toRef`, `Simple.toRef`, `Cache.toRef`.
  3. Refinement: step lemmas `Cap.step_refines`, `Simple.step_refines`, `Cache.step_refines`; history theorems
     `cap_refines_ref`, `simple_refines_ref`, `cache_refines_ref` (same outputs and same Keys / values / bytes / Len
     after every step).
  4. The property in its own words, proved from the reference alone: `ref_never_evicts_just_written`,
     `ref_evicts_least_recent_first`, `ref_bytes_is_sum`, `ref_flags_truthful`,
     `ref_len_le_cap_unless_single_oversized`.
  5. Concrete instances (`decide`) and the corners in which the equalities fail.
-/
import SV.LRU.Proofs
namespace SV.LRU

/-! ## 1. The reference LRU -/

/-- Reference state. `items` lists the residents from LEAST to MOST recently used (the order of `Keys`), with
    distinct keys. `maxBytes = none` is the plain LRU: no byte bound, sizes ignored (every resident counts 0). -/

structure Ref where
  cap : Nat
  maxBytes : Option Int
  items : List Entry
  deriving Repr, DecidableEq

namespace Ref

def init (cap : Nat) (maxBytes : Option Int) : Ref := ⟨cap, maxBytes, []⟩

def total : List Entry → Int
  | [] => 0
  | e :: l => e.size + total l

def keys (r : Ref) : List Bytes := r.items.map (·.key)
def vals (r : Ref) : List Bytes := r.items.map (·.val)
def len (r : Ref) : Nat := r.items.length
def bytes (r : Ref) : Int := total r.items
def find (r : Ref) (k : Bytes) : Option Entry := r.items.find? (·.key == k)
def has (r : Ref) (k : Bytes) : Bool := r.items.any (·.key == k)
def peek (r : Ref) (k : Bytes) : Option Bytes := (r.find k).map (·.val)
def without (r : Ref) (k : Bytes) : List Entry := r.items.filter (·.key != k)

/-- only the sized cache validates sizes: a negative size is refused -/
def rejects (r : Ref) (size : Int) : Bool := r.maxBytes.isSome && decide (size < 0)
/-- the size a resident is accounted with -/
def stored (r : Ref) (size : Int) : Int := if r.maxBytes.isSome then size else 0

/-- more residents than the item capacity, or (sized cache) more bytes than the byte capacity -/
def exceeds (cap : Nat) (maxBytes : Option Int) (l : List Entry) : Bool :=
  decide (l.length > cap) ||
    (match maxBytes with
     | none => false
     | some m => decide (total l > m))

/-- drop least recently used entries while a limit is exceeded and more than one entry remains -/
def trim (cap : Nat) (maxBytes : Option Int) : List Entry → List Entry
  | [] => []
  | [x] => [x]
  | x :: y :: rest =>
    if exceeds cap maxBytes (x :: y :: rest) then trim cap maxBytes (y :: rest) else x :: y :: rest

/-- the residents right after a write, before trimming: everything else in its old order, then the written
    entry as the most recent one -/
def written (r : Ref) (k v : Bytes) (size : Int) : List Entry := r.without k ++ [⟨k, v, r.stored size⟩]

/-- `Put` → (state, evicted?) -/
def put (r : Ref) (k v : Bytes) (size : Int) : Ref × Bool :=
  if r.rejects size then (r, false)
  else
    ({ r with items := trim r.cap r.maxBytes (r.written k v size) },
     decide ((trim r.cap r.maxBytes (r.written k v size)).length < (r.written k v size).length))

/-- `HasOrAdd` → (state, has, added); a resident key is NOT refreshed; a refused size is not an insertion -/
def hasOrAdd (r : Ref) (k v : Bytes) (size : Int) : Ref × Bool × Bool :=
  if r.has k then (r, true, false)
  else if r.rejects size then (r, false, false)
  else ((r.put k v size).1, false, true)

/-- `Get` refreshes recency; `peek`/`has` do not -/
def get (r : Ref) (k : Bytes) : Ref × Option Bytes :=
  match r.find k with
  | none => (r, none)
  | some e => ({ r with items := r.without k ++ [e] }, some e.val)

def remove (r : Ref) (k : Bytes) : Ref := { r with items := r.without k }
def clear (r : Ref) : Ref := { r with items := [] }

end Ref

/-! ## 2. Operations, outputs, and the three step functions -/

inductive LOp
  | put (k v : Bytes) (size : Int)
  | hoa (k v : Bytes) (size : Int)
  | get (k : Bytes)
  | peek (k : Bytes)
  | has (k : Bytes)
  | rm (k : Bytes)
  | clear
  deriving Repr, DecidableEq

inductive LOut
  | evicted (b : Bool)
  | hasAdded (has added : Bool)
  | value (v : Option Bytes)
  | present (b : Bool)
  | done
  deriving Repr, DecidableEq

def Ref.step (r : Ref) : LOp → Ref × LOut
  | .put k v s => ((r.put k v s).1, .evicted (r.put k v s).2)
  | .hoa k v s => ((r.hasOrAdd k v s).1, .hasAdded (r.hasOrAdd k v s).2.1 (r.hasOrAdd k v s).2.2)
  | .get k => ((r.get k).1, .value (r.get k).2)
  | .peek k => (r, .value (r.peek k))
  | .has k => (r, .present (r.has k))
  | .rm k => (r.remove k, .done)
  | .clear => (r.clear, .done)

/-- `capacityLRU` behind `lruCache` (current code): `Put` → `AddSized`; `HasOrAdd` → `AddSizedIfMissing`, then
    `added` is what the `Contains` re-check says -/
def Cap.stepL (c : Cap) : LOp → Cap × LOut
  | .put k v s => ((c.addSized Variant.current k v s).1, .evicted (c.addSized Variant.current k v s).2)
  | .hoa k v s =>
    if (c.addSizedIfMissing Variant.current k v s).2.1 then (c, .hasAdded true false)
    else ((c.addSizedIfMissing Variant.current k v s).1,
          .hasAdded false ((c.addSizedIfMissing Variant.current k v s).1.has k))
  | .get k => ((c.get k).1, .value (c.get k).2)
  | .peek k => (c, .value (c.peek k))
  | .has k => (c, .present (c.has k))
  | .rm k => ((c.remove k).1, .done)
  | .clear => (c.purge, .done)

/-- hashicorp `simplelru` behind `lru.Cache`, `simpleLRUCacheAdapter` and `lruCache`: sizes are dropped;
    `Put` → `Add`; `HasOrAdd` → `ContainsOrAdd` -/
def Simple.stepL (c : Simple) : LOp → Simple × LOut
  | .put k v _ => ((c.add k v).1, .evicted (c.add k v).2)
  | .hoa k v _ =>
    if (c.containsOrAdd k v).2.1 then (c, .hasAdded true false)
    else ((c.containsOrAdd k v).1, .hasAdded false true)
  | .get k => ((c.get k).1, .value (c.get k).2)
  | .peek k => (c, .value (c.peek k))
  | .has k => (c, .present (c.has k))
  | .rm k => (c.remove k, .done)
  | .clear => ({ c with entries := [] }, .done)

/-- the validated wrapper model `Cache` itself (handler invocations ignored here);
    `Cache.stepL_sized`/`Cache.stepL_plain` show it is `Cap.stepL`/`Simple.stepL` on the backend -/
def Cache.stepL (c : Cache) : LOp → Cache × LOut
  | .put k v s => ((c.put Variant.current k v s).1, .evicted (c.put Variant.current k v s).2.1)
  | .hoa k v s => ((c.hasOrAdd Variant.current k v s).1,
      .hasAdded (c.hasOrAdd Variant.current k v s).2.1 (c.hasOrAdd Variant.current k v s).2.2.1)
  | .get k => ((c.get k).1, .value (c.get k).2)
  | .peek k => (c, .value (c.peek k))
  | .has k => (c, .present (c.has k))
  | .rm k => (c.remove k, .done)
  | .clear => (c.clear, .done)

/-- what a client can observe between operations: `Keys` (oldest first), the values in the same order,
    `SizeInBytesContained`, `Len` -/
structure Obs where
  keys : List Bytes
  vals : List Bytes
  bytes : Int
  len : Nat
  deriving Repr, DecidableEq

def Ref.obs (r : Ref) : Obs := ⟨r.keys, r.vals, r.bytes, r.len⟩
def Cap.obs (c : Cap) : Obs := ⟨c.keys, c.entries.reverse.map (·.val), c.bytes, c.entries.length⟩
def Simple.obs (c : Simple) : Obs := ⟨c.keys, c.entries.reverse.map (·.2), 0, c.entries.length⟩
def Cache.obs (c : Cache) : Obs :=
  ⟨c.keys, (match c.b with | .sized s => s.entries.reverse.map (·.val) | .plain s => s.entries.reverse.map (·.2)),
   c.sizeInBytes, c.len⟩

def runFinal {σ : Type} (step : σ → LOp → σ × LOut) : σ → List LOp → σ
  | s, [] => s
  | s, op :: ops => runFinal step (step s op).1 ops

/-- output and observation after EVERY step of a history -/
def runTrace {σ : Type} (step : σ → LOp → σ × LOut) (obs : σ → Obs) : σ → List LOp → List (LOut × Obs)
  | _, [] => []
  | s, op :: ops => ((step s op).2, obs (step s op).1) :: runTrace step obs (step s op).1 ops

/-! ### abstraction functions (the implementations keep their lists most-recent FIRST) -/

def Cap.toRef (c : Cap) : Ref := ⟨c.cap, some c.maxBytes, c.entries.reverse⟩
/-- the plain LRU has no sizes: every resident counts 0 bytes -/
def plainItem (p : Bytes × Bytes) : Entry := ⟨p.1, p.2, 0⟩
def Simple.toRef (c : Simple) : Ref := ⟨c.cap, none, c.entries.reverse.map plainItem⟩
def Cache.toRef (c : Cache) : Ref :=
  match c.b with
  | .sized s => s.toRef
  | .plain s => s.toRef

/-- non-vacuity history (sized cache, cap = 2, 10 bytes), evaluated on both sides in section 5 -/
def demoOps : List LOp :=
  [ .put [1] [10] 4,          -- a
    .put [2] [20] 4,          -- a b
    .get [1],                 -- b a   (refresh changes the victim)
    .put [3] [30] 2,          -- evicts b (count)     → a c
    .put [3] [31] (-1),       -- rejected
    .put [1] [11] 9,          -- growing overwrite: c a(9) = 11 > 10 → evicts c
    .hoa [1] [12] 1,          -- present
    .hoa [4] [40] (-3),       -- refused
    .peek [1] ]


/-! ## sums, `trim`, and the operations branch by branch -/
namespace Ref

@[simp] theorem total_nil : total [] = 0 := rfl
@[simp] theorem total_cons (e : Entry) (l : List Entry) : total (e :: l) = e.size + total l := rfl

theorem total_eq_sumSizes (l : List Entry) : total l = sumSizes l := by
  induction l with
  | nil => rfl
  | cons x xs ih => simp only [total_cons, sumSizes_cons, ih]

@[simp] theorem total_append (a b : List Entry) : total (a ++ b) = total a + total b := by
  rw [total_eq_sumSizes, total_eq_sumSizes, total_eq_sumSizes, sumSizes_append]

theorem total_eq_sum (l : List Entry) : total l = (l.map (·.size)).sum :=
  (total_eq_sumSizes l).trans (sumSizes_eq_sum l)

theorem exceeds_eq_false (cap : Nat) (mb : Option Int) (l : List Entry) :
    exceeds cap mb l = false ↔ l.length ≤ cap ∧ ∀ m, mb = some m → total l ≤ m := by
  unfold exceeds
  rw [Bool.or_eq_false_iff, decide_eq_false_iff_not, Nat.not_lt]
  refine and_congr_right fun _ => ?_
  cases mb with
  | none => exact ⟨fun _ _ => nofun, fun _ => rfl⟩
  | some m =>
    exact ⟨fun h m' hm => Option.some.inj hm ▸ Int.not_lt.mp (of_decide_eq_false h),
      fun h => decide_eq_false (Int.not_lt.mpr (h m rfl))⟩

theorem trim_cons (cap : Nat) (mb : Option Int) (x : Entry) (t : List Entry) (ht : t ≠ []) :
    trim cap mb (x :: t) = if exceeds cap mb (x :: t) then trim cap mb t else x :: t := by
  cases t with
  | nil => exact absurd rfl ht
  | cons y rest => rfl

theorem trim_noop (cap : Nat) (mb : Option Int) (l : List Entry) (h : l.length ≤ 1 ∨ exceeds cap mb l = false) :
    trim cap mb l = l := by
  match l, h with
  | [], _ => rfl
  | [x], _ => rfl
  | x :: y :: rest, h =>
    rcases h with h | h
    · simp at h
    · rw [trim_cons _ _ _ _ (by simp), h]; rfl

/-- everything there is to know about `trim` of a non-empty list: it drops a prefix (the least recently used
    entries), keeps the last entry, stops as soon as the rest fits, and drops no more than needed -/
theorem trim_concat (cap : Nat) (mb : Option Int) (l : List Entry) (x : Entry) :
    ∃ dropped kept, l = dropped ++ kept ∧ trim cap mb (l ++ [x]) = kept ++ [x] ∧
      ((kept ++ [x]).length ≤ 1 ∨ exceeds cap mb (kept ++ [x]) = false) ∧
      (∀ d e, dropped = d ++ [e] → exceeds cap mb (e :: (kept ++ [x])) = true) := by
  induction l with
  | nil => exact ⟨[], [], rfl, rfl, Or.inl (Nat.le_refl 1), by simp⟩
  | cons y t ih =>
    rw [List.cons_append, trim_cons _ _ _ _ (List.append_ne_nil_of_right_ne_nil _ (List.cons_ne_nil _ _))]
    cases hx : exceeds cap mb (y :: (t ++ [x])) with
    | false => exact ⟨[], y :: t, rfl, rfl, Or.inr hx, by simp⟩
    | true =>
      obtain ⟨d, kept, h1, h2, h3, h4⟩ := ih
      refine ⟨y :: d, kept, congrArg (y :: ·) h1, h2, h3, fun d' e hd => ?_⟩
      cases d' with
      | nil =>
        obtain ⟨rfl, rfl⟩ := List.cons.inj hd
        rw [h1] at hx; exact hx
      | cons z zs => exact h4 zs e (List.cons.inj hd).2

theorem put_rejected (r : Ref) (k v : Bytes) (size : Int) (h : r.rejects size = true) :
    r.put k v size = (r, false) := by
  unfold Ref.put; rw [if_pos h]

theorem put_accepted (r : Ref) (k v : Bytes) (size : Int) (h : r.rejects size = false) :
    r.put k v size = ({ r with items := trim r.cap r.maxBytes (r.written k v size) },
      decide ((trim r.cap r.maxBytes (r.written k v size)).length < (r.written k v size).length)) := by
  unfold Ref.put; rw [if_neg (h ▸ Bool.false_ne_true)]

theorem hasOrAdd_present (r : Ref) (k v : Bytes) (size : Int) (h : r.has k = true) :
    r.hasOrAdd k v size = (r, true, false) := by
  unfold Ref.hasOrAdd; rw [if_pos h]

theorem hasOrAdd_rejected (r : Ref) (k v : Bytes) (size : Int) (h : r.has k = false) (hr : r.rejects size = true) :
    r.hasOrAdd k v size = (r, false, false) := by
  unfold Ref.hasOrAdd; rw [if_neg (h ▸ Bool.false_ne_true), if_pos hr]

theorem hasOrAdd_absent (r : Ref) (k v : Bytes) (size : Int) (h : r.has k = false) (hr : r.rejects size = false) :
    r.hasOrAdd k v size = ((r.put k v size).1, false, true) := by
  unfold Ref.hasOrAdd; rw [if_neg (h ▸ Bool.false_ne_true), if_neg (hr ▸ Bool.false_ne_true)]

end Ref

/-! ## 3a. `capacityLRU` refines the reference -/

theorem fits_iff (cap : Nat) (mb : Int) (l : List Entry) :
    Fits cap mb l ↔ l.reverse.length ≤ 1 ∨ Ref.exceeds cap (some mb) l.reverse = false := by
  rw [Ref.exceeds_eq_false, Ref.total_eq_sumSizes, sumSizes_reverse, List.length_reverse]
  exact or_congr_right (and_congr_right fun _ => ⟨fun h m hm => Option.some.inj hm ▸ h, fun h => h mb rfl⟩)

theorem evictLoop_trim (fuel : Nat) (c : Cap) (acc : List Entry) (hb : c.bytes = sumSizes c.entries)
    (hl : c.entries.length < fuel) :
    (Cap.evictLoop fuel c acc).1.entries.reverse = Ref.trim c.cap (some c.maxBytes) c.entries.reverse := by
  induction fuel generalizing c acc with
  | zero => omega
  | succ fuel ih =>
    by_cases hf : Fits c.cap c.maxBytes c.entries
    · rw [evictLoop_of_fits _ c acc hb hf, Ref.trim_noop _ _ _ ((fits_iff _ _ _).mp hf)]
    · obtain ⟨l, e, he, hb', hstep⟩ := evictLoop_of_not_fits fuel c acc hb hf
      rw [hstep, ih { c with entries := l, bytes := c.bytes - e.size } (acc ++ [e]) hb'
        (by rw [he] at hl; simpa using hl)]
      rw [fits_iff, not_or, Bool.not_eq_false] at hf
      rw [he, List.reverse_append, List.reverse_singleton, List.singleton_append] at hf ⊢
      have hlne : l.reverse ≠ [] := fun h0 => hf.1 (by rw [h0]; exact Nat.le_refl 1)
      rw [Ref.trim_cons _ _ _ _ hlne, hf.2, if_pos rfl]

theorem Cap.toRef_evict (c : Cap) (hb : c.bytes = sumSizes c.entries) :
    (c.evictIfNeeded).1.toRef = ⟨c.cap, some c.maxBytes, Ref.trim c.cap (some c.maxBytes) c.entries.reverse⟩ ∧
    (!(c.evictIfNeeded).2.isEmpty) =
      decide ((Ref.trim c.cap (some c.maxBytes) c.entries.reverse).length < c.entries.reverse.length) := by
  have ht : (c.evictIfNeeded).1.entries.reverse = _ := evictLoop_trim _ c [] hb (Nat.lt_succ_self _)
  obtain ⟨kept, dropped, h1, h2, _, _⟩ := evictIfNeeded_spec c hb
  rw [← ht, h2, h1, List.isEmpty_reverse, List.length_reverse, List.length_reverse, List.length_append]
  refine ⟨rfl, ?_⟩
  cases dropped with
  | nil => exact (decide_eq_false (Nat.lt_irrefl _)).symm
  | cons x xs => exact (decide_eq_true (Nat.lt_add_of_pos_right (Nat.succ_pos _))).symm

@[simp] theorem Cap.toRef_cap (c : Cap) : c.toRef.cap = c.cap := rfl
@[simp] theorem Cap.toRef_maxBytes (c : Cap) : c.toRef.maxBytes = some c.maxBytes := rfl
@[simp] theorem Cap.toRef_items (c : Cap) : c.toRef.items = c.entries.reverse := rfl

theorem Cap.toRef_has (c : Cap) (k : Bytes) : c.toRef.has k = c.has k := List.any_reverse

theorem Cap.toRef_without (c : Cap) (k : Bytes) : c.toRef.without k = (c.entries.filter (·.key != k)).reverse :=
  List.filter_reverse

theorem Cap.toRef_written (c : Cap) (k v : Bytes) (size : Int) :
    c.toRef.written k v size = (⟨k, v, size⟩ :: c.entries.filter (·.key != k)).reverse := by
  rw [Ref.written, Cap.toRef_without, List.reverse_cons]; rfl

theorem Cap.toRef_find (c : Cap) (k : Bytes) (h : CapInv c) : c.toRef.find k = c.find k :=
  PtrList.find?_attr_reverse Entry.key h.keysNodup k

theorem Cap.toRef_peek (c : Cap) (k : Bytes) (h : CapInv c) : c.toRef.peek k = c.peek k := by
  rw [Ref.peek, Cap.toRef_find c k h]; rfl

theorem Cap.toRef_write (c : Cap) (k v : Bytes) (size : Int) (h : CapInv c) (hs : 0 ≤ size) :
    ((c.addSizedCore Variant.current k v size).evictIfNeeded).1.toRef = (c.toRef.put k v size).1 ∧
    (!((c.addSizedCore Variant.current k v size).evictIfNeeded).2.isEmpty) = (c.toRef.put k v size).2 := by
  rw [addSizedCore_eq c k v size h hs, Ref.put_accepted c.toRef k v size (decide_eq_false (Int.not_lt.mpr hs)),
    Cap.toRef_written, Cap.toRef_maxBytes, Cap.toRef_cap]
  refine Cap.toRef_evict _ ?_
  rfl

theorem Cap.toRef_addSized (c : Cap) (k v : Bytes) (size : Int) (h : CapInv c) :
    (c.addSized Variant.current k v size).1.toRef = (c.toRef.put k v size).1 ∧
    (c.addSized Variant.current k v size).2 = (c.toRef.put k v size).2 := by
  by_cases hs : size < 0
  · rw [addSized_negative c k v size h hs, Ref.put_rejected c.toRef k v size (decide_eq_true hs)]
    exact ⟨rfl, rfl⟩
  · rw [addSized_eq]
    exact Cap.toRef_write c k v size h (Int.not_lt.mp hs)

theorem Cap.toRef_get (c : Cap) (k : Bytes) (h : CapInv c) :
    (c.get k).1.toRef = (c.toRef.get k).1 ∧ (c.get k).2 = (c.toRef.get k).2 := by
  unfold Ref.get Cap.get
  rw [Cap.toRef_find c k h, Cap.toRef_without]
  cases c.find k with
  | none => exact ⟨rfl, rfl⟩
  | some e => exact ⟨congrArg (Ref.mk _ _) (List.reverse_cons ..), rfl⟩

theorem Cap.toRef_remove (c : Cap) (k : Bytes) : (c.remove k).1.toRef = c.toRef.remove k := by
  unfold Ref.remove Cap.remove
  rw [Cap.toRef_without]
  cases hf : c.find k with
  | none => rw [PtrList.filter_attr_ne_of_absent Entry.key hf]; rfl
  | some e => rfl

theorem Cap.bytes_eq (c : Cap) (h : CapInv c) : c.bytes = c.toRef.bytes := by
  rw [h.bytes, Ref.bytes, Cap.toRef_items, Ref.total_eq_sumSizes, sumSizes_reverse]

theorem Cap.obs_eq (c : Cap) (h : CapInv c) : c.obs = c.toRef.obs := by
  simp only [Cap.obs, Ref.obs, Cap.bytes_eq c h, Ref.keys, Ref.vals, Ref.len, Cap.keys, Cap.toRef_items,
    List.length_reverse]

/-- STEP LEMMA (sized cache): one operation on `capacityLRU` behind the wrapper is one operation of the reference -/
theorem Cap.step_refines (c : Cap) (op : LOp) (h : CapInv c) :
    CapInv (c.stepL op).1 ∧ (c.stepL op).1.toRef = (c.toRef.step op).1 ∧ (c.stepL op).2 = (c.toRef.step op).2 := by
  cases op with
  | put k v s =>
    obtain ⟨h1, h2⟩ := Cap.toRef_addSized c k v s h
    simp only [Cap.stepL, Ref.step]
    exact ⟨CapInv.addSized c k v s h, h1, congrArg LOut.evicted h2⟩
  | hoa k v s =>
    rw [Cap.stepL, Ref.step]
    cases hk : c.has k with
    | true =>
      rw [addSizedIfMissing_present c k v s hk, Ref.hasOrAdd_present _ k v s ((Cap.toRef_has c k).trans hk)]
      exact ⟨h, rfl, rfl⟩
    | false =>
      have hk' := (Cap.toRef_has c k).trans hk
      by_cases hs : s < 0
      · rw [addSizedIfMissing_negative c k v s hk hs, Ref.hasOrAdd_rejected _ k v s hk' (decide_eq_true hs)]
        exact ⟨h, rfl, congrArg (LOut.hasAdded false) hk⟩
      · rw [addSizedIfMissing_absent c k v s hk hs, Ref.hasOrAdd_absent _ k v s hk' (decide_eq_false hs)]
        simp only [Bool.false_eq_true, if_false]
        -- the re-check finds the key: the entry just written is in front
        obtain ⟨kept, h1, _⟩ := write_entries c k v s h (Int.not_lt.mp hs)
        have hhas : ((c.addSizedCore Variant.current k v s).evictIfNeeded).1.has k = true := by
          rw [Cap.has, h1, List.any_cons, beq_self_eq_true]; rfl
        exact ⟨CapInv.addSizedCore_evict c k v s h, (Cap.toRef_write c k v s h (Int.not_lt.mp hs)).1,
          congrArg (LOut.hasAdded false) hhas⟩
  | get k =>
    obtain ⟨h1, h2⟩ := Cap.toRef_get c k h
    exact ⟨CapInv.get c k h, h1, congrArg LOut.value h2⟩
  | peek k =>
    exact ⟨h, rfl, congrArg LOut.value (Cap.toRef_peek c k h).symm⟩
  | has k => exact ⟨h, rfl, congrArg LOut.present (Cap.toRef_has c k).symm⟩
  | rm k => exact ⟨CapInv.remove c k h, Cap.toRef_remove c k, rfl⟩
  | clear => exact ⟨CapInv.purge c, rfl, rfl⟩

/-- the `Bool` returned by `capacityLRU.Remove` (dropped by the wrapper) is truthful as well -/
theorem Cap.remove_flag (c : Cap) (k : Bytes) : (c.remove k).2 = c.toRef.has k := by
  rw [Cap.toRef_has]
  unfold Cap.remove
  cases hk : c.has k with
  | true => obtain ⟨e, hf, _, _⟩ := has_find c k hk; rw [hf]
  | false => rw [(has_false c k hk).1]

/-! ## 3b. hashicorp `simplelru` refines the reference with `maxBytes = none` -/

@[simp] theorem Simple.toRef_cap (c : Simple) : c.toRef.cap = c.cap := rfl
@[simp] theorem Simple.toRef_maxBytes (c : Simple) : c.toRef.maxBytes = none := rfl
@[simp] theorem Simple.toRef_items (c : Simple) : c.toRef.items = c.entries.reverse.map plainItem := rfl

theorem Simple.toRef_has (c : Simple) (k : Bytes) : c.toRef.has k = c.has k := by
  simp only [Ref.has, Simple.has, Simple.toRef_items, List.any_map, List.any_reverse]
  rfl

theorem Simple.toRef_without (c : Simple) (k : Bytes) :
    c.toRef.without k = ((c.entries.filter (·.1 != k)).reverse).map plainItem := by
  simp only [Ref.without, Simple.toRef_items, List.filter_map, List.filter_reverse]
  rfl

theorem Simple.toRef_find (c : Simple) (k : Bytes) (h : SimpleInv c) :
    c.toRef.find k = (c.entries.find? (·.1 == k)).map plainItem := by
  simp only [Ref.find, Simple.toRef_items, List.find?_map]
  exact congrArg _ (PtrList.find?_attr_reverse Prod.fst h.keysNodup k)

theorem Simple.toRef_written (c : Simple) (k v : Bytes) (size : Int) :
    c.toRef.written k v size = (((k, v) :: c.entries.filter (·.1 != k)).reverse).map plainItem := by
  rw [Ref.written, Simple.toRef_without, List.reverse_cons, List.map_append]
  rfl

theorem Ref.trim_none (cap : Nat) (hc : 1 ≤ cap) (l : List Entry) (hl : l.length ≤ cap + 1) :
    Ref.trim cap none l = if cap < l.length then l.tail else l := by
  have hex : ∀ l : List Entry, Ref.exceeds cap none l = decide (cap < l.length) := fun l => Bool.or_false _
  by_cases hgt : cap < l.length
  · rw [if_pos hgt]
    cases l with
    | nil => exact absurd hgt (Nat.not_lt_zero _)
    | cons x t =>
      have ht : t.length = cap := Nat.le_antisymm (Nat.le_of_succ_le_succ hl) (Nat.le_of_lt_succ hgt)
      have hne : t ≠ [] := fun h0 => by rw [h0] at ht; rw [← ht] at hc; exact absurd hc (Nat.not_succ_le_zero 0)
      rw [Ref.trim_cons _ _ _ _ hne, hex, decide_eq_true hgt, if_pos rfl,
        Ref.trim_noop _ _ _ (Or.inr ((hex t).trans (decide_eq_false (ht ▸ Nat.lt_irrefl _))))]
      rfl
  · rw [if_neg hgt, Ref.trim_noop _ _ _ (Or.inr ((hex l).trans (decide_eq_false hgt)))]

theorem Simple.toRef_add (c : Simple) (k v : Bytes) (size : Int) (h : SimpleInv c) (hc : 1 ≤ c.cap) :
    (c.add k v).1.toRef = (c.toRef.put k v size).1 ∧ (c.add k v).2 = (c.toRef.put k v size).2 := by
  have hlen : ((((k, v) :: c.entries.filter (·.1 != k)).reverse).map plainItem).length
      = ((k, v) :: c.entries.filter (·.1 != k)).length := by rw [List.length_map, List.length_reverse]
  have hl : ((k, v) :: c.entries.filter (·.1 != k)).length ≤ c.cap + 1 :=
    Nat.succ_le_succ (Nat.le_trans (List.length_filter_le _ _) h.bound)
  rw [Ref.put_accepted c.toRef k v size rfl, Simple.toRef_written, Simple.toRef_cap, Simple.toRef_maxBytes,
    Ref.trim_none c.cap hc _ (hlen ▸ hl), hlen, Simple.add_eq c k v h]
  by_cases hgt : c.cap < ((k, v) :: c.entries.filter (·.1 != k)).length
  · rw [if_pos hgt, if_pos hgt, List.length_tail, hlen]
    exact ⟨congrArg (Ref.mk c.cap none) (by rw [← List.map_tail, List.tail_reverse]),
      (decide_eq_true (Nat.sub_lt (Nat.succ_pos _) Nat.one_pos)).symm⟩
  · rw [if_neg hgt, if_neg hgt, hlen]
    exact ⟨rfl, (decide_eq_false (Nat.lt_irrefl _)).symm⟩

theorem Simple.toRef_get (c : Simple) (k : Bytes) (h : SimpleInv c) :
    (c.get k).1.toRef = (c.toRef.get k).1 ∧ (c.get k).2 = (c.toRef.get k).2 := by
  unfold Ref.get Simple.get
  rw [Simple.toRef_find c k h, Simple.toRef_without]
  cases c.entries.find? (·.1 == k) with
  | none => exact ⟨rfl, rfl⟩
  | some e => exact ⟨congrArg (Ref.mk _ _) (by rw [List.reverse_cons, List.map_append]; rfl), rfl⟩

theorem Simple.toRef_peek (c : Simple) (k : Bytes) (h : SimpleInv c) : c.toRef.peek k = c.peek k := by
  rw [Ref.peek, Simple.toRef_find c k h, Simple.peek, Option.map_map]
  rfl

theorem Simple.obs_eq (c : Simple) : c.obs = c.toRef.obs := by
  have h0 : ∀ l : List (Bytes × Bytes), Ref.total (l.map plainItem) = 0 := by
    intro l
    induction l with
    | nil => rfl
    | cons x xs ih => simp only [List.map_cons, Ref.total_cons, ih]; rfl
  simp only [Simple.obs, Ref.obs, Ref.keys, Ref.vals, Ref.len, Ref.bytes, Simple.keys, Simple.toRef_items,
    List.length_reverse, List.length_map, List.map_map, h0]
  rfl

/-- STEP LEMMA (plain cache) -/
theorem Simple.step_refines (c : Simple) (op : LOp) (h : SimpleInv c) (hc : 1 ≤ c.cap) :
    (SimpleInv (c.stepL op).1 ∧ (c.stepL op).1.cap = c.cap) ∧
    (c.stepL op).1.toRef = (c.toRef.step op).1 ∧ (c.stepL op).2 = (c.toRef.step op).2 := by
  cases op with
  | put k v s =>
    obtain ⟨h1, h2⟩ := Simple.toRef_add c k v s h hc
    simp only [Simple.stepL, Ref.step]
    exact ⟨⟨SimpleInv.add c k v h hc, Simple.add_cap c k v⟩, h1, congrArg LOut.evicted h2⟩
  | hoa k v s =>
    rw [Simple.stepL, Ref.step, Simple.containsOrAdd]
    cases hk : c.has k with
    | true =>
      rw [Ref.hasOrAdd_present _ k v s ((Simple.toRef_has c k).trans hk)]
      exact ⟨⟨h, rfl⟩, rfl, rfl⟩
    | false =>
      rw [Ref.hasOrAdd_absent _ k v s ((Simple.toRef_has c k).trans hk) rfl]
      simp only [Bool.false_eq_true, if_false]
      exact ⟨⟨SimpleInv.add c k v h hc, Simple.add_cap c k v⟩, (Simple.toRef_add c k v s h hc).1, trivial⟩
  | get k =>
    obtain ⟨h1, h2⟩ := Simple.toRef_get c k h
    simp only [Simple.stepL, Ref.step]
    refine ⟨⟨SimpleInv.get c k h, ?_⟩, h1, congrArg LOut.value h2⟩
    unfold Simple.get; cases c.entries.find? (·.1 == k) <;> rfl
  | peek k => exact ⟨⟨h, rfl⟩, rfl, congrArg LOut.value (Simple.toRef_peek c k h).symm⟩
  | has k => exact ⟨⟨h, rfl⟩, rfl, congrArg LOut.present (Simple.toRef_has c k).symm⟩
  | rm k => exact ⟨⟨SimpleInv.remove c k h, rfl⟩, (congrArg (Ref.mk _ _) (Simple.toRef_without c k)).symm, rfl⟩
  | clear => exact ⟨⟨SimpleInv.empty c.cap, rfl⟩, rfl, rfl⟩

/-- the same with the capacity bound carried in the invariant, as a simulation over histories needs it -/
theorem Simple.step_sim (c : Simple) (op : LOp) (h : SimpleInv c ∧ 1 ≤ c.cap) :
    (SimpleInv (c.stepL op).1 ∧ 1 ≤ (c.stepL op).1.cap) ∧
    (c.stepL op).1.toRef = (c.toRef.step op).1 ∧ (c.stepL op).2 = (c.toRef.step op).2 := by
  obtain ⟨⟨hi, hcap⟩, hs, ho⟩ := Simple.step_refines c op h.1 h.2
  exact ⟨⟨hi, hcap ▸ h.2⟩, hs, ho⟩

/-! ## 3c. whole histories -/

theorem sim_run {σ : Type} (step : σ → LOp → σ × LOut) (obs : σ → Obs) (inv : σ → Prop) (abs : σ → Ref)
    (hstep : ∀ s op, inv s →
      inv (step s op).1 ∧ abs (step s op).1 = ((abs s).step op).1 ∧ (step s op).2 = ((abs s).step op).2)
    (hobs : ∀ s, inv s → obs s = (abs s).obs) (ops : List LOp) :
    ∀ s, inv s → runTrace step obs s ops = runTrace Ref.step Ref.obs (abs s) ops ∧
      abs (runFinal step s ops) = runFinal Ref.step (abs s) ops ∧ inv (runFinal step s ops) := by
  induction ops with
  | nil => intro s hs; exact ⟨rfl, rfl, hs⟩
  | cons op ops ih =>
    intro s hs
    obtain ⟨h1, h2, h3⟩ := hstep s op hs
    obtain ⟨i1, i2, i3⟩ := ih (step s op).1 h1
    simp only [runTrace, runFinal]
    rw [i1, h2, h3, hobs _ h1, h2]
    rw [h2] at i2
    exact ⟨rfl, i2, i3⟩

/-- MAIN THEOREM (sized cache, C15).  For every item capacity, byte capacity and history, `capacityLRU` behind the
    `lruCache` wrapper and the reference LRU produce the same output at every step and show the same `Keys` (same order),
    values, `SizeInBytesContained` and `Len` after every step; the final states are related by `Cap.toRef`.
    (`1 ≤ cap` is not needed on this side; the Go constructor enforces it anyway.) -/
theorem cap_refines_ref (cap : Nat) (maxBytes : Int) (ops : List LOp) :
    runTrace Cap.stepL Cap.obs (Cap.init cap maxBytes) ops
      = runTrace Ref.step Ref.obs (Ref.init cap (some maxBytes)) ops ∧
    (runFinal Cap.stepL (Cap.init cap maxBytes) ops).toRef = runFinal Ref.step (Ref.init cap (some maxBytes)) ops ∧
    CapInv (runFinal Cap.stepL (Cap.init cap maxBytes) ops) :=
  sim_run Cap.stepL Cap.obs CapInv Cap.toRef (fun s op hs => Cap.step_refines s op hs) Cap.obs_eq ops
    (Cap.init cap maxBytes) (CapInv.init cap maxBytes)

/-- the same, spelled out for the final state of a history (hence for the state after every prefix) -/
theorem cap_refines_ref_final (cap : Nat) (maxBytes : Int) (ops : List LOp) :
    let c := runFinal Cap.stepL (Cap.init cap maxBytes) ops
    let r := runFinal Ref.step (Ref.init cap (some maxBytes)) ops
    c.keys = r.keys ∧ c.entries.reverse.map (·.val) = r.vals ∧ (∀ k, c.peek k = r.peek k) ∧
    (∀ k, c.has k = r.has k) ∧ c.bytes = r.bytes ∧ c.entries.length = r.len := by
  intro c r
  obtain ⟨_, h2, h3⟩ := cap_refines_ref cap maxBytes ops
  have h2' : c.toRef = r := h2
  have h3' : CapInv c := h3
  have ho := Cap.obs_eq c h3'
  rw [h2'] at ho
  simp only [Cap.obs, Ref.obs, Obs.mk.injEq] at ho
  obtain ⟨o1, o2, o3, o4⟩ := ho
  refine ⟨o1, o2, ?_, ?_, o3, o4⟩
  · intro k; rw [← h2', Cap.toRef_peek c k h3']
  · intro k; rw [← h2', Cap.toRef_has]

/-- MAIN THEOREM (plain cache, C15): hashicorp's `simplelru` behind the wrapper is the same reference with
    `maxBytes = none` -/
theorem simple_refines_ref (cap : Nat) (hc : 1 ≤ cap) (ops : List LOp) :
    runTrace Simple.stepL Simple.obs ⟨cap, []⟩ ops = runTrace Ref.step Ref.obs (Ref.init cap none) ops ∧
    (runFinal Simple.stepL ⟨cap, []⟩ ops).toRef = runFinal Ref.step (Ref.init cap none) ops ∧
    SimpleInv (runFinal Simple.stepL ⟨cap, []⟩ ops) := by
  obtain ⟨h1, h2, h3⟩ := sim_run Simple.stepL Simple.obs (fun s => SimpleInv s ∧ 1 ≤ s.cap) Simple.toRef
    Simple.step_sim (fun s _ => Simple.obs_eq s) ops ⟨cap, []⟩ ⟨SimpleInv.empty cap, hc⟩
  exact ⟨h1, h2, h3.1⟩

theorem simple_refines_ref_final (cap : Nat) (hc : 1 ≤ cap) (ops : List LOp) :
    let c := runFinal Simple.stepL ⟨cap, []⟩ ops
    let r := runFinal Ref.step (Ref.init cap none) ops
    c.keys = r.keys ∧ c.entries.reverse.map (·.2) = r.vals ∧ (∀ k, c.peek k = r.peek k) ∧
    (∀ k, c.has k = r.has k) ∧ r.bytes = 0 ∧ c.entries.length = r.len := by
  intro c r
  obtain ⟨_, h2, h3⟩ := simple_refines_ref cap hc ops
  have h2' : c.toRef = r := h2
  have h3' : SimpleInv c := h3
  have ho := Simple.obs_eq c
  rw [h2'] at ho
  simp only [Simple.obs, Ref.obs, Obs.mk.injEq] at ho
  obtain ⟨o1, o2, o3, o4⟩ := ho
  refine ⟨o1, o2, ?_, ?_, o3.symm, o4⟩
  · intro k; rw [← h2', Simple.toRef_peek c k h3']
  · intro k; rw [← h2', Simple.toRef_has]

/-! ### the wrapper `lruCache` itself -/

theorem Cache.stepL_sized (s : Cap) (hs : List String) (op : LOp) :
    Cache.stepL ⟨.sized s, hs⟩ op = (⟨.sized (s.stepL op).1, hs⟩, (s.stepL op).2) := by
  cases op with
  | hoa k v sz =>
    rcases hr : s.addSizedIfMissing Variant.current k v sz with ⟨s', has, ev⟩
    simp only [Cache.stepL, Cap.stepL, Cache.hasOrAdd, hr]
    cases has <;> cases s'.has k <;> simp [Variant.current]
  | _ => rfl

theorem Cache.stepL_plain (s : Simple) (hs : List String) (op : LOp) :
    Cache.stepL ⟨.plain s, hs⟩ op = (⟨.plain (s.stepL op).1, hs⟩, (s.stepL op).2) := by
  cases op with
  | hoa k v sz =>
    rcases hr : s.containsOrAdd k v with ⟨s', has, ev⟩
    simp only [Cache.stepL, Simple.stepL, Cache.hasOrAdd, hr]
    cases has <;> simp
  | _ => rfl

/-- what the wrapper needs of its backend -/
def Cache.Inv (c : Cache) : Prop :=
  match c.b with
  | .sized s => CapInv s
  | .plain s => SimpleInv s ∧ 1 ≤ s.cap

theorem Cache.obs_eq (c : Cache) (h : c.Inv) : c.obs = c.toRef.obs := by
  obtain ⟨b, hs⟩ := c
  cases b with
  | sized s => exact Cap.obs_eq s h
  | plain s => exact Simple.obs_eq s

/-- STEP LEMMA for `lruCache` over either backend -/
theorem Cache.step_refines (c : Cache) (op : LOp) (h : c.Inv) :
    (c.stepL op).1.Inv ∧ (c.stepL op).1.toRef = (c.toRef.step op).1 ∧ (c.stepL op).2 = (c.toRef.step op).2 := by
  obtain ⟨b, hs⟩ := c
  cases b with
  | sized s =>
    rw [Cache.stepL_sized]
    exact Cap.step_refines s op h
  | plain s =>
    rw [Cache.stepL_plain]
    exact Simple.step_sim s op h

/-- C15 for `lruCache` as constructed by `NewCacheWithSizeInBytes` / `NewCache`, with any registered handlers -/
theorem cache_refines_ref (c : Cache) (h : c.Inv) (ops : List LOp) :
    runTrace Cache.stepL Cache.obs c ops = runTrace Ref.step Ref.obs c.toRef ops ∧
    (runFinal Cache.stepL c ops).toRef = runFinal Ref.step c.toRef ops ∧ (runFinal Cache.stepL c ops).Inv :=
  sim_run Cache.stepL Cache.obs Cache.Inv Cache.toRef Cache.step_refines Cache.obs_eq ops c h

/-! ## 4. The property in its own words, from the reference alone -/

namespace Ref

theorem has_iff_mem_keys (r : Ref) (k : Bytes) : r.has k = true ↔ k ∈ r.keys := by
  simp [Ref.has, Ref.keys]

theorem mem_without (r : Ref) (k : Bytes) (e : Entry) : e ∈ r.without k ↔ e ∈ r.items ∧ e.key ≠ k :=
  List.mem_filter.trans (and_congr_right fun _ => bne_iff_ne)

theorem exceeds_mono (cap : Nat) (mb : Option Int) (l l' : List Entry) (hl : l'.length ≤ l.length)
    (ht : total l' ≤ total l) (h : exceeds cap mb l = false) : exceeds cap mb l' = false := by
  rw [exceeds_eq_false] at h ⊢
  exact ⟨Nat.le_trans hl h.1, fun m hm => Int.le_trans ht (h.2 m hm)⟩

theorem total_filter_le (p : Entry → Bool) (l : List Entry) (hs : ∀ e ∈ l, 0 ≤ e.size) :
    total (l.filter p) ≤ total l := by
  induction l with
  | nil => exact Int.le_refl _
  | cons x xs ih =>
    have hx := hs x List.mem_cons_self
    have := ih fun e he => hs e (List.mem_cons_of_mem _ he)
    rw [List.filter_cons]
    by_cases hp : p x = true
    · rw [if_pos hp, total_cons, total_cons]; exact Int.add_le_add_left this _
    · rw [if_neg hp, total_cons]; exact Int.le_trans this (Int.le_add_of_nonneg_left hx)

/-- the state invariant of the reference: distinct keys, valid sizes (all 0 on the plain LRU), within the limits
    unless a single entry remains -/
structure WF (r : Ref) : Prop where
  keysNodup : (r.items.map (·.key)).Nodup
  sizes : ∀ e ∈ r.items, 0 ≤ e.size
  plain : r.maxBytes = none → ∀ e ∈ r.items, e.size = 0
  fits : r.items.length ≤ 1 ∨ exceeds r.cap r.maxBytes r.items = false

theorem WF.init (cap : Nat) (mb : Option Int) : WF (Ref.init cap mb) :=
  ⟨List.nodup_nil, nofun, fun _ => nofun, Or.inl (Nat.zero_le 1)⟩

/-- `put` and `get` both leave some of the other entries, in their old order, followed by an entry of the key -/
theorem WF.concat {r r' : Ref} (h : WF r) (hc : r'.cap = r.cap) (hm : r'.maxBytes = r.maxBytes) {k : Bytes}
    {kept : List Entry} {e : Entry} (hi : r'.items = kept ++ [e]) (hsub : kept.Sublist (r.without k))
    (hek : e.key = k) (hes : 0 ≤ e.size) (hpl : r.maxBytes = none → e.size = 0)
    (hfit : (kept ++ [e]).length ≤ 1 ∨ exceeds r.cap r.maxBytes (kept ++ [e]) = false) : WF r' := by
  have hmem : ∀ x ∈ kept, x ∈ r.items ∧ x.key ≠ k := fun x hx => (mem_without r k x).mp (hsub.subset hx)
  refine ⟨?_, ?_, fun hn => ?_, by rw [hc, hm, hi]; exact hfit⟩
  · rw [hi, List.map_append]
    refine List.nodup_append.mpr ⟨((hsub.map _).trans (List.filter_sublist.map _)).nodup h.keysNodup,
      List.nodup_cons.mpr ⟨List.not_mem_nil, List.nodup_nil⟩, fun a ha b hb => ?_⟩
    obtain ⟨x, hx, rfl⟩ := List.mem_map.mp ha
    rw [List.mem_singleton.mp hb]
    exact fun hxe => (hmem x hx).2 (hxe.trans hek)
  · rw [hi]
    exact List.forall_mem_append.mpr ⟨fun x hx => h.sizes x (hmem x hx).1, List.forall_mem_singleton.mpr hes⟩
  · rw [hi]
    exact List.forall_mem_append.mpr
      ⟨fun x hx => h.plain (hm ▸ hn) x (hmem x hx).1, List.forall_mem_singleton.mpr (hpl (hm ▸ hn))⟩

theorem put_shape (r : Ref) (k v : Bytes) (size : Int) (h : r.rejects size = false) :
    ∃ dropped kept, r.without k = dropped ++ kept ∧
      (r.put k v size).1.items = kept ++ [⟨k, v, r.stored size⟩] ∧
      (r.put k v size).2 = !dropped.isEmpty ∧
      (∀ d e, dropped = d ++ [e] →
        exceeds r.cap r.maxBytes (e :: (kept ++ [⟨k, v, r.stored size⟩])) = true) ∧
      ((kept ++ [(⟨k, v, r.stored size⟩ : Entry)]).length ≤ 1 ∨
        exceeds r.cap r.maxBytes (kept ++ [⟨k, v, r.stored size⟩]) = false) := by
  obtain ⟨d, kept, h1, h2, h3, h4⟩ := trim_concat r.cap r.maxBytes (r.without k) ⟨k, v, r.stored size⟩
  rw [put_accepted r k v size h, Ref.written, h2]
  refine ⟨d, kept, h1, rfl, ?_, h4, h3⟩
  rw [h1, List.append_assoc]
  cases d with
  | nil => exact decide_eq_false (Nat.lt_irrefl _)
  | cons e d' => rw [List.length_append (as := e :: d')]; exact decide_eq_true (Nat.lt_add_of_pos_left (Nat.succ_pos _))

theorem put_cap (r : Ref) (k v : Bytes) (size : Int) :
    (r.put k v size).1.cap = r.cap ∧ (r.put k v size).1.maxBytes = r.maxBytes := by
  unfold Ref.put; split <;> exact ⟨rfl, rfl⟩

theorem stored_nonneg (r : Ref) (size : Int) (h : r.rejects size = false) : 0 ≤ r.stored size := by
  unfold rejects at h; unfold stored
  cases hm : r.maxBytes.isSome <;> simp [hm] at h ⊢
  omega

theorem WF.put (r : Ref) (k v : Bytes) (size : Int) (h : WF r) : WF (r.put k v size).1 := by
  cases hr : r.rejects size with
  | true => rw [put_rejected r k v size hr]; exact h
  | false =>
    obtain ⟨d, kept, h1, h2, _, _, h5⟩ := put_shape r k v size hr
    exact h.concat (put_cap r k v size).1 (put_cap r k v size).2 h2 (h1 ▸ List.sublist_append_right d kept) rfl
      (stored_nonneg r size hr) (fun hn => by simp [stored, hn]) h5

theorem find_facts (r : Ref) (k : Bytes) (e : Entry) (h : WF r) (hf : r.find k = some e) :
    e ∈ r.items ∧ e.key = k ∧ (r.without k).length + 1 = r.items.length ∧ total (r.without k) + e.size = total r.items := by
  obtain ⟨a, b⟩ := filter_find_facts k r.items e h.keysNodup hf
  rw [← total_eq_sumSizes, ← total_eq_sumSizes] at b
  exact ⟨List.mem_of_find?_eq_some hf, eq_of_beq (List.find?_some (p := fun x : Entry => x.key == k) hf), a, b⟩

theorem WF.get (r : Ref) (k : Bytes) (h : WF r) : WF (r.get k).1 := by
  unfold Ref.get
  cases hf : r.find k with
  | none => exact h
  | some e =>
    obtain ⟨hmem, hek, hlen, htot⟩ := find_facts r k e h hf
    refine h.concat rfl rfl rfl (List.Sublist.refl _) hek (h.sizes e hmem) (fun hn => h.plain hn e hmem)
      (h.fits.imp ?_ ?_)
    · rw [List.length_append, List.length_singleton, hlen]; exact id
    · refine exceeds_mono _ _ _ _ ?_ ?_
      · rw [List.length_append, List.length_singleton, hlen]; exact Nat.le_refl _
      · rw [total_append, total_cons, total_nil]; omega

theorem WF.remove (r : Ref) (k : Bytes) (h : WF r) : WF (r.remove k) := by
  have hsub : ∀ x ∈ r.without k, x ∈ r.items := fun x hx => ((mem_without r k x).mp hx).1
  refine ⟨filter_keys_nodup k _ h.keysNodup, fun x hx => h.sizes x (hsub x hx),
    fun hn x hx => h.plain hn x (hsub x hx), ?_⟩
  have hl : (r.without k).length ≤ r.items.length := List.length_filter_le _ _
  exact h.fits.imp (Nat.le_trans hl) (exceeds_mono _ _ _ _ hl (total_filter_le _ _ h.sizes))

theorem hasOrAdd_fst (r : Ref) (k v : Bytes) (size : Int) :
    (r.hasOrAdd k v size).1 = r ∨ (r.hasOrAdd k v size).1 = (r.put k v size).1 := by
  cases hk : r.has k with
  | true => exact Or.inl (by rw [hasOrAdd_present r k v size hk])
  | false =>
    cases hr : r.rejects size with
    | true => exact Or.inl (by rw [hasOrAdd_rejected r k v size hk hr])
    | false => exact Or.inr (by rw [hasOrAdd_absent r k v size hk hr])

theorem WF.step (r : Ref) (op : LOp) (h : WF r) : WF (r.step op).1 := by
  cases op with
  | put k v s => exact WF.put r k v s h
  | hoa k v s =>
    show WF (r.hasOrAdd k v s).1
    rcases hasOrAdd_fst r k v s with he | he <;> rw [he]
    · exact h
    · exact WF.put r k v s h
  | get k => exact WF.get r k h
  | peek k => exact h
  | has k => exact h
  | rm k => exact WF.remove r k h
  | clear => exact WF.init r.cap r.maxBytes

theorem step_cap (r : Ref) (op : LOp) : (r.step op).1.cap = r.cap ∧ (r.step op).1.maxBytes = r.maxBytes := by
  cases op with
  | put k v s => exact put_cap r k v s
  | hoa k v s =>
    show (r.hasOrAdd k v s).1.cap = r.cap ∧ (r.hasOrAdd k v s).1.maxBytes = r.maxBytes
    rcases hasOrAdd_fst r k v s with he | he <;> rw [he]
    · exact ⟨rfl, rfl⟩
    · exact put_cap r k v s
  | get k => show (r.get k).1.cap = r.cap ∧ (r.get k).1.maxBytes = r.maxBytes; unfold Ref.get; cases r.find k <;> exact ⟨rfl, rfl⟩
  | _ => exact ⟨rfl, rfl⟩

theorem run_WF (ops : List LOp) : ∀ r : Ref, WF r →
    WF (runFinal Ref.step r ops) ∧ (runFinal Ref.step r ops).cap = r.cap ∧
      (runFinal Ref.step r ops).maxBytes = r.maxBytes := by
  induction ops with
  | nil => intro r h; exact ⟨h, rfl, rfl⟩
  | cons op ops ih =>
    intro r h
    obtain ⟨a, b, c⟩ := ih (r.step op).1 (WF.step r op h)
    obtain ⟨d, e⟩ := step_cap r op
    exact ⟨a, by rw [← d]; exact b, by rw [← e]; exact c⟩

end Ref

/-- "…except that the most recently written entry always stays": an accepted Put leaves its entry resident, as the
    most recently used one, with the value and size just given -/
theorem ref_never_evicts_just_written (r : Ref) (k v : Bytes) (size : Int) (h : r.rejects size = false) :
    (r.put k v size).1.items.getLast? = some ⟨k, v, r.stored size⟩ ∧
    (r.put k v size).1.keys.getLast? = some k ∧
    (r.put k v size).1.has k = true ∧ (r.put k v size).1.peek k = some v := by
  obtain ⟨d, kept, h1, h2, _⟩ := Ref.put_shape r k v size h
  have hnone : kept.find? (·.key == k) = none := List.find?_eq_none.mpr fun e he hek =>
    ((Ref.mem_without r k e).mp (h1 ▸ List.mem_append_right d he)).2 (eq_of_beq hek)
  refine ⟨by rw [h2]; exact List.getLast?_concat, by rw [Ref.keys, h2, List.map_append]; exact List.getLast?_concat,
    ?_, ?_⟩
  · rw [Ref.has, h2]
    exact List.any_eq_true.mpr ⟨_, List.mem_append_right _ (List.mem_singleton_self _), beq_self_eq_true k⟩
  · rw [Ref.peek, Ref.find, h2, List.find?_append, hnone]
    simp

theorem ref_never_evicts_just_added (r : Ref) (k v : Bytes) (size : Int) (h : (r.hasOrAdd k v size).2.2 = true) :
    (r.hasOrAdd k v size).1.items.getLast? = some ⟨k, v, r.stored size⟩ ∧ (r.hasOrAdd k v size).1.has k = true := by
  cases hk : r.has k with
  | true => rw [Ref.hasOrAdd_present r k v size hk] at h; cases h
  | false =>
    cases hr : r.rejects size with
    | true => rw [Ref.hasOrAdd_rejected r k v size hk hr] at h; cases h
    | false =>
      rw [Ref.hasOrAdd_absent r k v size hk hr]
      obtain ⟨a, _, b, _⟩ := ref_never_evicts_just_written r k v size hr
      exact ⟨a, b⟩

/-- "the least recently used entries are evicted": what an accepted Put drops is a PREFIX of the least→most recent
    order of the other residents; the survivors keep their order, the written entry comes last; the `evicted` flag
    says whether the prefix is non-empty; and nothing is dropped needlessly — with the last dropped entry put back
    the cache would exceed a limit -/
theorem ref_evicts_least_recent_first (r : Ref) (k v : Bytes) (size : Int) (h : r.rejects size = false) :
    ∃ dropped kept, r.without k = dropped ++ kept ∧
      (r.put k v size).1.items = kept ++ [⟨k, v, r.stored size⟩] ∧
      (r.put k v size).2 = !dropped.isEmpty ∧
      (∀ d e, dropped = d ++ [e] → Ref.exceeds r.cap r.maxBytes (e :: (r.put k v size).1.items) = true) := by
  obtain ⟨d, kept, h1, h2, h3, h4, _⟩ := Ref.put_shape r k v size h
  exact ⟨d, kept, h1, h2, h3, by rw [h2]; exact h4⟩

/-- "SizeInBytesContained equals the sum of resident sizes" -/
theorem ref_bytes_is_sum (r : Ref) : r.bytes = (r.items.map (·.size)).sum := Ref.total_eq_sum r.items

/-- …and it moves as an incrementally maintained counter would: minus the overwritten entry, plus the new size,
    minus everything evicted -/
theorem ref_put_bytes (r : Ref) (k v : Bytes) (size : Int) (h : r.rejects size = false) :
    ∃ dropped kept, r.without k = dropped ++ kept ∧ (r.put k v size).1.items = kept ++ [⟨k, v, r.stored size⟩] ∧
      (r.put k v size).1.bytes = Ref.total (r.without k) + r.stored size - Ref.total dropped := by
  obtain ⟨d, kept, h1, h2, _⟩ := Ref.put_shape r k v size h
  refine ⟨d, kept, h1, h2, ?_⟩
  rw [Ref.bytes, h2, h1]
  simp only [Ref.total_append, Ref.total_cons, Ref.total_nil]
  omega

/-- on the plain LRU the byte count is always 0 (`simpleLRUCacheAdapter.SizeInBytesContained`) -/
theorem ref_plain_bytes_zero (cap : Nat) (ops : List LOp) : (runFinal Ref.step (Ref.init cap none) ops).bytes = 0 := by
  obtain ⟨h, _, hm⟩ := Ref.run_WF ops (Ref.init cap none) (Ref.WF.init cap none)
  have hp := h.plain hm
  rw [Ref.bytes]
  generalize (runFinal Ref.step (Ref.init cap none) ops).items = l at hp
  induction l with
  | nil => rfl
  | cons x xs ih =>
    rw [Ref.total_cons, hp x (by simp), ih (fun e he => hp e (List.mem_cons_of_mem _ he))]
    rfl

/-- "Put and HasOrAdd return truthfully whether an eviction or an insertion happened" -/
theorem ref_flags_truthful (r : Ref) (k v : Bytes) (size : Int) (h : r.WF) :
    -- Put: evicted ⇔ some other resident is no longer resident
    ((r.put k v size).2 = true ↔ ∃ e ∈ r.items, e.key ≠ k ∧ (r.put k v size).1.has e.key = false) ∧
    -- HasOrAdd: has ⇔ the key was resident
    ((r.hasOrAdd k v size).2.1 = r.has k) ∧
    -- HasOrAdd: added ⇔ the key was not resident and now is
    ((r.hasOrAdd k v size).2.2 = true ↔ (r.has k = false ∧ (r.hasOrAdd k v size).1.has k = true)) ∧
    -- HasOrAdd: nothing added ⇒ nothing changed
    ((r.hasOrAdd k v size).2.2 = false → (r.hasOrAdd k v size).1 = r) := by
  refine ⟨?_, ?_⟩
  · cases hr : r.rejects size with
    | true =>
      rw [Ref.put_rejected r k v size hr]
      refine ⟨nofun, fun hex => ?_⟩
      obtain ⟨e, he, _, hh⟩ := hex
      exact absurd (beq_self_eq_true e.key) (List.any_eq_false.mp hh e he)
    | false =>
      obtain ⟨d, kept, h1, h2, h3, _⟩ := Ref.put_shape r k v size hr
      have hnd := filter_keys_nodup k _ h.keysNodup
      rw [show r.items.filter (·.key != k) = d ++ kept from h1, List.map_append, List.nodup_append] at hnd
      -- another resident is gone iff it is among the dropped: the dropped share no key with the kept
      have hgone : ∀ e ∈ r.items, e.key ≠ k → ((r.put k v size).1.has e.key = false ↔ e ∈ d) := by
        intro e he hek
        have hmem : e ∈ d ∨ e ∈ kept := List.mem_append.mp (h1 ▸ (Ref.mem_without r k e).mpr ⟨he, hek⟩)
        rw [Ref.has, h2, List.any_append, Bool.or_eq_false_iff, List.any_eq_false, List.any_eq_false]
        constructor
        · exact fun hh => hmem.resolve_right fun hk => hh.1 e hk (beq_self_eq_true _)
        · exact fun hd => ⟨fun x hx hxe => hnd.2.2 e.key (List.mem_map_of_mem hd) x.key (List.mem_map_of_mem hx)
            (eq_of_beq hxe).symm, fun x hx hxe => hek ((eq_of_beq hxe).symm.trans (List.mem_singleton.mp hx ▸ rfl))⟩
      rw [h3, Bool.not_eq_true', List.isEmpty_eq_false_iff_exists_mem]
      constructor
      · rintro ⟨e, hd⟩
        obtain ⟨he, hek⟩ := (Ref.mem_without r k e).mp (h1 ▸ List.mem_append_left kept hd)
        exact ⟨e, he, hek, (hgone e he hek).mpr hd⟩
      · exact fun ⟨e, he, hek, hh⟩ => ⟨e, (hgone e he hek).mp hh⟩
  · cases hk : r.has k with
    | true =>
      rw [Ref.hasOrAdd_present r k v size hk]
      exact ⟨rfl, ⟨nofun, fun hh => nomatch hh.1⟩, fun _ => rfl⟩
    | false =>
      cases hr : r.rejects size with
      | true =>
        rw [Ref.hasOrAdd_rejected r k v size hk hr]
        exact ⟨rfl, ⟨nofun, fun hh => nomatch hk.symm.trans hh.2⟩, fun _ => rfl⟩
      | false =>
        rw [Ref.hasOrAdd_absent r k v size hk hr]
        exact ⟨rfl, ⟨fun _ => ⟨rfl, (ref_never_evicts_just_written r k v size hr).2.2.1⟩, fun _ => rfl⟩, nofun⟩

/-- "evicted when the item capacity — or the byte capacity — is exceeded, except that the most recently written
    entry always stays": after any history the count is within the item capacity, and the bytes are within the
    byte capacity unless exactly one (oversized) entry remains -/
theorem ref_len_le_cap_unless_single_oversized (cap : Nat) (hc : 1 ≤ cap) (mb : Option Int) (ops : List LOp) :
    (runFinal Ref.step (Ref.init cap mb) ops).len ≤ cap ∧
    (∀ m, mb = some m → (runFinal Ref.step (Ref.init cap mb) ops).len ≤ 1 ∨
        (runFinal Ref.step (Ref.init cap mb) ops).bytes ≤ m) ∧
    (∀ m, mb = some m → 0 ≤ m → (runFinal Ref.step (Ref.init cap mb) ops).len = 1 ∨
        (runFinal Ref.step (Ref.init cap mb) ops).bytes ≤ m) := by
  obtain ⟨h, hcap, hm⟩ := Ref.run_WF ops (Ref.init cap mb) (Ref.WF.init cap mb)
  have hf := h.fits
  rw [hcap, hm, Ref.exceeds_eq_false] at hf
  generalize runFinal Ref.step (Ref.init cap mb) ops = r at hf
  change r.len ≤ 1 ∨ r.len ≤ cap ∧ ∀ m, mb = some m → r.bytes ≤ m at hf
  have key : ∀ m, mb = some m → r.len ≤ 1 ∨ r.bytes ≤ m := fun m hmb => hf.imp id fun hf => hf.2 m hmb
  refine ⟨hf.elim (fun h1 => Nat.le_trans h1 hc) (·.1), key, fun m hmb h0 => ?_⟩
  rcases key m hmb with hk | hk
  · -- at most one resident: exactly one, or none and then no bytes
    rcases Nat.le_one_iff_eq_zero_or_eq_one.mp hk with h1 | h1
    · right
      rw [Ref.bytes, List.eq_nil_of_length_eq_zero h1]; exact h0
    · exact Or.inl h1
  · exact Or.inr hk

/-! ## 5. Non-vacuity, concrete instances, and the corners where equality fails -/

/-- the 9-operation history of `demoOps` on the reference, spelled out: cap = 2, 10 bytes -/
example : runTrace Ref.step Ref.obs (Ref.init 2 (some 10)) demoOps =
    [ (.evicted false,        ⟨[[1]],      [[10]],       4, 1⟩),
      (.evicted false,        ⟨[[1], [2]], [[10], [20]], 8, 2⟩),
      (.value (some [10]),    ⟨[[2], [1]], [[20], [10]], 8, 2⟩),   -- Get refreshed [1] …
      (.evicted true,         ⟨[[1], [3]], [[10], [30]], 6, 2⟩),   -- … so the victim is [2]
      (.evicted false,        ⟨[[1], [3]], [[10], [30]], 6, 2⟩),   -- negative size: rejected, nothing changes
      (.evicted true,         ⟨[[1]],      [[11]],       9, 1⟩),   -- growing overwrite 4 → 9 evicts [3]
      (.hasAdded true false,  ⟨[[1]],      [[11]],       9, 1⟩),
      (.hasAdded false false, ⟨[[1]],      [[11]],       9, 1⟩),   -- refused insertion is not reported as added
      (.value (some [11]),    ⟨[[1]],      [[11]],       9, 1⟩) ] := by decide +kernel

/-- both sides evaluated (this is `cap_refines_ref 2 10 demoOps`, by computation) -/
example : runTrace Cap.stepL Cap.obs (Cap.init 2 10) demoOps
    = runTrace Ref.step Ref.obs (Ref.init 2 (some 10)) demoOps := by decide +kernel

/-- the same through the wrapper `lruCache`, with a registered handler -/
example : runTrace Cache.stepL Cache.obs ⟨.sized (Cap.init 2 10), ["h"]⟩ demoOps
    = runTrace Ref.step Ref.obs (Ref.init 2 (some 10)) demoOps := by decide +kernel

/-- a single oversized entry stays (bytes 25 > 10) and is the only resident -/
example : (runFinal Ref.step (Ref.init 3 (some 10)) [.put [1] [1] 3, .put [2] [2] 3, .put [3] [3] 25]).obs
    = ⟨[[3]], [[3]], 25, 1⟩ := by decide +kernel
example : (runFinal Cap.stepL (Cap.init 3 10) [.put [1] [1] 3, .put [2] [2] 3, .put [3] [3] 25]).obs
    = ⟨[[3]], [[3]], 25, 1⟩ := by decide +kernel

/-- plain LRU, cap = 2: overwrite refreshes without eviction, a new key at capacity evicts exactly the oldest,
    sizes (even negative ones) are ignored -/
def demoPlain : List LOp :=
  [ .put [1] [10] 7, .put [2] [20] (-5),
    .put [1] [11] 100,        -- overwrite at capacity: refresh, no eviction → 2 1
    .put [3] [30] 0,          -- new key at capacity: evicts [2] → 1 3
    .hoa [3] [31] 0,          -- present: no refresh
    .hoa [4] [40] (-1),       -- inserted (no size check on the plain LRU), evicts [1] → 3 4
    .get [3],                 -- → 4 3
    .rm [4], .peek [3], .clear, .has [3] ]

example : runTrace Ref.step Ref.obs (Ref.init 2 none) demoPlain =
    [ (.evicted false,        ⟨[[1]],      [[10]],       0, 1⟩),
      (.evicted false,        ⟨[[1], [2]], [[10], [20]], 0, 2⟩),
      (.evicted false,        ⟨[[2], [1]], [[20], [11]], 0, 2⟩),
      (.evicted true,         ⟨[[1], [3]], [[11], [30]], 0, 2⟩),
      (.hasAdded true false,  ⟨[[1], [3]], [[11], [30]], 0, 2⟩),
      (.hasAdded false true,  ⟨[[3], [4]], [[30], [40]], 0, 2⟩),
      (.value (some [30]),    ⟨[[4], [3]], [[40], [30]], 0, 2⟩),
      (.done,                 ⟨[[3]],      [[30]],       0, 1⟩),
      (.value (some [30]),    ⟨[[3]],      [[30]],       0, 1⟩),
      (.done,                 ⟨[],         [],           0, 0⟩),
      (.present false,        ⟨[],         [],           0, 0⟩) ] := by decide +kernel

example : runTrace Simple.stepL Simple.obs ⟨2, []⟩ demoPlain
    = runTrace Ref.step Ref.obs (Ref.init 2 none) demoPlain := by decide +kernel
example : runTrace Cache.stepL Cache.obs ⟨.plain ⟨2, []⟩, ["h1", "h2"]⟩ demoPlain
    = runTrace Ref.step Ref.obs (Ref.init 2 none) demoPlain := by decide +kernel

/-- the hypotheses of the step lemmas are satisfiable by non-trivial states -/
example : CapInv ⟨2, 10, [⟨[2], [20], 4⟩, ⟨[1], [10], 4⟩], 8⟩ :=
  ⟨by decide, by simp, by decide, Or.inr ⟨by decide, by decide⟩⟩
example : SimpleInv ⟨2, [([2], [20]), ([1], [10])]⟩ ∧ 1 ≤ (2 : Nat) := ⟨⟨by decide, by decide⟩, by decide⟩
example : Cache.Inv ⟨.sized (Cap.init 2 10), ["h"]⟩ := CapInv.init 2 10
example : Cache.Inv ⟨.plain ⟨2, []⟩, []⟩ := ⟨SimpleInv.empty 2, by decide⟩
example : Ref.WF ⟨2, some 10, [⟨[1], [10], 4⟩, ⟨[2], [20], 4⟩]⟩ :=
  ⟨by decide, by simp, by simp, Or.inr (by decide)⟩
example : (Ref.mk 2 (some 10) [⟨[1], [10], 4⟩, ⟨[2], [20], 4⟩]).rejects 9 = false := by decide +kernel
example : ((Ref.mk 2 (some 10) [⟨[1], [10], 4⟩, ⟨[2], [20], 4⟩]).hasOrAdd [3] [30] 1).2.2 = true := by decide +kernel
/-- `ref_evicts_least_recent_first` at work: both older residents go, oldest first, for one 9-byte entry -/
example : ((Ref.mk 2 (some 10) [⟨[1], [10], 4⟩, ⟨[2], [20], 4⟩]).put [3] [30] 9)
    = (⟨2, some 10, [⟨[3], [30], 9⟩]⟩, true) := by decide +kernel

/-! ### where the equalities fail -/

/-- `cap = 0` on the plain LRU (rejected by `lru.New`): simplelru evicts the entry it has just been given, the
    reference keeps the most recently written entry. Hence `1 ≤ cap` in `simple_refines_ref`. -/
theorem simple_cap0_counterexample :
    runTrace Simple.stepL Simple.obs ⟨0, []⟩ [.put [1] [2] 0]
      ≠ runTrace Ref.step Ref.obs (Ref.init 0 none) [.put [1] [2] 0] := by decide +kernel

/-- …whereas `capacityLRU` with `cap = 0` still agrees with the reference (`cap_refines_ref` needs no bound) -/
example : runTrace Cap.stepL Cap.obs (Cap.init 0 10) demoOps
    = runTrace Ref.step Ref.obs (Ref.init 0 (some 10)) demoOps := by decide +kernel

/-- "count ≤ cap always" needs `1 ≤ cap`: with `cap = 0` the just-written entry still stays -/
theorem ref_len_cap0_counterexample :
    ¬ (runFinal Ref.step (Ref.init 0 (some 10)) [.put [1] [2] 1]).len ≤ 0 := by decide +kernel

/-- "bytes ≤ maxBytes unless exactly one entry remains" needs `0 ≤ maxBytes` (the Go constructor demands ≥ 1):
    with a negative byte capacity even the empty cache is "over"; the general form is `len ≤ 1 ∨ bytes ≤ maxBytes` -/
theorem ref_negative_maxBytes_counterexample :
    ¬ ((Ref.init 1 (some (-1))).len = 1 ∨ (Ref.init 1 (some (-1))).bytes ≤ -1) := by decide +kernel

/-- the refinement is about the CURRENT code: the legacy `HasOrAdd` reported an insertion that the sized cache had
    refused (F12) … -/
theorem legacy_hasOrAdd_counterexample :
    (Cache.hasOrAdd Variant.legacy ⟨.sized (Cap.init 2 10), []⟩ [1] [1] (-1)).2.2.1 = true ∧
    ((Ref.init 2 (some 10)).hasOrAdd [1] [1] (-1)).2.2 = false ∧
    (Cache.hasOrAdd Variant.current ⟨.sized (Cap.init 2 10), []⟩ [1] [1] (-1)).2.2.1 = false := by decide +kernel

/-- … and the legacy growing overwrite evicted without saying so (F11): flag `false` where the reference (and the
    current code) truthfully say `true` -/
theorem legacy_silent_eviction_vs_ref :
    let c : Cap := ⟨3, 10, [⟨[1], [], 4⟩, ⟨[2], [], 4⟩], 8⟩
    (c.addSized Variant.legacy [1] [] 8).2 = false ∧ (c.toRef.put [1] [] 8).2 = true ∧
    (c.addSized Variant.current [1] [] 8).2 = true ∧
    (c.addSized Variant.legacy [1] [] 8).1.toRef = (c.toRef.put [1] [] 8).1 := by decide +kernel
end SV.LRU
