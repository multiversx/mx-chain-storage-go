/-
  SV.LRU.CapacityLib — `capacityLRU` of lrucache/capacity/capacityLRUCache.go modelled AS THE CODE IMPLEMENTS IT:
  a `container/list` of `*entry{key, value, size}` elements, a Go map from keys to element POINTERS and a separately
  maintained byte counter — three structures whose agreement the hand-written model `SV.LRU.Cap` (SV/LRU/Model.lean,
  ONE list of entries) takes for granted.  Here the agreement is an invariant that is proved, not assumed
  (properties C15, C17).

  Code state:
      type capacityLRU struct { lock; size int; maxCapacityInBytes, currentCapacityInBytes int64;
                                evictList *list.List; items map[interface{}]*list.Element }
  Model state `LCap`:
      `size`, `maxBytes`  the two capacities (`NewCapacityLRU` refuses `size < 1` and `byteCapacity < 1`);
      `cur`               `currentCapacityInBytes` (an unbounded `Int`: int64 overflow is not modelled);
      `evictList`         `container/list` abstracted to the sequence of its elements, FRONT (most recent) FIRST; an element
                          is `(id, key, val, sz)`: `id` stands for the identity of the `*list.Element`, the rest for the
                          `*entry` it carries (which `update`/`adjustSize` overwrite IN PLACE through the pointer);
      `items`             the Go map as an association list key ↦ element id;
      `nextId`            allocation counter: ids are never reused.
  Every lookup goes key → (map) → element id → (list) → entry, as in the code.  A map entry whose id is not linked in the
  list stands for a pointer to an element that was unlinked; the model does not keep the content of unlinked elements, so
  in that (incoherent) situation the operations stop where the code would read the stale element — the situation is
  excluded by `Linked` (`Linked.resolve`, `Coh.deref`), and section 10 shows what goes wrong when it is not.
  The mutex is not modelled (every exported method holds it from entry to exit: the calls are atomic).

  Results
    * `Linked` (map ↔ list agreement), `Coh` (= `Linked` + byte counter = Σ sizes), `NonNeg`, `Inv`;
      `coh_step`, `nonneg_step`, `inv_step` (kept by EVERY operation, whatever the arguments: the only thing the byte
      bookkeeping needs — sizes ≥ 0 — is established by the code's own rejection of negative sizes);
    * `step_refines` / `lib_cap_refines_model`: same return values as the hand model (`Variant.current`) after every call of
      every history, states related by `LCap.abs`; `lib_cap_refines_reference`: under the `lruCache` wrapper the faithful
      model refines the independent reference LRU of RefSpec.lean (composition with `Cap.step_refines`, the step lemma of
      `cap_refines_ref`);
    * on the faithful model: `lib_len_le_size`, `lib_bytes_le_max_unless_single`, `lib_write_shape` (what is evicted is a
      suffix of the recency order, least recent first, reported in that order; the written entry is the most recent
      one), `evictLoop_settled` (the fuel is never what stops the loop);
    * section 10: `decide`-checked incoherent states and what they break; section 11: a concrete history.
  Correspondence with the hand model `Cap`: under `Linked` the two behave alike, which is `step_refines` — same flags, same
  values, same victims in the same order, same `Keys` order (oldest first in both), negative sizes refused at the same point
  (`AddSizedIfMissing`: after the lookup, in both).  Three things the hand model does not show:
    (1) it DUPLICATES the byte counter (`Cap.bytes` is a field, not a function of the entries), so a drifted counter is
        carried along by the abstraction: the simulation needs only `Linked` (`sim_run_linked`), and a drifted counter
        shows up as a disagreement with the REFERENCE and with the hand model's invariant `CapInv`, not with the hand
        model's transitions (`drifted_disagrees_with_reference`, `drifted_disagrees_with_hand_model`);
    (2) both eviction loops of the code spin forever when `shouldEvict()` holds on an EMPTY list (byte counter above the
        capacity, nothing to remove); the hand model — and this one — leave the loop there.  Unreachable from coherent
        states (`Coh.never_spins`), reachable from a drifted counter by two `Remove`s (`drifted_spins`);
    (3) `Keys` sizes its slice by the MAP and fills it from the LIST (`keysSlice`): a nil slot or an index panic as soon
        as the two lengths differ (`dangling_disagrees`, `orphan_disagrees`); exact under `Linked` (`keysSlice_eq`).
-/
import SV.LRU.RefSpec
import SV.PtrList
namespace SV.LRU.CapLib
open SV SV.LRU SV.PtrList

/-! ## 1. The model -/

/-- a `*list.Element` whose `Value` is an `*entry{key, value, size}` -/
structure Elem where
  id : Nat
  key : Bytes
  val : Bytes
  sz : Int
  deriving Repr, DecidableEq

/-- the `*entry` an element carries, as the hand model's `Entry` -/
def Elem.entry (e : Elem) : Entry := ⟨e.key, e.val, e.sz⟩
def Elem.kv (e : Elem) : Bytes × Bytes := (e.key, e.val)

/-! ### `container/list`, reduced to the order of the elements -/
namespace DL

/-- following an element pointer -/
def deref (l : List Elem) (id : Nat) : Option Elem := l.find? (·.id == id)
/-- `PushFront` -/
def pushFront (e : Elem) (l : List Elem) : List Elem := e :: l
/-- `MoveToFront(e)` (a no-op when `e` is not an element of the list, as in Go) -/
def moveToFront (l : List Elem) (id : Nat) : List Elem :=
  match deref l id with
  | none => l
  | some e => e :: l.filter (·.id != id)
/-- `Remove(e)` (a no-op when `e` is not an element of the list, as in Go) -/
def remove (l : List Elem) (id : Nat) : List Elem := l.filter (·.id != id)
/-- `Back()` -/
def back (l : List Elem) : Option Elem := l.getLast?
/-- `e.Value.(*entry).value = v` -/
def setValue (l : List Elem) (id : Nat) (v : Bytes) : List Elem :=
  l.map (fun e => if e.id == id then { e with val := v } else e)
/-- `e.Value.(*entry).size = s` -/
def setSize (l : List Elem) (id : Nat) (s : Int) : List Elem :=
  l.map (fun e => if e.id == id then { e with sz := s } else e)

end DL

structure LCap where
  size : Nat
  maxBytes : Nat
  cur : Int
  evictList : List Elem
  items : List (Bytes × Nat)
  nextId : Nat
  deriving Repr, DecidableEq

namespace LCap

/-- `NewCapacityLRU(size, byteCapacity)`; Go returns an error for `size < 1` or `byteCapacity < 1` -/
def new (size maxBytes : Nat) : LCap := ⟨size, maxBytes, 0, [], [], 0⟩

/-- `Purge`: fresh map, `evictList.Init()`, counter reset -/
def purge (c : LCap) : LCap := { c with items := [], evictList := [], cur := 0 }

/-- `shouldEvict`: a single element stays, however large -/
def shouldEvict (c : LCap) : Bool :=
  if c.evictList.length = 1 then false
  else decide (c.evictList.length > c.size) || decide (c.cur > (c.maxBytes : Int))

/-- `removeElement(e)`: `evictList.Remove(e)`; `kv := e.Value.(*entry)`; `delete(items, kv.key)`; `cur -= kv.size` -/
def removeElement (c : LCap) (e : Elem) : LCap :=
  { c with evictList := DL.remove c.evictList e.id, items := aerase e.key c.items, cur := c.cur - e.sz }

/-- `removeOldest` -/
def removeOldest (c : LCap) : LCap :=
  match DL.back c.evictList with
  | some e => c.removeElement e
  | none => c

/-- `for c.shouldEvict() { evicted := evictList.Back(); …; removeElement(evicted); … }` → (cache, evicted elements in
    eviction order).  This is the loop of `evictIfNeeded` and of `AddSizedAndReturnEvicted` alike.  The `none` branch —
    `shouldEvict()` holds and `Back()` is nil — is where BOTH Go loops spin forever (`removeOldest` does nothing,
    resp. `continue`); it needs an empty list with a byte counter above the byte capacity, see `Coh.never_spins` and
    `drifted_spins` (section 10).
    Fuel: every round unlinks at least the back element, so `Len() + 1` rounds always suffice (`evictLoop_settled`). -/
def evictLoop : Nat → LCap → List Elem → LCap × List Elem
  | 0, c, acc => (c, acc)
  | fuel + 1, c, acc =>
    if c.shouldEvict then
      match DL.back c.evictList with
      | some e => evictLoop fuel (c.removeElement e) (acc ++ [e])
      | none => (c, acc)
    else (c, acc)

/-- `evictIfNeeded` → (cache, what was evicted); the Go result is `evicted = true` iff the loop body ran -/
def evictIfNeeded (c : LCap) : LCap × List Elem := evictLoop (c.evictList.length + 1) c []

/-- `addNew`: `ent := &entry{…}; e := evictList.PushFront(ent); items[key] = e; cur += sizeInBytes` -/
def addNew (c : LCap) (k v : Bytes) (size : Int) : LCap :=
  { c with evictList := DL.pushFront ⟨c.nextId, k, v, size⟩ c.evictList, items := aset k c.nextId c.items,
           cur := c.cur + size, nextId := c.nextId + 1 }

/-- `adjustSize(key, sizeInBytes)`: looks the element up AGAIN through the map; `cur -= v.size; v.size = sizeInBytes;
    cur += sizeInBytes` -/
def adjustSize (c : LCap) (k : Bytes) (size : Int) : LCap :=
  match alookup k c.items with
  | none => c
  | some id =>
    match DL.deref c.evictList id with
    | none => c
    | some e => { c with cur := c.cur - e.sz + size, evictList := DL.setSize c.evictList id size }

/-- `update(key, value, sizeInBytes, ent)`: `MoveToFront(ent)`; `sizeDiff := sizeInBytes - e.size`; `e.value = value`;
    `e.size = sizeInBytes`; `cur += sizeDiff`; `adjustSize(key, sizeInBytes)` -/
def update (c : LCap) (k v : Bytes) (size : Int) (id : Nat) : LCap :=
  match DL.deref (DL.moveToFront c.evictList id) id with
  | none => c
  | some e =>
    adjustSize { c with evictList := DL.setSize (DL.setValue (DL.moveToFront c.evictList id) id v) id size,
                        cur := c.cur + (size - e.sz) } k size

/-- the unexported `addSized`: a negative size is logged and refused; else `update` or `addNew` -/
def addSizedCore (c : LCap) (k v : Bytes) (size : Int) : LCap :=
  if size < 0 then c
  else
    match alookup k c.items with
    | some id => c.update k v size id
    | none => c.addNew k v size

/-- `AddSized` → (cache, evicted?) -/
def addSized (c : LCap) (k v : Bytes) (size : Int) : LCap × Bool :=
  ((c.addSizedCore k v size).evictIfNeeded.1, !(c.addSizedCore k v size).evictIfNeeded.2.isEmpty)

/-- `AddSizedAndReturnEvicted` → (cache, evicted (key, value) pairs IN EVICTION ORDER).  Go returns them as a map, which
    loses the order and would merge two pairs with the same key; `lib_evicted_keys_nodup` shows that under `Coh` no key
    occurs twice, so the Go map holds exactly these pairs. -/
def addSizedAndReturnEvicted (c : LCap) (k v : Bytes) (size : Int) : LCap × List (Bytes × Bytes) :=
  ((c.addSizedCore k v size).evictIfNeeded.1, (c.addSizedCore k v size).evictIfNeeded.2.map Elem.kv)

/-- `AddSizedIfMissing` → (cache, found, evicted): the map is consulted first, THEN the size is validated -/
def addSizedIfMissing (c : LCap) (k v : Bytes) (size : Int) : LCap × Bool × Bool :=
  match alookup k c.items with
  | some _ => (c, true, false)
  | none =>
    if size < 0 then (c, false, false)
    else ((c.addNew k v size).evictIfNeeded.1, false, !(c.addNew k v size).evictIfNeeded.2.isEmpty)

/-- `Get` → (cache, value if ok).  (`ent.Value.(*entry) == nil` never holds: only `addNew` creates elements.) -/
def get (c : LCap) (k : Bytes) : LCap × Option Bytes :=
  match alookup k c.items with
  | some id => ({ c with evictList := DL.moveToFront c.evictList id }, (DL.deref c.evictList id).map (·.val))
  | none => (c, none)

/-- `Contains`: the map alone -/
def contains (c : LCap) (k : Bytes) : Bool := (alookup k c.items).isSome

/-- `Peek` -/
def peek (c : LCap) (k : Bytes) : Option Bytes :=
  match alookup k c.items with
  | some id => (DL.deref c.evictList id).map (·.val)
  | none => none

/-- `Remove` → (cache, was contained) -/
def remove (c : LCap) (k : Bytes) : LCap × Bool :=
  match alookup k c.items with
  | some id =>
    match DL.deref c.evictList id with
    | some e => (c.removeElement e, true)
    | none => (c, true)
  | none => (c, false)

/-- `Keys`: walks `Back()`, `Prev()`, … — oldest to newest -/
def keys (c : LCap) : List Bytes := c.evictList.reverse.map (·.key)

/-- `Keys` to the letter: `keys := make([]interface{}, len(c.items))` is filled from the LIST.  `none` = index out of
    range (the list is longer than the map); a `none` slot = a nil left in the slice (the map is larger than the list).
    `keysSlice_eq`: under `Linked` the slice is filled exactly. -/
def keysSlice (c : LCap) : Option (List (Option Bytes)) :=
  if c.evictList.length ≤ c.items.length then
    some (c.keys.map some ++ List.replicate (c.items.length - c.evictList.length) none)
  else none

/-- `Len`: of the LIST -/
def len (c : LCap) : Nat := c.evictList.length

/-- the conversion `uint64(x)` of an int64 -/
def u64 (x : Int) : Nat := if 0 ≤ x then x.toNat else (x + 18446744073709551616).toNat

/-- `SizeInBytesContained`: `uint64(currentCapacityInBytes)` -/
def sizeInBytesContained (c : LCap) : Nat := u64 c.cur

end LCap

/-! ### operations and outputs -/

inductive Op
  | addSized (k v : Bytes) (size : Int)
  | addSizedRet (k v : Bytes) (size : Int)
  | addIfMissing (k v : Bytes) (size : Int)
  | get (k : Bytes)
  | contains (k : Bytes)
  | peek (k : Bytes)
  | remove (k : Bytes)
  | keys
  | len
  | bytes
  | purge
  deriving Repr, DecidableEq

inductive Out
  | evicted (b : Bool)
  | evictedPairs (l : List (Bytes × Bytes))
  | foundEvicted (found evicted : Bool)
  | value (v : Option Bytes)
  | present (b : Bool)
  | removed (b : Bool)
  | keys (l : List Bytes)
  | len (n : Nat)
  | bytes (n : Nat)
  | purged
  deriving Repr, DecidableEq

/-- one call on the faithful model → (cache, return value) -/
def LCap.step (c : LCap) : Op → LCap × Out
  | .addSized k v s => ((c.addSized k v s).1, .evicted (c.addSized k v s).2)
  | .addSizedRet k v s => ((c.addSizedAndReturnEvicted k v s).1, .evictedPairs (c.addSizedAndReturnEvicted k v s).2)
  | .addIfMissing k v s =>
    ((c.addSizedIfMissing k v s).1, .foundEvicted (c.addSizedIfMissing k v s).2.1 (c.addSizedIfMissing k v s).2.2)
  | .get k => ((c.get k).1, .value (c.get k).2)
  | .contains k => (c, .present (c.contains k))
  | .peek k => (c, .value (c.peek k))
  | .remove k => ((c.remove k).1, .removed (c.remove k).2)
  | .keys => (c, .keys c.keys)
  | .len => (c, .len c.len)
  | .bytes => (c, .bytes c.sizeInBytesContained)
  | .purge => (c.purge, .purged)

/-- the hand-written model `SV.LRU.Cap` (current code), driven by the same calls -/
def capStep (s : Cap) : Op → Cap × Out
  | .addSized k v sz => ((s.addSized Variant.current k v sz).1, .evicted (s.addSized Variant.current k v sz).2)
  | .addSizedRet k v sz =>
    ((s.addSizedAndReturnEvicted Variant.current k v sz).1,
     .evictedPairs ((s.addSizedAndReturnEvicted Variant.current k v sz).2.map (fun e => (e.key, e.val))))
  | .addIfMissing k v sz =>
    ((s.addSizedIfMissing Variant.current k v sz).1,
     .foundEvicted (s.addSizedIfMissing Variant.current k v sz).2.1 (s.addSizedIfMissing Variant.current k v sz).2.2)
  | .get k => ((s.get k).1, .value (s.get k).2)
  | .contains k => (s, .present (s.has k))
  | .peek k => (s, .value (s.peek k))
  | .remove k => ((s.remove k).1, .removed (s.remove k).2)
  | .keys => (s, .keys s.keys)
  | .len => (s, .len s.entries.length)
  | .bytes => (s, .bytes (LCap.u64 s.bytes))
  | .purge => (s.purge, .purged)

/-- the abstraction function: forget element ids and the map; the byte counter is carried over as it is -/
def LCap.abs (c : LCap) : Cap := ⟨c.size, (c.maxBytes : Int), c.evictList.map Elem.entry, c.cur⟩

/-! ### histories -/

def finalState {σ : Type} (step : σ → Op → σ × Out) : σ → List Op → σ
  | s, [] => s
  | s, op :: ops => finalState step (step s op).1 ops

def trace {σ : Type} (step : σ → Op → σ × Out) : σ → List Op → List Out
  | _, [] => []
  | s, op :: ops => (step s op).2 :: trace step (step s op).1 ops

/-- 3 items / 10 bytes; an overwrite that grows an entry and thereby evicts, a refresh by `Get` that changes the victim,
    a removal -/
def demo : List Op :=
  [ .addSized [1] [10] 3,            -- 1
    .addSized [2] [20] 3,            -- 1 2
    .addSized [3] [30] 3,            -- 1 2 3      (9 bytes)
    .get [1],                        -- 2 3 1      (refresh: the least recent is now 2)
    .addSizedRet [3] [31] 5,         -- 2 1 3(5)   11 bytes > 10: evicts 2, NOT 1
    .remove [1],                     -- 3
    .addIfMissing [4] [40] 2 ]       -- 3 4


/-! ## 2. Lists of elements -/

section lists

/-- Σ of the sizes of the linked elements -/
def total (l : List Elem) : Int := sumSizes (l.map Elem.entry)

@[simp] theorem total_nil : total [] = 0 := rfl

@[simp] theorem total_cons (e : Elem) (l : List Elem) : total (e :: l) = e.sz + total l := by
  unfold total
  rw [List.map_cons, sumSizes_cons]
  rfl

@[simp] theorem total_append (a b : List Elem) : total (a ++ b) = total a + total b := by
  unfold total
  rw [List.map_append, sumSizes_append]

theorem total_reverse (l : List Elem) : total l.reverse = total l := by
  unfold total
  rw [List.map_reverse, sumSizes_reverse]

theorem total_eq_sum (l : List Elem) : total l = (l.map (·.sz)).sum := by
  unfold total
  rw [sumSizes_eq_sum, List.map_map]
  rfl

theorem total_filter {l : List Elem} {e : Elem} (hk : (l.map (·.key)).Nodup) (he : e ∈ l) :
    total (l.filter (·.key != e.key)) + e.sz = total l := by
  obtain ⟨pre, suf, rfl⟩ := List.append_of_mem he
  rw [filter_attr_ne_middle Elem.key hk, total_append, total_append, total_cons]
  omega

theorem total_nonneg (l : List Elem) (h : ∀ e ∈ l, 0 ≤ e.sz) : 0 ≤ total l := by
  induction l with
  | nil => exact Int.le_refl 0
  | cons x xs ih =>
    rw [total_cons]
    have := h x List.mem_cons_self
    have := ih fun e he => h e (List.mem_cons_of_mem _ he)
    omega

/-! ### the hand model's list functions through `map Elem.entry` -/

theorem any_entry (l : List Elem) (k : Bytes) : (l.map Elem.entry).any (·.key == k) = l.any (·.key == k) :=
  List.any_map

theorem find_entry (l : List Elem) (k : Bytes) :
    (l.map Elem.entry).find? (·.key == k) = (l.find? (·.key == k)).map Elem.entry := List.find?_map

theorem filter_entry (l : List Elem) (k : Bytes) :
    (l.map Elem.entry).filter (·.key != k) = (l.filter (·.key != k)).map Elem.entry := List.filter_map

end lists


/-! ## 3. The coherence invariant -/

/-- map ↔ list agreement -/
structure Linked (c : LCap) : Prop where
  /-- no key twice in the list -/
  keysNodup : (c.evictList.map (·.key)).Nodup
  /-- an element is linked once -/
  idsNodup : (c.evictList.map (·.id)).Nodup
  /-- ids are below the allocation counter (never reused) -/
  idsFresh : ∀ e ∈ c.evictList, e.id < c.nextId
  /-- a Go map binds a key once -/
  itemsNodup : (c.items.map (·.1)).Nodup
  /-- `items[k]` is (the pointer to) the list element that carries key `k` — in both directions: the map and the list
      hold the same keys, and each map entry's id is the id of the element carrying that key -/
  lookup : ∀ k, alookup k c.items = (c.evictList.find? (·.key == k)).map (·.id)

/-- COHERENCE of the three structures: the map and the list agree, and the byte counter is the sum of the sizes of the
    linked elements -/
structure Coh (c : LCap) : Prop where
  linked : Linked c
  bytes : c.cur = total c.evictList

/-- every linked element has a size ≥ 0 (what `uint64(currentCapacityInBytes)` and "removing never makes the cache
    exceed a limit" need; established by the code itself: `addSized`/`AddSizedIfMissing` refuse negative sizes) -/
def NonNeg (c : LCap) : Prop := ∀ e ∈ c.evictList, 0 ≤ e.sz

/-- within both limits, or a single entry -/
def Within (c : LCap) : Prop :=
  c.evictList.length ≤ 1 ∨ (c.evictList.length ≤ c.size ∧ c.cur ≤ (c.maxBytes : Int))

/-- the full state invariant of `capacityLRU` between two calls -/
structure Inv (c : LCap) : Prop where
  coh : Coh c
  nonneg : NonNeg c
  within : Within c

theorem Linked.agree {c : LCap} (h : Linked c) : Agree Elem.id Elem.key c.items c.evictList c.nextId :=
  ⟨h.keysNodup, h.idsNodup, h.idsFresh, h.itemsNodup, h.lookup⟩

theorem Linked.of_agree {c : LCap} (h : Agree Elem.id Elem.key c.items c.evictList c.nextId) : Linked c :=
  ⟨h.keysNodup, h.idsNodup, h.idsFresh, h.itemsNodup, h.lookup⟩

theorem Linked.resolve {c : LCap} (h : Linked c) {k : Bytes} {id : Nat} (hl : alookup k c.items = some id) :
    ∃ e, e ∈ c.evictList ∧ e.key = k ∧ e.id = id ∧ c.evictList.find? (·.key == k) = some e ∧
      DL.deref c.evictList id = some e := h.agree.resolve hl

theorem Linked.absent {c : LCap} (h : Linked c) {k : Bytes} (hl : alookup k c.items = none) :
    c.evictList.find? (·.key == k) = none := h.agree.absent hl

theorem Linked.removeElement {c : LCap} (h : Linked c) {e : Elem} (he : e ∈ c.evictList) :
    Linked (c.removeElement e) ∧ (c.removeElement e).evictList = c.evictList.filter (·.key != e.key) :=
  ⟨.of_agree (h.agree.erase he), h.agree.filter_ptr he⟩

theorem Linked.addNew {c : LCap} (h : Linked c) {k : Bytes} (v : Bytes) (s : Int) (hl : alookup k c.items = none) :
    Linked (c.addNew k v s) := .of_agree (h.agree.cons (e := ⟨c.nextId, k, v, s⟩) hl rfl)

/-- `MoveToFront` of a linked element, possibly with a new value and size written through the pointer afterwards (the
    counter is not `Linked`'s business) -/
theorem Linked.touch {c : LCap} (h : Linked c) {e : Elem} (he : e ∈ c.evictList) (w : Bytes) (s cur' : Int) :
    Linked { c with evictList := ⟨e.id, e.key, w, s⟩ :: c.evictList.filter (·.key != e.key), cur := cur' } :=
  .of_agree (h.agree.touch he (fun x => ⟨x.id, x.key, w, s⟩) (fun _ => rfl) fun _ => rfl)

theorem Linked.empty {c : LCap} (hl : c.evictList = []) (hi : c.items = []) : Linked c :=
  .of_agree (hl ▸ hi ▸ Agree.nil)

theorem Linked.new (size maxBytes : Nat) : Linked (LCap.new size maxBytes) := .empty rfl rfl

theorem Linked.purge (c : LCap) : Linked c.purge := .empty rfl rfl

theorem Coh.new (size maxBytes : Nat) : Coh (LCap.new size maxBytes) := ⟨Linked.new size maxBytes, rfl⟩

theorem Inv.new (size maxBytes : Nat) : Inv (LCap.new size maxBytes) :=
  ⟨Coh.new size maxBytes, fun _ he => (nomatch he), Or.inl (Nat.zero_le _)⟩


/-! ## 4. What each operation does on a linked state -/

theorem moveToFront_eq {c : LCap} (h : Linked c) {e : Elem} (he : e ∈ c.evictList) :
    DL.moveToFront c.evictList e.id = e :: c.evictList.filter (·.id != e.id) := by
  unfold DL.moveToFront DL.deref
  rw [h.agree.deref_mem he]

theorem deref_front (e : Elem) (l : List Elem) : DL.deref (e :: l) e.id = some e :=
  List.find?_cons_of_pos (beq_self_eq_true e.id)

/-- `update` through the pointer to a linked element: the element moves to the front with the new value and size; the
    counter moves by the difference — and `adjustSize`, which subtracts and re-adds the size just written, changes nothing -/
theorem update_eq {c : LCap} (h : Linked c) {e : Elem} (he : e ∈ c.evictList) (v : Bytes) (s : Int) :
    c.update e.key v s e.id
      = { c with evictList := ⟨e.id, e.key, v, s⟩ :: c.evictList.filter (·.key != e.key),
                 cur := c.cur + (s - e.sz) } := by
  have hv : DL.setValue (e :: c.evictList.filter (·.id != e.id)) e.id v = _ :=
    map_ite_attr_cons_filter Elem.id (fun x => { x with val := v }) rfl _
  have hs : ∀ e' : Elem, e'.id = e.id → DL.setSize (e' :: c.evictList.filter (·.id != e.id)) e.id s = _ :=
    fun e' he' => map_ite_attr_cons_filter Elem.id (fun x => { x with sz := s }) he' _
  unfold LCap.update
  rw [moveToFront_eq h he, deref_front, hv, hs ⟨e.id, e.key, v, e.sz⟩ rfl]
  unfold LCap.adjustSize
  simp only [h.agree.lookup_mem he]
  rw [show DL.deref (_ :: c.evictList.filter (·.id != e.id)) e.id = some ⟨e.id, e.key, v, s⟩ from
      deref_front ⟨e.id, e.key, v, s⟩ _,
    hs ⟨e.id, e.key, v, s⟩ rfl, h.agree.filter_ptr he]
  dsimp only
  congr 1
  omega

theorem present_case {c : LCap} (h : Linked c) {k : Bytes} {id : Nat} (hl : alookup k c.items = some id) :
    ∃ e, e ∈ c.evictList ∧ e.key = k ∧ e.id = id ∧
      c.get k = ({ c with evictList := e :: c.evictList.filter (·.key != e.key) }, some e.val) ∧
      c.peek k = some e.val ∧ c.remove k = (c.removeElement e, true) := by
  obtain ⟨e, he, hek, hid, _, hd⟩ := h.resolve hl
  refine ⟨e, he, hek, hid, ?_, ?_, ?_⟩
  · simp only [LCap.get, hl, hd]
    rw [← hid, moveToFront_eq h he, h.agree.filter_ptr he]
    rfl
  · simp only [LCap.peek, hl, hd]; rfl
  · simp only [LCap.remove, hl, hd]

theorem absent_case {c : LCap} {k : Bytes} (hl : alookup k c.items = none) :
    c.get k = (c, none) ∧ c.peek k = none ∧ c.remove k = (c, false) ∧ c.contains k = false := by
  simp only [LCap.get, LCap.peek, LCap.remove, LCap.contains, hl, Option.isSome_none, and_self]

theorem addSizedIfMissing_eq (c : LCap) (k v : Bytes) (s : Int) :
    c.addSizedIfMissing k v s =
      if c.contains k then (c, true, false) else if s < 0 then (c, false, false)
      else ((c.addSizedCore k v s).evictIfNeeded.1, false, !(c.addSizedCore k v s).evictIfNeeded.2.isEmpty) := by
  unfold LCap.addSizedIfMissing LCap.addSizedCore LCap.contains
  cases alookup k c.items with
  | some id => rfl
  | none => by_cases hs : s < 0 <;> simp only [hs, if_true, if_false, Option.isSome_none, Bool.false_eq_true]

/-! ## 5. Abstraction lemmas -/

theorem abs_has {c : LCap} (h : Linked c) (k : Bytes) : c.abs.has k = c.contains k :=
  (any_entry _ k).trans (h.agree.isSome_lookup k).symm

theorem abs_find (c : LCap) (k : Bytes) : c.abs.find k = (c.evictList.find? (·.key == k)).map Elem.entry :=
  find_entry c.evictList k

theorem abs_find_mem {c : LCap} (h : Linked c) {e : Elem} (he : e ∈ c.evictList) : c.abs.find e.key = some e.entry := by
  rw [abs_find, find?_attr_of_mem Elem.key h.keysNodup he]
  rfl

theorem abs_find_absent {c : LCap} (h : Linked c) {k : Bytes} (hl : alookup k c.items = none) : c.abs.find k = none := by
  rw [abs_find, h.absent hl]
  rfl

theorem abs_shouldEvict (c : LCap) : c.abs.shouldEvict = c.shouldEvict := by
  unfold Cap.shouldEvict LCap.shouldEvict LCap.abs
  simp only [List.length_map]

theorem loop_false (fuel : Nat) (c : LCap) (acc : List Elem) (h : c.shouldEvict = false) :
    LCap.evictLoop (fuel + 1) c acc = (c, acc) := by
  simp [LCap.evictLoop, h]

theorem loop_none (fuel : Nat) (c : LCap) (acc : List Elem) (h : c.shouldEvict = true)
    (hg : c.evictList.getLast? = none) : LCap.evictLoop (fuel + 1) c acc = (c, acc) := by
  simp [LCap.evictLoop, DL.back, h, hg]

theorem loop_some (fuel : Nat) (c : LCap) (acc : List Elem) (e : Elem) (h : c.shouldEvict = true)
    (hg : c.evictList.getLast? = some e) :
    LCap.evictLoop (fuel + 1) c acc = LCap.evictLoop fuel (c.removeElement e) (acc ++ [e]) := by
  simp [LCap.evictLoop, DL.back, h, hg]


/-! ## 6. Every operation: agreement kept, hand model matched, counter and sizes kept -/

/-- `c'` comes from `c` by a call that the hand model answers with state `s'`: map and list agree, the abstraction is
    `s'`, and a true counter / sizes ≥ 0 are carried over — as implications, so that `Linked` alone suffices to take a step -/
structure Step (c c' : LCap) (s' : Cap) : Prop where
  linked : Linked c'
  abs : c'.abs = s'
  bytes : c.cur = total c.evictList → c'.cur = total c'.evictList
  nonneg : NonNeg c → NonNeg c'

theorem Step.refl {c : LCap} (h : Linked c) : Step c c c.abs := ⟨h, rfl, id, id⟩

theorem Step.trans {a b c : LCap} {s t : Cap} (h1 : Step a b s) (h2 : Step b c t) : Step a c t :=
  ⟨h2.linked, h2.abs, fun hb => h2.bytes (h1.bytes hb), fun hn => h2.nonneg (h1.nonneg hn)⟩

theorem Step.coh {c c' : LCap} {s' : Cap} (hs : Step c c' s') (h : Coh c) : Coh c' := ⟨hs.linked, hs.bytes h.bytes⟩

/-- `MoveToFront` of a linked element, value `w` and size `s` written through the pointer, the counter moved by the
    difference (`Get`: value and size are the old ones) -/
theorem Step.touch {c : LCap} (h : Linked c) {e : Elem} (he : e ∈ c.evictList) (w : Bytes) {s cur' : Int}
    (hc : cur' = c.cur + (s - e.sz)) (hs : NonNeg c → 0 ≤ s) :
    Step c { c with evictList := ⟨e.id, e.key, w, s⟩ :: c.evictList.filter (·.key != e.key), cur := cur' }
      ⟨c.size, c.maxBytes, ⟨e.key, w, s⟩ :: c.abs.entries.filter (·.key != e.key), cur'⟩ where
  linked := h.touch he w s cur'
  abs := congrArg (fun l => (⟨c.size, c.maxBytes, ⟨e.key, w, s⟩ :: l, cur'⟩ : Cap)) (filter_entry _ _).symm
  bytes := fun hb => by
    have := total_filter h.keysNodup he
    show cur' = total (_ :: _)
    simp only [total_cons]
    omega
  nonneg := fun hn x hx => by
    rcases List.mem_cons.mp hx with rfl | hx
    · exact hs hn
    · exact hn x (List.mem_filter.mp hx).1

theorem Step.removeElement {c : LCap} (h : Linked c) {e : Elem} (he : e ∈ c.evictList) :
    Step c (c.removeElement e) ⟨c.size, c.maxBytes, c.abs.entries.filter (·.key != e.key), c.cur - e.sz⟩ := by
  obtain ⟨r1, r2⟩ := h.removeElement he
  refine ⟨r1, ?_, fun hb => ?_, fun hn x hx => hn x (List.mem_filter.mp (r2 ▸ hx)).1⟩
  · show (⟨c.size, c.maxBytes, (c.removeElement e).evictList.map Elem.entry, c.cur - e.sz⟩ : Cap) = _
    rw [r2, ← filter_entry]
    rfl
  · have := total_filter h.keysNodup he
    show c.cur - e.sz = total (c.removeElement e).evictList
    rw [r2]
    omega

theorem Step.addNew {c : LCap} (h : Linked c) {k : Bytes} (v : Bytes) {s : Int} (hl : alookup k c.items = none)
    (hs : 0 ≤ s) : Step c (c.addNew k v s) (c.abs.addNew k v s) where
  linked := h.addNew v s hl
  abs := rfl
  bytes := fun hb => by
    show c.cur + s = total (_ :: c.evictList)
    simp only [total_cons]
    omega
  nonneg := fun hn x hx => by
    rcases List.mem_cons.mp hx with rfl | hx
    · exact hs
    · exact hn x hx

theorem removeBack {c : LCap} (h : Linked c) {o : Elem} (hb : c.evictList.getLast? = some o) :
    Step c (c.removeElement o) { c.abs with entries := c.abs.entries.dropLast, bytes := c.abs.bytes - o.entry.size } ∧
    c.evictList = (c.removeElement o).evictList ++ [o] := by
  have ho := List.mem_of_getLast? hb
  have hd := filter_attr_ne_getLast Elem.key h.keysNodup hb
  have hs := Step.removeElement h ho
  rw [show c.abs.entries.filter (·.key != o.key) = c.abs.entries.dropLast by
    rw [LCap.abs, filter_entry, hd, List.map_dropLast]] at hs
  refine ⟨hs, ?_⟩
  rw [(h.removeElement ho).2, hd]
  obtain ⟨ys, hys⟩ := List.getLast?_eq_some_iff.mp hb
  rw [hys, List.dropLast_concat]

theorem evictLoop_refines (fuel : Nat) : ∀ (c : LCap) (acc : List Elem), Linked c →
    Step c (LCap.evictLoop fuel c acc).1 (Cap.evictLoop fuel c.abs (acc.map Elem.entry)).1 ∧
    (LCap.evictLoop fuel c acc).2.map Elem.entry = (Cap.evictLoop fuel c.abs (acc.map Elem.entry)).2 ∧
    ∃ d, (LCap.evictLoop fuel c acc).2 = acc ++ d ∧
      c.evictList = (LCap.evictLoop fuel c acc).1.evictList ++ d.reverse := by
  have stop : ∀ (c : LCap) (acc : List Elem), Linked c → Step c c c.abs ∧ acc.map Elem.entry = acc.map Elem.entry ∧
      ∃ d, acc = acc ++ d ∧ c.evictList = c.evictList ++ d.reverse :=
    fun c acc h => ⟨Step.refl h, rfl, [], (List.append_nil _).symm, (List.append_nil _).symm⟩
  induction fuel with
  | zero => exact stop
  | succ fuel ih =>
    intro c acc h
    have hse := abs_shouldEvict c
    have hlast : c.abs.entries.getLast? = c.evictList.getLast?.map Elem.entry := List.getLast?_map
    cases hs : c.shouldEvict with
    | false =>
      rw [hs] at hse
      rw [loop_false fuel c acc hs, evictLoop_false fuel c.abs _ hse]
      exact stop c acc h
    | true =>
      rw [hs] at hse
      cases hg : c.evictList.getLast? with
      | none =>
        rw [hg] at hlast
        rw [loop_none fuel c acc hs hg, evictLoop_none fuel c.abs _ hse hlast]
        exact stop c acc h
      | some o =>
        rw [hg] at hlast
        rw [loop_some fuel c acc o hs hg, evictLoop_some fuel c.abs _ o.entry hse hlast]
        obtain ⟨r1, r2⟩ := removeBack h hg
        obtain ⟨i1, i2, d, i3, i4⟩ := ih (c.removeElement o) (acc ++ [o]) r1.linked
        rw [r1.abs, List.map_append, List.map_cons, List.map_nil] at i1 i2
        refine ⟨r1.trans i1, i2, o :: d, by rw [i3, List.append_assoc]; rfl, ?_⟩
        rw [List.reverse_cons, ← List.append_assoc, ← i4]
        exact r2

theorem evictIfNeeded_refines {c : LCap} (h : Linked c) :
    Step c c.evictIfNeeded.1 c.abs.evictIfNeeded.1 ∧ c.evictIfNeeded.2.map Elem.entry = c.abs.evictIfNeeded.2 ∧
    c.evictList = c.evictIfNeeded.1.evictList ++ c.evictIfNeeded.2.reverse := by
  obtain ⟨h1, h2, d, h3, h4⟩ := evictLoop_refines (c.evictList.length + 1) c [] h
  rw [List.nil_append] at h3
  rw [← h3] at h4
  unfold LCap.evictIfNeeded Cap.evictIfNeeded
  rw [show c.abs.entries.length = c.evictList.length from List.length_map _]
  exact ⟨h1, h2, h4⟩

theorem addSizedCore_refines (c : LCap) (k v : Bytes) (s : Int) (h : Linked c) :
    Step c (c.addSizedCore k v s) (c.abs.addSizedCore Variant.current k v s) ∧
    (0 ≤ s → ∃ id, (c.addSizedCore k v s).evictList = ⟨id, k, v, s⟩ :: c.evictList.filter (·.key != k)) := by
  unfold LCap.addSizedCore Cap.addSizedCore
  by_cases hs : s < 0
  · rw [if_pos hs, if_pos hs]
    exact ⟨Step.refl h, fun h0 => absurd h0 (Int.not_le.mpr hs)⟩
  · rw [if_neg hs, if_neg hs, abs_has h, LCap.contains]
    cases hl : alookup k c.items with
    | none =>
      exact ⟨Step.addNew h v hl (Int.not_lt.mp hs),
        fun _ => ⟨c.nextId, congrArg (_ :: ·) (filter_attr_ne_of_absent Elem.key (h.absent hl)).symm⟩⟩
    | some id =>
      obtain ⟨e, he, rfl, rfl, _⟩ := h.resolve hl
      simp only [Option.isSome_some, if_true, Cap.update, abs_find_mem h he, Variant.current, Bool.false_eq_true,
        if_false]
      rw [update_eq h he]
      exact ⟨Step.touch h he v rfl fun _ => Int.not_lt.mp hs, fun _ => ⟨e.id, rfl⟩⟩

theorem write_refines (c : LCap) (k v : Bytes) (s : Int) (h : Linked c) :
    Step c (c.addSizedCore k v s).evictIfNeeded.1 ((c.abs.addSizedCore Variant.current k v s).evictIfNeeded).1 ∧
    (c.addSizedCore k v s).evictIfNeeded.2.map Elem.entry
      = ((c.abs.addSizedCore Variant.current k v s).evictIfNeeded).2 := by
  obtain ⟨w, _⟩ := addSizedCore_refines c k v s h
  obtain ⟨e1, e2, _⟩ := evictIfNeeded_refines w.linked
  rw [w.abs] at e1 e2
  exact ⟨w.trans e1, e2⟩

theorem isEmpty_map_entry (l : List Elem) : (l.map Elem.entry).isEmpty = l.isEmpty := by
  cases l <;> rfl

theorem addSized_refines (c : LCap) (k v : Bytes) (s : Int) (h : Linked c) :
    Step c (c.addSized k v s).1 (c.abs.addSized Variant.current k v s).1 ∧
    (c.addSized k v s).2 = (c.abs.addSized Variant.current k v s).2 := by
  obtain ⟨h1, h2⟩ := write_refines c k v s h
  rw [addSized_eq, LCap.addSized]
  exact ⟨h1, by rw [← h2, isEmpty_map_entry]⟩

theorem addSizedAndReturnEvicted_refines (c : LCap) (k v : Bytes) (s : Int) (h : Linked c) :
    Step c (c.addSizedAndReturnEvicted k v s).1 (c.abs.addSizedAndReturnEvicted Variant.current k v s).1 ∧
    (c.addSizedAndReturnEvicted k v s).2
      = (c.abs.addSizedAndReturnEvicted Variant.current k v s).2.map (fun e => (e.key, e.val)) := by
  obtain ⟨h1, h2⟩ := write_refines c k v s h
  rw [LCap.addSizedAndReturnEvicted, Cap.addSizedAndReturnEvicted]
  exact ⟨h1, by rw [← h2, List.map_map]; rfl⟩

theorem addSizedIfMissing_refines (c : LCap) (k v : Bytes) (s : Int) (h : Linked c) :
    Step c (c.addSizedIfMissing k v s).1 (c.abs.addSizedIfMissing Variant.current k v s).1 ∧
    (c.addSizedIfMissing k v s).2 = (c.abs.addSizedIfMissing Variant.current k v s).2 := by
  have hhas := abs_has h k
  rw [addSizedIfMissing_eq]
  cases hc : c.contains k with
  | true =>
    rw [hc] at hhas
    rw [addSizedIfMissing_present c.abs k v s hhas, if_pos rfl]
    exact ⟨Step.refl h, rfl⟩
  | false =>
    rw [hc] at hhas
    rw [if_neg Bool.false_ne_true]
    by_cases hs : s < 0
    · rw [addSizedIfMissing_negative c.abs k v s hhas hs, if_pos hs]
      exact ⟨Step.refl h, rfl⟩
    · obtain ⟨h1, h2⟩ := write_refines c k v s h
      rw [addSizedIfMissing_absent c.abs k v s hhas hs, if_neg hs]
      exact ⟨h1, by rw [← h2, isEmpty_map_entry]⟩

theorem get_refines (c : LCap) (k : Bytes) (h : Linked c) :
    Step c (c.get k).1 (c.abs.get k).1 ∧ (c.get k).2 = (c.abs.get k).2 := by
  unfold Cap.get
  cases hl : alookup k c.items with
  | some id =>
    obtain ⟨e, he, rfl, _, hget, _⟩ := present_case h hl
    rw [hget, abs_find_mem h he]
    exact ⟨Step.touch h he e.val (Int.sub_self e.sz ▸ (Int.add_zero c.cur).symm) fun hn => hn e he, rfl⟩
  | none =>
    rw [(absent_case hl).1, abs_find_absent h hl]
    exact ⟨Step.refl h, rfl⟩

theorem peek_refines (c : LCap) (k : Bytes) (h : Linked c) : c.peek k = c.abs.peek k := by
  unfold Cap.peek
  cases hl : alookup k c.items with
  | some id =>
    obtain ⟨e, he, rfl, _, _, hpk, _⟩ := present_case h hl
    rw [hpk, abs_find_mem h he]
    rfl
  | none =>
    rw [(absent_case hl).2.1, abs_find_absent h hl]
    rfl

theorem remove_refines (c : LCap) (k : Bytes) (h : Linked c) :
    Step c (c.remove k).1 (c.abs.remove k).1 ∧ (c.remove k).2 = (c.abs.remove k).2 := by
  unfold Cap.remove
  cases hl : alookup k c.items with
  | some id =>
    obtain ⟨e, he, rfl, _, _, _, hrm⟩ := present_case h hl
    rw [hrm, abs_find_mem h he]
    exact ⟨Step.removeElement h he, rfl⟩
  | none =>
    rw [(absent_case hl).2.2.1, abs_find_absent h hl]
    exact ⟨Step.refl h, rfl⟩

theorem keys_refines (c : LCap) : c.keys = c.abs.keys := by
  show c.evictList.reverse.map (·.key) = (c.evictList.map Elem.entry).reverse.map (·.key)
  rw [← List.map_reverse, List.map_map]
  rfl

theorem len_refines (c : LCap) : c.len = c.abs.entries.length := (List.length_map _).symm

/-- STEP LEMMA.  One call on a state whose map and list agree (`Linked`; the byte counter may be anything): the
    agreement is kept, the abstraction commutes with the hand model's operation, the return value is the hand
    model's; if the counter was the sum of the linked sizes it still is; if all sizes were ≥ 0 they still are -/
theorem step_refines (c : LCap) (op : Op) (h : Linked c) :
    Step c (c.step op).1 (capStep c.abs op).1 ∧ (c.step op).2 = (capStep c.abs op).2 := by
  cases op <;> dsimp only [LCap.step, capStep]
  case addSized k v s => exact (addSized_refines c k v s h).imp_right (congrArg Out.evicted)
  case addSizedRet k v s => exact (addSizedAndReturnEvicted_refines c k v s h).imp_right (congrArg Out.evictedPairs)
  case addIfMissing k v s =>
    exact (addSizedIfMissing_refines c k v s h).imp_right fun h2 => by rw [h2]
  case get k => exact (get_refines c k h).imp_right (congrArg Out.value)
  case contains k => exact ⟨Step.refl h, congrArg Out.present (abs_has h k).symm⟩
  case peek k => exact ⟨Step.refl h, congrArg Out.value (peek_refines c k h)⟩
  case remove k => exact (remove_refines c k h).imp_right (congrArg Out.removed)
  case keys => exact ⟨Step.refl h, congrArg Out.keys (keys_refines c)⟩
  case len => exact ⟨Step.refl h, congrArg Out.len (len_refines c)⟩
  case bytes => exact ⟨Step.refl h, rfl⟩
  case purge => exact ⟨⟨Linked.purge c, rfl, fun _ => rfl, fun _ _ he => nomatch he⟩, rfl⟩


/-! ## 7. The invariants are kept by every operation -/

/-- COHERENCE IS KEPT by every call, whatever its arguments (negative sizes included: the code refuses them) -/
theorem coh_step (c : LCap) (op : Op) (h : Coh c) : Coh (c.step op).1 := (step_refines c op h.linked).1.coh h

/-- no negative size ever enters the list — not assumed of the caller: `addSized` and `AddSizedIfMissing` refuse a
    negative `sizeInBytes` before touching anything -/
theorem nonneg_step (c : LCap) (op : Op) (h : Linked c) (hn : NonNeg c) : NonNeg (c.step op).1 :=
  (step_refines c op h).1.nonneg hn

theorem abs_inv {c : LCap} (h : Inv c) : CapInv c.abs where
  keysNodup := by rw [LCap.abs, List.map_map]; exact h.coh.linked.keysNodup
  sizes := fun e he => by
    obtain ⟨x, hx, rfl⟩ := List.mem_map.mp he
    exact h.nonneg x hx
  bytes := h.coh.bytes
  fits := by
    have hw := h.within
    rw [Within, h.coh.bytes, ← List.length_map (f := Elem.entry)] at hw
    exact hw

theorem inv_of_abs {c : LCap} (h : Coh c) (hc : CapInv c.abs) : Inv c where
  coh := h
  nonneg := fun e he => hc.sizes e.entry (List.mem_map_of_mem he)
  within := by
    rw [Within, h.bytes, ← List.length_map (f := Elem.entry)]
    exact hc.fits

theorem capInv_step (s : Cap) (op : Op) (h : CapInv s) : CapInv (capStep s op).1 := by
  -- `capStep` is unfolded first: left to unification, the comparison under `.1` runs into the eviction loop
  cases op <;> dsimp only [capStep]
  case addSized k v sz => exact CapInv.addSized s k v sz h
  case addSizedRet k v sz => exact CapInv.addSizedCore_evict s k v sz h
  case addIfMissing k v sz => exact CapInv.addSizedIfMissing s k v sz h
  case get k => exact CapInv.get s k h
  case remove k => exact CapInv.remove s k h
  case purge => exact CapInv.purge s
  all_goals exact h

theorem Step.inv {c c' : LCap} {s' : Cap} (hs : Step c c' s') (h : Inv c) (hc : CapInv s') : Inv c' :=
  inv_of_abs (hs.coh h.coh) (hs.abs ▸ hc)

/-- THE STATE INVARIANT IS KEPT by every call -/
theorem inv_step (c : LCap) (op : Op) (h : Inv c) : Inv (c.step op).1 :=
  (step_refines c op h.coh.linked).1.inv h (capInv_step c.abs op (abs_inv h))

theorem coh_addSized (c : LCap) (k v : Bytes) (s : Int) (h : Coh c) : Coh (c.addSized k v s).1 :=
  (addSized_refines c k v s h.linked).1.coh h
theorem coh_addSizedAndReturnEvicted (c : LCap) (k v : Bytes) (s : Int) (h : Coh c) :
    Coh (c.addSizedAndReturnEvicted k v s).1 := (addSizedAndReturnEvicted_refines c k v s h.linked).1.coh h
theorem coh_addSizedIfMissing (c : LCap) (k v : Bytes) (s : Int) (h : Coh c) : Coh (c.addSizedIfMissing k v s).1 :=
  (addSizedIfMissing_refines c k v s h.linked).1.coh h
theorem coh_get (c : LCap) (k : Bytes) (h : Coh c) : Coh (c.get k).1 := (get_refines c k h.linked).1.coh h
theorem coh_remove (c : LCap) (k : Bytes) (h : Coh c) : Coh (c.remove k).1 := (remove_refines c k h.linked).1.coh h
theorem coh_purge (c : LCap) : Coh c.purge := ⟨Linked.purge c, rfl⟩

/-- the hypothesis is met by a state with two residents; by a state whose counter has drifted it is not (section 10) -/
example : Coh (finalState LCap.step (LCap.new 3 10) [.addSized [1] [10] 1, .addSized [2] [20] 1]) :=
  coh_step _ _ (coh_step _ _ (Coh.new 3 10))

/-! ### coherence in the words of the code -/

/-- `items` and `evictList` hold the same keys (each once) -/
theorem Coh.sameKeys {c : LCap} (h : Coh c) : (c.items.map (·.1)).Perm (c.evictList.map (·.key)) :=
  h.linked.agree.sameKeys

/-- `len(c.items) == c.evictList.Len()` -/
theorem Linked.sameLen {c : LCap} (h : Linked c) : c.items.length = c.evictList.length := h.agree.sameLen

theorem Coh.sameLen {c : LCap} (h : Coh c) : c.items.length = c.evictList.length := h.linked.sameLen

/-- no dangling and no stale map entry: `items[k]` points to a linked element, and that element carries key `k` -/
theorem Coh.deref {c : LCap} (h : Coh c) {k : Bytes} {id : Nat} (hp : (k, id) ∈ c.items) :
    ∃ e, DL.deref c.evictList id = some e ∧ e ∈ c.evictList ∧ e.key = k ∧ e.id = id :=
  h.linked.agree.deref_of_mem_items hp

/-- …and every linked element is what the map holds for its key -/
theorem Coh.mapped {c : LCap} (h : Coh c) {e : Elem} (he : e ∈ c.evictList) : (e.key, e.id) ∈ c.items :=
  h.linked.agree.mem_items he

/-- `currentCapacityInBytes` is the sum of the sizes of the linked elements -/
theorem Coh.cur_eq_sum {c : LCap} (h : Coh c) : c.cur = (c.evictList.map (·.sz)).sum := by
  rw [h.bytes, total_eq_sum]

theorem u64_nonneg (x : Int) (h : 0 ≤ x) : (LCap.u64 x : Int) = x := by
  unfold LCap.u64
  rw [if_pos h]
  omega

theorem Inv.u64_cur {c : LCap} (h : Inv c) : (c.sizeInBytesContained : Int) = c.cur :=
  u64_nonneg _ (h.coh.bytes ▸ total_nonneg _ h.nonneg)

/-- `SizeInBytesContained` converts to `uint64` without wrapping -/
theorem Inv.sizeInBytes {c : LCap} (h : Inv c) : (c.sizeInBytesContained : Int) = (c.evictList.map (·.sz)).sum :=
  h.u64_cur.trans h.coh.cur_eq_sum

/-- the slice `Keys` allocates from `len(c.items)` is filled exactly by the walk over the list -/
theorem keysSlice_eq {c : LCap} (h : Linked c) : c.keysSlice = some (c.keys.map some) := by
  unfold LCap.keysSlice
  rw [h.sameLen]
  simp

theorem Coh.shouldEvict_nil {c : LCap} (h : Coh c) (hn : c.evictList = []) : c.shouldEvict = false := by
  have hc : c.cur = 0 := by rw [h.bytes, hn]; rfl
  unfold LCap.shouldEvict
  rw [hn, hc, if_neg (by decide)]
  simp

/-- the `Back() == nil` corner of the eviction loops (where the Go code would spin) is not reachable from a coherent
    state: an empty list means a zero counter -/
theorem Coh.never_spins {c : LCap} (h : Coh c) (hs : c.shouldEvict = true) : DL.back c.evictList ≠ none := fun hb =>
  Bool.false_ne_true ((h.shouldEvict_nil (List.getLast?_eq_none_iff.mp hb)).symm.trans hs)


/-- the capacities never change -/
def SameCaps (c c' : LCap) : Prop := c'.size = c.size ∧ c'.maxBytes = c.maxBytes

theorem evictLoop_caps (fuel : Nat) : ∀ (c : LCap) (acc : List Elem), SameCaps c (LCap.evictLoop fuel c acc).1 := by
  induction fuel with
  | zero => intro c acc; exact ⟨rfl, rfl⟩
  | succ fuel ih =>
    intro c acc
    unfold LCap.evictLoop
    split
    · split
      · exact ih _ _
      · exact ⟨rfl, rfl⟩
    · exact ⟨rfl, rfl⟩

theorem adjustSize_caps (c : LCap) (k : Bytes) (s : Int) : SameCaps c (c.adjustSize k s) := by
  unfold LCap.adjustSize
  split
  · exact ⟨rfl, rfl⟩
  · split <;> exact ⟨rfl, rfl⟩

theorem addSizedCore_caps (c : LCap) (k v : Bytes) (s : Int) : SameCaps c (c.addSizedCore k v s) := by
  unfold LCap.addSizedCore
  split
  · exact ⟨rfl, rfl⟩
  · split
    · unfold LCap.update
      split
      · exact ⟨rfl, rfl⟩
      · exact adjustSize_caps _ _ _
    · exact ⟨rfl, rfl⟩

theorem SameCaps.trans {a b c : LCap} (h1 : SameCaps a b) (h2 : SameCaps b c) : SameCaps a c :=
  ⟨h2.1.trans h1.1, h2.2.trans h1.2⟩

theorem step_caps (c : LCap) (op : Op) : SameCaps c (c.step op).1 := by
  cases op <;> dsimp only [LCap.step]
  case addSized k v s => exact (addSizedCore_caps c k v s).trans (evictLoop_caps _ _ _)
  case addSizedRet k v s => exact (addSizedCore_caps c k v s).trans (evictLoop_caps _ _ _)
  case addIfMissing k v s =>
    unfold LCap.addSizedIfMissing
    split
    · exact ⟨rfl, rfl⟩
    · split
      · exact ⟨rfl, rfl⟩
      · exact SameCaps.trans (b := c.addNew k v s) ⟨rfl, rfl⟩ (evictLoop_caps _ _ _)
  case get k => unfold LCap.get; split <;> exact ⟨rfl, rfl⟩
  case remove k =>
    unfold LCap.remove
    split
    · split <;> exact ⟨rfl, rfl⟩
    · exact ⟨rfl, rfl⟩
  all_goals exact ⟨rfl, rfl⟩


/-! ## 8. Refinement over whole histories -/

/-- the simulation needs only the map/list agreement: even with a byte counter that has drifted, the faithful model and
    the hand model (which carries the same counter) stay in step — see section 10 for what a drifted counter does break -/
theorem sim_run_linked (ops : List Op) : ∀ c : LCap, Linked c →
    trace LCap.step c ops = trace capStep c.abs ops ∧
    (finalState LCap.step c ops).abs = finalState capStep c.abs ops ∧ Linked (finalState LCap.step c ops) := by
  induction ops with
  | nil => intro c h; exact ⟨rfl, rfl, h⟩
  | cons op ops ih =>
    intro c h
    obtain ⟨h1, h2⟩ := step_refines c op h
    obtain ⟨i1, i2, i3⟩ := ih (c.step op).1 h1.linked
    rw [h1.abs] at i1 i2
    refine ⟨?_, i2, i3⟩
    show (c.step op).2 :: _ = (capStep c.abs op).2 :: _
    rw [i1, h2]

theorem finalState_inv (ops : List Op) : ∀ c : LCap, Inv c →
    Inv (finalState LCap.step c ops) ∧ SameCaps c (finalState LCap.step c ops) := by
  induction ops with
  | nil => exact fun c h => ⟨h, rfl, rfl⟩
  | cons op ops ih => exact fun c h => (ih _ (inv_step c op h)).imp_right (step_caps c op).trans

/-- MAIN THEOREM.  For all capacities and EVERY history of `AddSized`, `AddSizedAndReturnEvicted`, `AddSizedIfMissing`,
    `Get`, `Contains`, `Peek`, `Remove`, `Keys`, `Len`, `SizeInBytesContained`, `Purge`: the code's `capacityLRU` (linked list
    + map of element pointers + byte counter) and the hand-written one-list model `SV.LRU.Cap` return the same value at
    every step (evicted pairs in the same order), the final states are related by the abstraction function, and the
    representation invariant (coherence, sizes ≥ 0, within the limits unless a single entry) holds. -/
theorem lib_cap_refines_model (size maxBytes : Nat) (ops : List Op) :
    trace LCap.step (LCap.new size maxBytes) ops = trace capStep (Cap.init size maxBytes) ops ∧
    (finalState LCap.step (LCap.new size maxBytes) ops).abs = finalState capStep (Cap.init size maxBytes) ops ∧
    Inv (finalState LCap.step (LCap.new size maxBytes) ops) := by
  obtain ⟨h1, h2, _⟩ := sim_run_linked ops (LCap.new size maxBytes) (Linked.new size maxBytes)
  exact ⟨h1, h2, (finalState_inv ops _ (Inv.new size maxBytes)).1⟩

theorem lib_cap_refines_model_from (c : LCap) (h : Inv c) (ops : List Op) :
    trace LCap.step c ops = trace capStep c.abs ops ∧
    (finalState LCap.step c ops).abs = finalState capStep c.abs ops ∧ Inv (finalState LCap.step c ops) := by
  obtain ⟨h1, h2, _⟩ := sim_run_linked ops c h.coh.linked
  exact ⟨h1, h2, (finalState_inv ops c h).1⟩

/-! ### closing the chain of C15: the faithful model under the `lruCache` wrapper refines the reference LRU -/

/-- `lruCache` over `capacityLRU` (lrucache.go): `Put` is `AddSized`; `HasOrAdd` is `AddSizedIfMissing` followed, when
    not found, by `added = Contains(key)`; `Remove` drops the flag; `Clear` is `Purge` -/
def LCap.stepL (c : LCap) : LOp → LCap × LOut
  | .put k v s => ((c.addSized k v s).1, .evicted (c.addSized k v s).2)
  | .hoa k v s =>
    if (c.addSizedIfMissing k v s).2.1 then (c, .hasAdded true false)
    else ((c.addSizedIfMissing k v s).1, .hasAdded false ((c.addSizedIfMissing k v s).1.contains k))
  | .get k => ((c.get k).1, .value (c.get k).2)
  | .peek k => (c, .value (c.peek k))
  | .has k => (c, .present (c.contains k))
  | .rm k => ((c.remove k).1, .done)
  | .clear => (c.purge, .done)

/-- `Keys()`, the values in the same order, `SizeInBytesContained()`, `Len()` -/
def LCap.obsL (c : LCap) : SV.LRU.Obs :=
  ⟨c.keys, c.evictList.reverse.map (·.val), (c.sizeInBytesContained : Int), c.len⟩

theorem obsL_eq {c : LCap} (h : Inv c) : c.obsL = c.abs.obs := by
  show (⟨c.keys, c.evictList.reverse.map (·.val), (c.sizeInBytesContained : Int), c.len⟩ : SV.LRU.Obs)
    = ⟨c.abs.keys, (c.evictList.map Elem.entry).reverse.map (·.val), c.cur, (c.evictList.map Elem.entry).length⟩
  rw [keys_refines, h.u64_cur, ← List.map_reverse, List.map_map, List.length_map]
  rfl

theorem stepL_refines (c : LCap) (op : LOp) (h : Inv c) :
    Inv (c.stepL op).1 ∧ (c.stepL op).1.abs = (c.abs.stepL op).1 ∧ (c.stepL op).2 = (c.abs.stepL op).2 := by
  have hl := h.coh.linked
  have hc := abs_inv h
  cases op <;> dsimp only [LCap.stepL, Cap.stepL]
  case put k v s =>
    obtain ⟨h1, h2⟩ := addSized_refines c k v s hl
    exact ⟨h1.inv h (CapInv.addSized c.abs k v s hc), h1.abs, congrArg LOut.evicted h2⟩
  case hoa k v s =>
    obtain ⟨h1, h2⟩ := addSizedIfMissing_refines c k v s hl
    rw [← h2]
    cases hf : (c.addSizedIfMissing k v s).2.1 with
    | true => exact ⟨h, rfl, rfl⟩
    | false =>
      rw [if_neg Bool.false_ne_true, if_neg Bool.false_ne_true, ← h1.abs, abs_has h1.linked]
      exact ⟨h1.inv h (CapInv.addSizedIfMissing c.abs k v s hc), rfl, rfl⟩
  case get k =>
    obtain ⟨h1, h2⟩ := get_refines c k hl
    exact ⟨h1.inv h (CapInv.get c.abs k hc), h1.abs, congrArg LOut.value h2⟩
  case peek k => exact ⟨h, rfl, congrArg LOut.value (peek_refines c k hl)⟩
  case has k => exact ⟨h, rfl, congrArg LOut.present (abs_has hl k).symm⟩
  case rm k =>
    obtain ⟨h1, _⟩ := remove_refines c k hl
    exact ⟨h1.inv h (CapInv.remove c.abs k hc), h1.abs, rfl⟩
  case clear => exact ⟨inv_step c .purge h, rfl, rfl⟩

/-- C15 without assuming that the list, the map and the counter of `capacityLRU` agree: for all capacities and every
    history of the wrapper's operations, the FAITHFUL model produces the reference LRU's outputs and observations
    (`Keys` in order, values, `SizeInBytesContained`, `Len`) at every step.  (Composition of `stepL_refines` with
    `Cap.step_refines`, the step lemma behind `cap_refines_ref`.) -/
theorem lib_cap_refines_reference (size maxBytes : Nat) (ops : List LOp) :
    SV.LRU.runTrace LCap.stepL LCap.obsL (LCap.new size maxBytes) ops
      = SV.LRU.runTrace Ref.step Ref.obs (Ref.init size (some (maxBytes : Int))) ops ∧
    (SV.LRU.runFinal LCap.stepL (LCap.new size maxBytes) ops).abs.toRef
      = SV.LRU.runFinal Ref.step (Ref.init size (some (maxBytes : Int))) ops ∧
    Inv (SV.LRU.runFinal LCap.stepL (LCap.new size maxBytes) ops) :=
  SV.LRU.sim_run LCap.stepL LCap.obsL Inv (fun c => c.abs.toRef)
    (fun c op h => by
      obtain ⟨h1, h2, h3⟩ := stepL_refines c op h
      obtain ⟨_, g2, g3⟩ := Cap.step_refines c.abs op (abs_inv h)
      exact ⟨h1, by rw [h2]; exact g2, by rw [h3]; exact g3⟩)
    (fun c h => by rw [obsL_eq h]; exact Cap.obs_eq c.abs (abs_inv h))
    ops (LCap.new size maxBytes) (Inv.new size maxBytes)


/-! ## 9. Corollaries, stated on the faithful model -/

theorem shouldEvict_false_of_within {c : LCap} (h : Coh c) (hw : Within c) : c.shouldEvict = false := by
  by_cases h1 : c.evictList.length = 1
  · rw [LCap.shouldEvict, if_pos h1]
  · rcases hw with hw | hw
    · exact h.shouldEvict_nil (List.eq_nil_of_length_eq_zero (by omega))
    · rw [LCap.shouldEvict, if_neg h1, Bool.or_eq_false_iff, decide_eq_false_iff_not, decide_eq_false_iff_not]
      exact ⟨Nat.not_lt.mpr hw.1, Int.not_lt.mpr hw.2⟩

theorem evictIfNeeded_noop {c : LCap} (h : Inv c) : c.evictIfNeeded = (c, []) :=
  loop_false _ c [] (shouldEvict_false_of_within h.coh h.within)

/-- never more than `size` entries — in the list and in the map — after any history (`1 ≤ size`: what
    `NewCapacityLRU` accepts; with `size = 0` the single most recent entry still stays) -/
theorem lib_len_le_size (size maxBytes : Nat) (hs : 1 ≤ size) (ops : List Op) :
    (finalState LCap.step (LCap.new size maxBytes) ops).len ≤ size ∧
    (finalState LCap.step (LCap.new size maxBytes) ops).items.length ≤ size := by
  obtain ⟨h, hc, _⟩ := finalState_inv ops _ (Inv.new size maxBytes)
  have hb : (finalState LCap.step (LCap.new size maxBytes) ops).evictList.length ≤ size :=
    h.within.elim (fun h1 => Nat.le_trans h1 hs) fun h1 => Nat.le_trans h1.1 (Nat.le_of_eq hc)
  exact ⟨hb, h.coh.sameLen ▸ hb⟩

/-- the byte counter (= the sum of the resident sizes, = what `SizeInBytesContained` reports) is within the byte
    capacity after any history — unless exactly one entry is held (a single oversized entry stays) -/
theorem lib_bytes_le_max_unless_single (size maxBytes : Nat) (ops : List Op) :
    let c := finalState LCap.step (LCap.new size maxBytes) ops
    (c.cur ≤ (maxBytes : Int) ∨ c.len = 1) ∧ (c.sizeInBytesContained ≤ maxBytes ∨ c.len = 1) ∧
    (c.sizeInBytesContained : Int) = (c.evictList.map (·.sz)).sum := by
  intro c
  obtain ⟨h, _, hc⟩ := finalState_inv ops _ (Inv.new size maxBytes)
  have hc : c.maxBytes = maxBytes := hc
  -- between two calls `shouldEvict()` is false: unless one element is linked, that is the two capacity tests
  have hse := shouldEvict_false_of_within h.coh h.within
  have hcur : c.cur ≤ (maxBytes : Int) ∨ c.len = 1 := by
    by_cases h1 : c.evictList.length = 1
    · exact Or.inr h1
    · rw [LCap.shouldEvict, if_neg h1, hc, Bool.or_eq_false_iff, decide_eq_false_iff_not, decide_eq_false_iff_not] at hse
      exact Or.inl (Int.not_lt.mp hse.2)
  have hu : (c.sizeInBytesContained : Int) = c.cur := h.u64_cur
  exact ⟨hcur, hcur.imp_left fun h1 => by omega, h.sizeInBytes⟩

/-- a negative size is refused by all three writing methods: nothing changes, nothing is reported -/
theorem lib_negative_size_rejected (c : LCap) (k v : Bytes) (s : Int) (h : Inv c) (hs : s < 0) :
    c.addSized k v s = (c, false) ∧ c.addSizedAndReturnEvicted k v s = (c, []) ∧
    c.addSizedIfMissing k v s = (c, c.contains k, false) := by
  have hcore : c.addSizedCore k v s = c := by unfold LCap.addSizedCore; rw [if_pos hs]
  refine ⟨?_, ?_, ?_⟩
  · unfold LCap.addSized; rw [hcore, evictIfNeeded_noop h]; rfl
  · unfold LCap.addSizedAndReturnEvicted; rw [hcore, evictIfNeeded_noop h]; rfl
  · rw [addSizedIfMissing_eq, if_pos hs]
    cases c.contains k <;> rfl

theorem write_shape (c : LCap) (k v : Bytes) (s : Int) (h : Inv c) (hs : 0 ≤ s) :
    ∃ (id : Nat) (kept : List Elem), (c.addSizedCore k v s).evictIfNeeded.1.evictList = ⟨id, k, v, s⟩ :: kept ∧
      c.evictList.filter (·.key != k) = kept ++ (c.addSizedCore k v s).evictIfNeeded.2.reverse := by
  obtain ⟨w, w5⟩ := addSizedCore_refines c k v s h.coh.linked
  obtain ⟨id, hid⟩ := w5 hs
  obtain ⟨e1, _, e3⟩ := evictIfNeeded_refines w.linked
  -- the written element is not evicted: the hand model's loop leaves a non-empty list non-empty
  have hne : (c.addSizedCore k v s).evictIfNeeded.1.evictList ≠ [] := fun h0 =>
    (evictIfNeeded_fits (c.addSizedCore k v s).abs (w.bytes h.coh.bytes)).2
      (by show (c.addSizedCore k v s).evictList.map Elem.entry ≠ []; rw [hid]; exact List.cons_ne_nil _ _)
      (by rw [← e1.abs]; exact congrArg (List.map Elem.entry) h0)
  rw [hid] at e3
  obtain ⟨kept, hp, hrest⟩ := head_of_prefix _ _ _ _ e3 hne
  exact ⟨id, kept, hp, hrest⟩

/-- WHAT A WRITE DOES (valid size).  The key's old element, if any, is taken out of the recency order; what is evicted
    is a SUFFIX of the remaining order (front = most recent), reported least recent first; the survivors keep their
    order; the written entry is the front — the most recent — element with exactly the value and size given; it is
    never among the victims.  `AddSized` leaves the same state and reports whether there were victims. -/
theorem lib_write_shape (c : LCap) (k v : Bytes) (s : Int) (h : Inv c) (hs : 0 ≤ s) :
    ∃ (id : Nat) (kept ev : List Elem), c.evictList.filter (·.key != k) = kept ++ ev.reverse ∧
      (c.addSizedAndReturnEvicted k v s).1.evictList = ⟨id, k, v, s⟩ :: kept ∧
      (c.addSizedAndReturnEvicted k v s).2 = ev.map Elem.kv ∧
      (c.addSized k v s).1 = (c.addSizedAndReturnEvicted k v s).1 ∧ (c.addSized k v s).2 = !ev.isEmpty := by
  obtain ⟨id, kept, h1, h2⟩ := write_shape c k v s h hs
  simp only [LCap.addSizedAndReturnEvicted, LCap.addSized]
  exact ⟨id, kept, _, h2, h1, rfl, trivial, rfl⟩

/-- the same in terms of `Keys()` (oldest first): the old `Keys()` without `k` = the victims' keys, in the order
    reported, followed by the survivors; the new `Keys()` = the survivors followed by `k` -/
theorem lib_write_keys (c : LCap) (k v : Bytes) (s : Int) (h : Inv c) (hs : 0 ≤ s) :
    ∃ survivors, c.keys.filter (· != k) = (c.addSizedAndReturnEvicted k v s).2.map (·.1) ++ survivors ∧
      (c.addSizedAndReturnEvicted k v s).1.keys = survivors ++ [k] := by
  obtain ⟨id, kept, ev, h1, h2, h3, _⟩ := lib_write_shape c k v s h hs
  refine ⟨kept.reverse.map (·.key), ?_, ?_⟩
  · have : c.keys.filter (· != k) = ((c.evictList.filter (·.key != k)).reverse).map (·.key) := by
      simp only [LCap.keys, List.filter_map, List.filter_reverse]
      rfl
    rw [this, h1, h3]
    simp [Elem.kv]
  · simp [LCap.keys, h2]

/-- the victims carry pairwise different keys (so the Go result MAP of `AddSizedAndReturnEvicted` holds exactly the
    reported pairs), none of them is the written key, and none of them is resident afterwards -/
theorem lib_evicted_keys_nodup (c : LCap) (k v : Bytes) (s : Int) (h : Inv c) (hs : 0 ≤ s) :
    ((c.addSizedAndReturnEvicted k v s).2.map (·.1)).Nodup ∧
    ∀ p ∈ (c.addSizedAndReturnEvicted k v s).2, p.1 ≠ k ∧ (c.addSizedAndReturnEvicted k v s).1.contains p.1 = false := by
  obtain ⟨w, _⟩ := addSizedCore_refines c k v s h.coh.linked
  obtain ⟨e1, _, e3⟩ := evictIfNeeded_refines w.linked
  obtain ⟨id, kept, h1, _⟩ := write_shape c k v s h hs
  -- the keys of the survivors and of the victims together are the keys of the list the loop started on
  have hn := w.linked.keysNodup
  rw [e3, List.map_append, List.nodup_append] at hn
  rw [LCap.addSizedAndReturnEvicted]
  refine ⟨?_, fun p hp => ?_⟩
  · rw [List.map_map]
    exact ((List.reverse_perm _).map _).nodup_iff.mp hn.2.1
  · obtain ⟨x, hx, rfl⟩ := List.mem_map.mp hp
    have hnot : ∀ y ∈ (c.addSizedCore k v s).evictIfNeeded.1.evictList, y.key ≠ x.key := fun y hy =>
      hn.2.2 _ (List.mem_map_of_mem hy) _ (List.mem_map_of_mem (List.mem_reverse.mpr hx))
    refine ⟨fun e => hnot ⟨id, k, v, s⟩ (h1 ▸ List.mem_cons_self) e.symm, ?_⟩
    show (c.addSizedCore k v s).evictIfNeeded.1.contains x.key = false
    rw [← Bool.not_eq_true, LCap.contains, e1.linked.agree.isSome_lookup, List.any_eq_true]
    exact fun ⟨y, hy, hyk⟩ => hnot y hy (eq_of_beq hyk)

/-- THE FUEL IS NEVER WHAT STOPS THE LOOP — for any state whatsoever, coherent or not: with `Len() + 1` rounds (or
    more) the loop ends because `shouldEvict()` is false, or in the `Back() == nil` corner in which the Go code spins -/
theorem evictLoop_settled (fuel : Nat) : ∀ (c : LCap) (acc : List Elem), c.evictList.length + 1 ≤ fuel →
    (LCap.evictLoop fuel c acc).1.shouldEvict = false ∨ DL.back (LCap.evictLoop fuel c acc).1.evictList = none := by
  induction fuel with
  | zero => intro c acc h; omega
  | succ fuel ih =>
    intro c acc hf
    cases hs : c.shouldEvict with
    | false => rw [loop_false fuel c acc hs]; exact Or.inl hs
    | true =>
      cases hg : c.evictList.getLast? with
      | none => rw [loop_none fuel c acc hs hg]; exact Or.inr hg
      | some e =>
        rw [loop_some fuel c acc e hs hg]
        apply ih
        have hlt : (c.evictList.filter (·.id != e.id)).length < c.evictList.length := by
          rw [List.length_filter_lt_length_iff_exists]
          exact ⟨e, List.mem_of_getLast? hg, by simp⟩
        show (c.evictList.filter (·.id != e.id)).length + 1 ≤ fuel
        omega

theorem evictIfNeeded_settled (c : LCap) :
    c.evictIfNeeded.1.shouldEvict = false ∨ DL.back c.evictIfNeeded.1.evictList = none :=
  evictLoop_settled _ c [] (Nat.le_refl _)


/-! ## 10. What coherence buys: incoherent states, checked by evaluation

`step_refines` needs `Linked`; `lib_cap_refines_reference`, `lib_bytes_le_max_unless_single`, `Inv.sizeInBytes` need the
byte counter to be the sum (`Coh`).  The states below violate one or the other; nothing in the TYPE
`capacityLRU` excludes them — only the discipline of its methods does (`coh_step`). -/

theorem Linked.withCur {c : LCap} (h : Linked c) (x : Int) : Linked { c with cur := x } :=
  ⟨h.keysNodup, h.idsNodup, h.idsFresh, h.itemsNodup, h.lookup⟩

/-- two resident entries of 1 byte each -/
def twoOps : List Op := [.addSized [1] [10] 1, .addSized [2] [20] 1]
def two : LCap := finalState LCap.step (LCap.new 3 10) twoOps

example : two = ⟨3, 10, 2, [⟨1, [2], [20], 1⟩, ⟨0, [1], [10], 1⟩], [([1], 0), ([2], 1)], 2⟩ := by decide +kernel

theorem two_inv : Inv two := (lib_cap_refines_model 3 10 twoOps).2.2

/-! ### (a) the byte counter has drifted from the sum (100 instead of 2); map and list still agree -/

def drifted : LCap := { two with cur := 100 }

theorem drifted_linked : Linked drifted := two_inv.coh.linked.withCur 100

theorem drifted_not_coh : ¬ Coh drifted := fun h => absurd h.bytes (by decide)

/-- a 1-byte insertion into 3 slots / 10 bytes holding 2 bytes: the code evicts BOTH residents (the counter says 101),
    where the same contents with a truthful counter evict nothing … -/
theorem drifted_evicts_needlessly :
    (drifted.addSizedAndReturnEvicted [3] [30] 1).2 = [([1], [10]), ([2], [20])] ∧
    (drifted.addSized [3] [30] 1).2 = true ∧ (drifted.addSized [3] [30] 1).1.keys = [[3]] ∧
    (two.addSized [3] [30] 1).2 = false ∧ (two.addSized [3] [30] 1).1.keys = [[1], [2], [3]] := by decide +kernel

/-- … so C15 fails on it: the reference LRU over the same residents evicts nothing and keeps all three keys … -/
theorem drifted_disagrees_with_reference :
    (drifted.stepL (.put [3] [30] 1)).2 = .evicted true ∧ (drifted.abs.toRef.step (.put [3] [30] 1)).2 = .evicted false ∧
    (drifted.stepL (.put [3] [30] 1)).1.keys ≠ (drifted.abs.toRef.step (.put [3] [30] 1)).1.keys := by decide +kernel

/-- … and so does the hand model as soon as ITS counter is the sum of ITS entries (its invariant `CapInv`), i.e. the
    hand model of the same contents.  (Fed the drifted counter, the hand model drifts along: `step_refines` needs only
    `Linked` — the hand model duplicates the counter instead of deriving it, see the example below.) -/
theorem drifted_disagrees_with_hand_model :
    let s : Cap := ⟨3, 10, drifted.abs.entries, sumSizes drifted.abs.entries⟩
    s.entries = drifted.abs.entries ∧ (s.addSized Variant.current [3] [30] 1).2 = false ∧
    (drifted.addSized [3] [30] 1).2 = true ∧
    ((s.addSized Variant.current [3] [30] 1).1.entries.map (·.key)) = [[3], [2], [1]] ∧
    ((drifted.addSized [3] [30] 1).1.evictList.map (·.key)) = [[3]] := by decide +kernel

example : (drifted.step (.addSized [3] [30] 1)).2 = (capStep drifted.abs (.addSized [3] [30] 1)).2 :=
  (step_refines drifted _ drifted_linked).2

/-- `SizeInBytesContained` reports the drifted counter; a NEGATIVE drift wraps around in the `uint64` conversion -/
theorem drifted_size_report :
    drifted.sizeInBytesContained = 100 ∧ (drifted.evictList.map (·.sz)).sum = 2 ∧
    ({ two with cur := -5 } : LCap).sizeInBytesContained = 18446744073709551611 := by decide +kernel

/-- the spinning corner: remove both residents from the drifted state — the counter stays at 98 with an EMPTY list, so
    `shouldEvict()` holds and `Back()` is nil.  The next `AddSized` with a negative size (refused, then `evictIfNeeded`)
    or `AddSizedAndReturnEvicted` would loop forever in Go; the model's loop returns at once (`none` branch). -/
theorem drifted_spins :
    let c := ((drifted.remove [1]).1.remove [2]).1
    c.evictList = [] ∧ c.cur = 98 ∧ c.shouldEvict = true ∧ DL.back c.evictList = none := by decide +kernel

/-! ### (b) a map entry whose element is gone (key `[2]` ↦ element 7, not linked) -/

def dangling : LCap := ⟨3, 10, 1, [⟨0, [1], [10], 1⟩], [([1], 0), ([2], 7)], 8⟩

theorem dangling_not_linked : ¬ Linked dangling := fun h => absurd (h.lookup [2]) (by decide)

/-- the counter is fine here — only the map is wrong -/
example : dangling.cur = total dangling.evictList := by decide +kernel

/-- `Contains`, `AddSizedIfMissing` and `Remove` answer from the MAP, the hand model from its list: they disagree; and
    `Keys` leaves a nil in its `len(items)`-sized slice -/
theorem dangling_disagrees :
    dangling.contains [2] = true ∧ dangling.abs.has [2] = false ∧
    (dangling.step (.contains [2])).2 ≠ (capStep dangling.abs (.contains [2])).2 ∧
    (dangling.addSizedIfMissing [2] [20] 1).2.1 = true ∧
    (dangling.abs.addSizedIfMissing Variant.current [2] [20] 1).2.1 = false ∧
    (dangling.addSizedIfMissing [2] [20] 1).1.keys = [[1]] ∧
    (dangling.abs.addSizedIfMissing Variant.current [2] [20] 1).1.keys = [[1], [2]] ∧
    (dangling.remove [2]).2 = true ∧ (dangling.abs.remove [2]).2 = false ∧
    dangling.keysSlice = some [some [1], none] ∧ dangling.len = 1 ∧ dangling.items.length = 2 := by decide +kernel

/-! ### (c) a linked element the map does not know (key `[2]`) -/

def orphan : LCap := ⟨3, 10, 2, [⟨1, [2], [20], 1⟩, ⟨0, [1], [10], 1⟩], [([1], 0)], 2⟩

theorem orphan_not_linked : ¬ Linked orphan := fun h => absurd (h.lookup [2]) (by decide)

/-- `Keys` shows a key that `Contains` denies and `Peek` cannot read — and indexes past its slice (panic); writing the
    key again links a SECOND element for it (the hand model overwrites), after which the counter counts it twice -/
theorem orphan_disagrees :
    orphan.keys = [[1], [2]] ∧ orphan.contains [2] = false ∧ orphan.abs.has [2] = true ∧
    orphan.peek [2] = none ∧ orphan.abs.peek [2] = some [20] ∧ orphan.keysSlice = none ∧
    (orphan.addSized [2] [21] 1).1.keys = [[1], [2], [2]] ∧ (orphan.addSized [2] [21] 1).1.cur = 3 ∧
    (orphan.abs.addSized Variant.current [2] [21] 1).1.keys = [[1], [2]] ∧
    (orphan.abs.addSized Variant.current [2] [21] 1).1.bytes = 2 := by decide +kernel

/-! ## 11. Non-vacuity: 3 items / 10 bytes, seven calls -/

/-- the hypotheses of the main theorems can be met -/
example : Inv (LCap.new 3 10) := Inv.new 3 10
example : Coh two ∧ NonNeg two ∧ Within two := ⟨two_inv.coh, two_inv.nonneg, two_inv.within⟩

/-- what the faithful model does on `demo`: call 4 (`Get 1`) refreshes key 1, so the growing overwrite of key 3 in call 5
    (3 → 5 bytes, 11 > 10) evicts key 2 and reports `(2, 20)`; call 6 removes key 1; call 7 inserts key 4 -/
example : trace LCap.step (LCap.new 3 10) demo =
    [ .evicted false, .evicted false, .evicted false, .value (some [10]), .evictedPairs [([2], [20])],
      .removed true, .foundEvicted false false ] := by decide +kernel

/-- and the hand model says the same, call by call (this is `lib_cap_refines_model 3 10 demo`, by computation) -/
example : trace LCap.step (LCap.new 3 10) demo = trace capStep (Cap.init 3 10) demo := by decide +kernel

/-- the concrete final state: two linked elements, two map entries pointing at them, ids not reused, 7 bytes -/
example : finalState LCap.step (LCap.new 3 10) demo
    = ⟨3, 10, 7, [⟨3, [4], [40], 2⟩, ⟨2, [3], [31], 5⟩], [([3], 2), ([4], 3)], 4⟩ := by decide +kernel

example : (finalState LCap.step (LCap.new 3 10) demo).abs.entries
    = (finalState capStep (Cap.init 3 10) demo).entries := by decide +kernel

/-- the state after the first four calls: full (3 items, 9 bytes), key 2 least recently used -/
def demoMid : LCap := finalState LCap.step (LCap.new 3 10) (demo.take 4)

theorem demoMid_inv : Inv demoMid := (lib_cap_refines_model 3 10 (demo.take 4)).2.2

example : demoMid.keys = [[2], [3], [1]] ∧ demoMid.cur = 9 ∧ demoMid.items = [([1], 0), ([2], 1), ([3], 2)] := by decide +kernel

/-- `lib_write_shape` / `lib_write_keys` at work: the overwrite keeps element 2 (same pointer), gives it the new value
    and size, moves it to the front; the victim is the back element; `AddSized` says `true` -/
example : (demoMid.addSizedAndReturnEvicted [3] [31] 5).1.evictList = [⟨2, [3], [31], 5⟩, ⟨0, [1], [10], 3⟩] ∧
    (demoMid.addSizedAndReturnEvicted [3] [31] 5).2 = [([2], [20])] ∧
    (demoMid.addSized [3] [31] 5).2 = true ∧ (demoMid.addSized [3] [31] 5).1.cur = 8 := by decide +kernel

/-- a single oversized entry stays (25 > 10 bytes), everything else goes, least recent first -/
example : (demoMid.addSizedAndReturnEvicted [9] [90] 25).2 = [([2], [20]), ([3], [30]), ([1], [10])] ∧
    (demoMid.addSizedAndReturnEvicted [9] [90] 25).1.keys = [[9]] ∧
    (demoMid.addSizedAndReturnEvicted [9] [90] 25).1.sizeInBytesContained = 25 := by decide +kernel

/-- `lib_negative_size_rejected`, instance -/
example : demoMid.addSized [3] [31] (-1) = (demoMid, false) ∧
    demoMid.addSizedIfMissing [7] [70] (-1) = (demoMid, false, false) := by decide +kernel

/-- the wrapper-level chain on the sized-cache demo of RefSpec (2 items / 10 bytes, nine calls) -/
example : SV.LRU.runTrace LCap.stepL LCap.obsL (LCap.new 2 10) demoOps
    = SV.LRU.runTrace Ref.step Ref.obs (Ref.init 2 (some 10)) demoOps := by decide +kernel

end SV.LRU.CapLib
