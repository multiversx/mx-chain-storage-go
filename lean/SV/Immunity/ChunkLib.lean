/-
  SV.Immunity.ChunkLib — /repo/immunitycache/chunk.go + cacheItem.go modelled AS THE CODE IMPLEMENTS THEM, with the chunk's
  TWO structures kept apart, and the proof that this model refines the hand-written chunk model `SV.Immunity.Chunk`
  (SV/Immunity/Model.lean) on which properties C12 and C13 are stated.

  Go state (chunk.go):
      type immunityChunk struct { config; items map[string]chunkItemWrapper; itemsAsList *list.List;
                                  immuneKeys map[string]struct{}; numBytes int; mutex }
      type chunkItemWrapper struct { item *cacheItem; listElement *list.Element }
  Model state `LChunk`:
      `list`        `container/list` abstracted to the sequence of its elements, FRONT (oldest) FIRST; an element is
                    `Elem{id, item}`: `id` stands for the identity of the `*list.Element`, `item` for the `*cacheItem` its
                    `Value` points to (key, payload, size and the mutable flag `isImmune`);
      `items`       the Go map as an association list key ↦ element id.  The wrapper's two pointers are ONE id: both are
                    created by the same `addItemNoLock` (`PushBack(item)` returns the element whose `Value` is `item`), so
                    `wrapper.item == wrapper.listElement.Value` always.  Reading `wrapper.item` is therefore `deref` of the id;
      `immuneKeys`  the Go set as a duplicate-free list (insertion = append when absent, exactly the hand model's choice);
      `numBytes`    as in Go (clamped at 0 after every subtraction);
      `nextId`      allocation counter: element identities are never reused.
  The model of the hand-written file keeps ONE list (`Chunk.items`) and says "(the map `items` holds the same entries)".
  Here nothing of the kind is assumed: every lookup goes through the map to an id and then to the list; every removal
  removes from the map BY KEY and from the list BY ELEMENT ID; the eviction loop walks the list by element pointers
  (`Front()`, `Next()` saved before `removeNoLock`) and deletes from the map by the walked item's key;
  `Count`/`isCapacityExceededNoLock`/`AppendKeys`/`ForEachItem` read the MAP, `KeysInOrder`/`removeOldestNoLock` read the
  LIST — exactly as chunk.go does.

  What the model does with a DANGLING pointer (a map entry whose element is no longer linked): `deref` fails, the read
  yields nothing and `removeNoLock` does nothing; Go would still reach the detached object.  `Coh` excludes the
  situation (`Coh.resolve`), and the disagreement examples of section 9 only use observations that do not depend on it.

  Main results
    * `Coh` (coherence of map and list; `coh_iff_explicit`: the invariant in words), kept by every operation for every
      configuration and every size (`coh_step`, `coh_run`); `Inv cfg c` = `Coh c` ∧ the hand model's `ChunkInv cfg` of the
      abstraction (numBytes = Σ sizes, flags = immuneKeys, capacity bound), kept when sizes are ≥ 0 (`inv_step`, `inv_run`);
    * refinement: `step_refines` (one call: same result, new states commuting with `abs`), `lib_chunk_refines_model`
      (every history from the fresh chunk);
    * the pointer walk unlinks, of the elements linked at its start, the first `n` that are not immune
      (`removeOldestLoop_eq`, `removeOldest_eq`); the fuel of the two loops is immaterial: `removeOldestLoop_fuel`,
      `evictLoop_fuel`, `evictItems_fuel`;
    * on the faithful model: `lib_count_le_max` (any history, any sizes), `lib_immune_survives_run`,
      `lib_immunized_never_evicted`, `lib_future_immune_on_add`, `lib_appendKeys_perm`, `lib_forEachItem_perm`,
      `lib_refusal_unchanged` (no coherence needed);
    * section 9: incoherent states (stale map entry, orphan element, crossed pointers) on which the code-faithful
      operations and the hand model disagree, `stale_refuses_all`, and the stale-cursor variant of the eviction walk;
    * section 10: a capacity-3 history evaluated by `decide`.
  Correspondence with the hand model: on coherent states the two behave alike, which is `step_refines` (three results of
  `AddItem`, the refusal leaving the state untouched, clamped byte bookkeeping, `RemoveItem` withdrawing the immune key of
  an absent item, the eviction loop and its stopping rule).  What the hand model lacks and is supplied here: the chunk-level
  `ImmunizeKeys` with its two counters (`handImmunizeKeys` folds the hand model's one-key `immunizeKey`, as
  `Cache.immunizeKeys` does), `AppendKeys`/`ForEachItem` (map order: stated up to permutation).  chunk.go has no
  `IsItemImmune`; the flag is read off `GetItem`'s result.
-/
import SV.Immunity.CacheProofs
import SV.PtrList
namespace SV.Immunity.Lib
open SV SV.Immunity SV.PtrList

/-! ## 1. The model -/

/-- a `*list.Element` whose `Value` is a `*cacheItem` -/
structure Elem where
  id : Nat
  item : Item
  deriving Repr, DecidableEq

/-! ### `container/list`, reduced to the order of the elements -/
namespace DL

/-- following an element pointer -/
def deref (l : List Elem) (id : Nat) : Option Elem := l.find? (·.id == id)
/-- `Front()` (nil for the empty list) -/
def front (l : List Elem) : Option Nat := l.head?.map (·.id)
/-- `e.Next()`: the element linked after `e`; nil for the last element and for an element that is not linked
    (`container/list` clears `e.next` and `e.list` in `Remove`) -/
def next : List Elem → Nat → Option Nat
  | [], _ => none
  | e :: rest, id => if e.id == id then rest.head?.map (·.id) else next rest id
/-- `PushBack` -/
def pushBack (l : List Elem) (e : Elem) : List Elem := l ++ [e]
/-- `Remove(e)` (a no-op when `e` is not linked, as in Go) -/
def remove (l : List Elem) (id : Nat) : List Elem := l.filter (·.id != id)
/-- `e.Value.(*cacheItem).immunizeAgainstEviction()` through the pointer -/
def setImmune (l : List Elem) (id : Nat) : List Elem :=
  l.map (fun e => if e.id == id then { e with item := { e.item with immune := true } } else e)

end DL

structure LChunk where
  items : List (Bytes × Nat)
  list : List Elem
  immuneKeys : List Bytes
  numBytes : Int
  nextId : Nat
  deriving Repr, DecidableEq

namespace LChunk

/-- `newImmunityChunk` -/
def empty : LChunk := ⟨[], [], [], 0, 0⟩

/-- `getItemNoLock`: `wrapper, ok := chunk.items[key]; if !ok { return nil, false }; return wrapper.item, true` -/
def getItemNoLock (c : LChunk) (k : Bytes) : Option Item :=
  match alookup k c.items with
  | none => none
  | some id => (DL.deref c.list id).map (·.item)

/-- `GetItem` -/
def getItem (c : LChunk) (k : Bytes) : Option Item := c.getItemNoLock k

/-- `itemExistsNoLock`: `_, exists := chunk.items[item.key]` -/
def itemExists (c : LChunk) (k : Bytes) : Bool := (alookup k c.items).isSome

/-- one iteration of the loop of `ImmunizeKeys` → (chunk, ok).  `ok` is the map's answer; the flag is set through the
    pointer; the key is recorded in `immuneKeys` whatever `ok` is. -/
def immunizeKey (c : LChunk) (k : Bytes) : LChunk × Bool :=
  ({ c with list := (match alookup k c.items with
                     | some id => DL.setImmune c.list id
                     | none => c.list),
            immuneKeys := if c.immuneKeys.contains k then c.immuneKeys else c.immuneKeys ++ [k] },
   (alookup k c.items).isSome)

/-- `ImmunizeKeys` → (chunk, numNow, numFuture) -/
def immunizeKeys (c : LChunk) (keys : List Bytes) : LChunk × Nat × Nat :=
  keys.foldl (fun (acc : LChunk × Nat × Nat) k =>
    ((acc.1.immunizeKey k).1,
     if (acc.1.immunizeKey k).2 then acc.2.1 + 1 else acc.2.1,
     if (acc.1.immunizeKey k).2 then acc.2.2 else acc.2.2 + 1)) (c, 0, 0)

/-- `isCapacityExceededNoLock`: `len(chunk.items) >= maxNumItems || chunk.numBytes >= maxNumBytes` — the MAP's size -/
def isCapacityExceeded (cfg : ChunkCfg) (c : LChunk) : Bool :=
  decide (c.items.length ≥ cfg.maxNumItems) || decide (c.numBytes ≥ (cfg.maxNumBytes : Int))

/-- `removeNoLock(element)`: `item := element.Value.(*cacheItem); delete(chunk.items, item.key);
    chunk.itemsAsList.Remove(element); trackNumBytesOnRemoveNoLock(item)` (the last = subtract, clamp at 0) -/
def removeNoLock (c : LChunk) (e : Elem) : LChunk :=
  { c with items := aerase e.item.key c.items, list := DL.remove c.list e.id,
           numBytes := max (c.numBytes - e.item.size) 0 }

/-- the loop of `removeOldestNoLock(numToRemove)`; state = (chunk, cursor `element`, `numRemoved`).
    `element != nil && numRemoved < numToRemove`; an immune item is skipped; otherwise `element.Next()` is taken on the
    list BEFORE `removeNoLock(elementToRemove)`.  `fuel` bounds the number of iterations (`removeOldestLoop_fuel`:
    the length of the list is enough).  The `none` branch of `deref` is a dangling cursor, which cannot arise. -/
def removeOldestLoop (numToRemove : Nat) : Nat → LChunk → Option Nat → Nat → LChunk × Nat
  | 0, c, _, r => (c, r)
  | _ + 1, c, none, r => (c, r)
  | fuel + 1, c, some id, r =>
    if r < numToRemove then
      match DL.deref c.list id with
      | none => (c, r)
      | some e =>
        if e.item.immune then removeOldestLoop numToRemove fuel c (DL.next c.list id) r
        else removeOldestLoop numToRemove fuel (c.removeNoLock e) (DL.next c.list id) (r + 1)
    else (c, r)

/-- `removeOldestNoLock` / `RemoveOldest` → (chunk, numRemoved).  (Go's `numToRemove` is an `int`; a negative value
    behaves as 0: the loop condition `numRemoved < numToRemove` fails at once.) -/
def removeOldest (c : LChunk) (numToRemove : Nat) : LChunk × Nat :=
  removeOldestLoop numToRemove c.list.length c (DL.front c.list) 0

/-- the `for` loop of `evictItemsNoLock`: `for isCapacityExceededNoLock() && numRemovedInStep == numToRemoveEachStep`;
    state = (chunk, `numRemovedInStep`).  (`numRemoved` is only logged and is not modelled.)  `evictLoop_fuel`: any
    fuel above the length of the list gives the same result. -/
def evictLoop (cfg : ChunkCfg) : Nat → LChunk → Nat → LChunk
  | 0, c, _ => c
  | fuel + 1, c, lastRemoved =>
    if c.isCapacityExceeded cfg && lastRemoved == cfg.numToEvict then
      evictLoop cfg fuel (c.removeOldest cfg.numToEvict).1 (c.removeOldest cfg.numToEvict).2
    else c

/-- `evictItemsNoLock` → (chunk, err ≠ nil): the first step is done out of the loop; `ErrFailedCacheEviction` when it
    removed nothing -/
def evictItems (cfg : ChunkCfg) (c : LChunk) : LChunk × Bool :=
  if (c.removeOldest cfg.numToEvict).2 = 0 then ((c.removeOldest cfg.numToEvict).1, true)
  else (evictLoop cfg (c.list.length + 1) (c.removeOldest cfg.numToEvict).1 (c.removeOldest cfg.numToEvict).2, false)

/-- `evictItemsIfCapacityExceededNoLock` → (chunk, err ≠ nil) -/
def evictItemsIfCapacityExceeded (cfg : ChunkCfg) (c : LChunk) : LChunk × Bool :=
  if c.isCapacityExceeded cfg then c.evictItems cfg else (c, false)

/-- `addItemNoLock`: `element := itemsAsList.PushBack(item); items[item.key] = chunkItemWrapper{item, element}` -/
def addItemNoLock (c : LChunk) (item : Item) : LChunk :=
  { c with list := DL.pushBack c.list ⟨c.nextId, item⟩, items := aset item.key c.nextId c.items,
           nextId := c.nextId + 1 }

/-- `immunizeItemOnAddNoLock(item)`; `id` is the element just created for `item` -/
def immunizeItemOnAdd (c : LChunk) (k : Bytes) (id : Nat) : LChunk :=
  if c.immuneKeys.contains k then { c with list := DL.setImmune c.list id } else c

/-- `trackNumBytesOnAddNoLock` -/
def trackNumBytesOnAdd (c : LChunk) (size : Int) : LChunk := { c with numBytes := c.numBytes + size }

/-- the three calls that end `AddItem`: `addItemNoLock(item); immunizeItemOnAddNoLock(item); trackNumBytesOnAddNoLock(item)`
    for the fresh `item = newCacheItem(payload, key, size)` of `HasOrAdd` (flag unset) -/
def insertNew (c : LChunk) (k payload : Bytes) (size : Int) : LChunk :=
  (((c.addItemNoLock ⟨k, payload, size, false⟩).immunizeItemOnAdd k c.nextId).trackNumBytesOnAdd size)

/-- `AddItem` → (chunk, has, added): duplicate test, then eviction (which may refuse), then the insertion -/
def addItem (cfg : ChunkCfg) (c : LChunk) (k payload : Bytes) (size : Int) : LChunk × Bool × Bool :=
  if c.itemExists k then (c, true, false)
  else if (c.evictItemsIfCapacityExceeded cfg).2 then ((c.evictItemsIfCapacityExceeded cfg).1, false, false)
  else ((c.evictItemsIfCapacityExceeded cfg).1.insertNew k payload size, false, true)

/-- `RemoveItem` → (chunk, found): `delete(immuneKeys, key)` first, whatever follows -/
def removeItem (c : LChunk) (k : Bytes) : LChunk × Bool :=
  match alookup k c.items with
  | none => ({ c with immuneKeys := c.immuneKeys.filter (· != k) }, false)
  | some id =>
    match DL.deref c.list id with
    | some e => (({ c with immuneKeys := c.immuneKeys.filter (· != k) } : LChunk).removeNoLock e, true)
    | none => ({ c with immuneKeys := c.immuneKeys.filter (· != k) }, true)

/-- `Count`: `len(chunk.items)` — the MAP -/
def count (c : LChunk) : Nat := c.items.length
/-- `CountImmune`: `len(chunk.immuneKeys)` -/
def countImmune (c : LChunk) : Nat := c.immuneKeys.length
/-- `KeysInOrder`: walks the LIST from `Front()` -/
def keysInOrder (c : LChunk) : List Bytes := c.list.map (·.item.key)
/-- `AppendKeys`: ranges over the MAP (Go's iteration order is unspecified; the model uses the association list's) -/
def appendKeys (c : LChunk) (acc : List Bytes) : List Bytes := acc ++ c.items.map (·.1)
/-- `ForEachItem`: ranges over the MAP, reads `itemWrapper.item.payload`; the calls made, in (unspecified) order -/
def forEachItem (c : LChunk) : List (Bytes × Bytes) :=
  c.items.filterMap (fun p => (DL.deref c.list p.2).map (fun e => (p.1, e.item.payload)))

end LChunk

/-! ### operations, outputs, histories -/

inductive Op
  | add (k p : Bytes) (size : Int)
  | remove (k : Bytes)
  | immunize (keys : List Bytes)
  | get (k : Bytes)
  | removeOldest (n : Nat)
  | count
  | countImmune
  | numBytes
  | keysInOrder
  deriving Repr, DecidableEq

/-- sizes passed to `AddItem` are non-negative (Go: `sizeInBytes` of `HasOrAdd`) -/
def Op.sizeOk : Op → Prop
  | .add _ _ s => 0 ≤ s
  | _ => True

instance (op : Op) : Decidable op.sizeOk := by
  cases op <;> simp only [Op.sizeOk] <;> infer_instance

inductive Out
  | hasAdded (has added : Bool)
  | found (b : Bool)
  | nowFuture (numNow numFuture : Nat)
  | item (it : Option Item)
  | num (n : Nat)
  | bytes (n : Int)
  | keys (l : List Bytes)
  deriving Repr, DecidableEq

/-- one call on the code-faithful model -/
def LChunk.step (cfg : ChunkCfg) (c : LChunk) : Op → LChunk × Out
  | .add k p s => ((c.addItem cfg k p s).1, .hasAdded (c.addItem cfg k p s).2.1 (c.addItem cfg k p s).2.2)
  | .remove k => ((c.removeItem k).1, .found (c.removeItem k).2)
  | .immunize keys => ((c.immunizeKeys keys).1, .nowFuture (c.immunizeKeys keys).2.1 (c.immunizeKeys keys).2.2)
  | .get k => (c, .item (c.getItem k))
  | .removeOldest n => ((c.removeOldest n).1, .num (c.removeOldest n).2)
  | .count => (c, .num c.count)
  | .countImmune => (c, .num c.countImmune)
  | .numBytes => (c, .bytes c.numBytes)
  | .keysInOrder => (c, .keys c.keysInOrder)

/-- chunk-level `ImmunizeKeys` on the hand model: its `immunizeKey`, folded with the two counters (the very fold
    `Cache.immunizeKeys` performs) -/
def handImmunizeKeys (c : Chunk) (keys : List Bytes) : Chunk × Nat × Nat :=
  keys.foldl (fun (acc : Chunk × Nat × Nat) k =>
    ((acc.1.immunizeKey k).1,
     if (acc.1.immunizeKey k).2 then acc.2.1 + 1 else acc.2.1,
     if (acc.1.immunizeKey k).2 then acc.2.2 else acc.2.2 + 1)) (c, 0, 0)

/-- the same call on the hand-written model (`Variant.current`) -/
def handStep (cfg : ChunkCfg) (c : Chunk) : Op → Chunk × Out
  | .add k p s => ((c.addItem Variant.current cfg k p s).1,
      .hasAdded (c.addItem Variant.current cfg k p s).2.1 (c.addItem Variant.current cfg k p s).2.2)
  | .remove k => ((c.removeItem k).1, .found (c.removeItem k).2)
  | .immunize keys => ((handImmunizeKeys c keys).1, .nowFuture (handImmunizeKeys c keys).2.1 (handImmunizeKeys c keys).2.2)
  | .get k => (c, .item (c.get k))
  | .removeOldest n => ((c.removeOldestStep n).1, .num (c.removeOldestStep n).2)
  | .count => (c, .num c.items.length)
  | .countImmune => (c, .num c.immuneKeys.length)
  | .numBytes => (c, .bytes c.numBytes)
  | .keysInOrder => (c, .keys (c.items.map (·.key)))

/-- the abstraction function: forget the map, the element ids and the allocation counter -/
def LChunk.abs (c : LChunk) : Chunk := ⟨c.list.map (·.item), c.immuneKeys, c.numBytes⟩

def finalState {σ : Type} (step : σ → Op → σ × Out) : σ → List Op → σ
  | s, [] => s
  | s, op :: ops => finalState step (step s op).1 ops

def trace {σ : Type} (step : σ → Op → σ × Out) : σ → List Op → List Out
  | _, [] => []
  | s, op :: ops => (step s op).2 :: trace step (step s op).1 ops

/-- the three fields of a hand-model chunk (`Chunk` derives no `DecidableEq`; the examples compare this) -/
def chunkView (c : Chunk) : List Item × List Bytes × Int := (c.items, c.immuneKeys, c.numBytes)

/-! ### the running example: the sections below instantiate their theorems on it, section 10 evaluates it -/

namespace Demo

/-- 3 items, 1000 bytes, 1 item evicted per step -/
def cfg : ChunkCfg := ⟨3, 1000, 1⟩

/-- key `[1]` is immunized before it exists; three adds fill the chunk; the fourth evicts — NOT `[1]`, the oldest, which
    is immune, but `[2]`; then `[3]` is removed -/
def history : List Op :=
  [ .immunize [[1]], .add [1] [0xa1] 10, .add [2] [0xa2] 20, .add [3] [0xa3] 30, .add [4] [0xa4] 40,
    .remove [3], .keysInOrder ]

def final : LChunk := finalState (LChunk.step cfg) LChunk.empty history

end Demo

/-! ## 2. Lists of elements -/

theorem deref_of_mem (l : List Elem) (e : Elem) (hn : (l.map (·.id)).Nodup) (he : e ∈ l) :
    DL.deref l e.id = some e := find?_attr_of_mem Elem.id hn he

theorem deref_some {l : List Elem} {id : Nat} {e : Elem} (h : DL.deref l id = some e) : e ∈ l ∧ e.id = id := by
  unfold DL.deref at h
  exact ⟨List.mem_of_find?_eq_some h, by simpa using List.find?_some h⟩

theorem not_mem_keys_filter (l : List Elem) (k : Bytes) : k ∉ (l.filter (·.item.key != k)).map (·.item.key) :=
  not_mem_map_filter_attr_ne (fun y : Elem => y.item.key) l k

theorem next_middle (pre : List Elem) (e : Elem) (s : List Elem) (hi : ((pre ++ e :: s).map (·.id)).Nodup) :
    DL.next (pre ++ e :: s) e.id = s.head?.map (·.id) := by
  induction pre with
  | nil => exact if_pos (beq_self_eq_true e.id)
  | cons x xs ih =>
    rw [List.cons_append, List.map_cons, List.nodup_cons] at hi
    have hx : ¬ (x.id == e.id) = true := fun h =>
      hi.1 ((eq_of_beq h : x.id = e.id) ▸ List.mem_map_of_mem (List.mem_append_right _ List.mem_cons_self))
    exact (if_neg hx).trans (ih hi.2)

theorem remove_middle (pre : List Elem) (e : Elem) (s : List Elem) (hi : ((pre ++ e :: s).map (·.id)).Nodup) :
    DL.remove (pre ++ e :: s) e.id = pre ++ s := filter_attr_ne_middle Elem.id hi

theorem mem_remove {l : List Elem} {id : Nat} {x : Elem} : x ∈ DL.remove l id ↔ x ∈ l ∧ x.id ≠ id := by
  unfold DL.remove
  rw [List.mem_filter]
  simp

theorem alookup_none_iff (l : List (Bytes × Nat)) (k : Bytes) : alookup k l = none ↔ k ∉ l.map (·.1) :=
  SV.alookup_none_iff

/-! ## 3. Coherence of the map and the list -/

/-- the map and the list describe the same set of entries -/
structure Coh (c : LChunk) : Prop where
  /-- no key twice in the list -/
  keysNodup : (c.list.map (·.item.key)).Nodup
  /-- an element is linked once -/
  idsNodup : (c.list.map (·.id)).Nodup
  /-- ids are never reused -/
  idsFresh : ∀ e ∈ c.list, e.id < c.nextId
  /-- a Go map binds a key once -/
  itemsNodup : (c.items.map (·.1)).Nodup
  /-- `items[k]` is (the pointer to) the list element that carries key `k` — in both directions: a key is bound in the
      map iff some linked element carries it, and then the binding is that element -/
  lookup : ∀ k, alookup k c.items = (c.list.find? (·.item.key == k)).map (·.id)

/-- `Coh` spelled out without `alookup`/`find?` -/
structure Explicit (c : LChunk) : Prop where
  mapKeysNodup : (c.items.map (·.1)).Nodup
  listKeysNodup : (c.list.map (·.item.key)).Nodup
  idsNodup : (c.list.map (·.id)).Nodup
  idsFresh : ∀ e ∈ c.list, e.id < c.nextId
  /-- every map entry points to a linked element, and that element carries the entry's key -/
  mapToList : ∀ k id, (k, id) ∈ c.items → ∃ e ∈ c.list, e.id = id ∧ e.item.key = k
  /-- every linked element is the target of the map entry of its key -/
  listToMap : ∀ e ∈ c.list, (e.item.key, e.id) ∈ c.items

theorem Coh.agree {c : LChunk} (h : Coh c) : Agree Elem.id (·.item.key) c.items c.list c.nextId :=
  ⟨h.keysNodup, h.idsNodup, h.idsFresh, h.itemsNodup, h.lookup⟩

theorem Coh.of_agree {c : LChunk} (h : Agree Elem.id (·.item.key) c.items c.list c.nextId) : Coh c :=
  ⟨h.keysNodup, h.idsNodup, h.idsFresh, h.itemsNodup, h.lookup⟩

theorem Coh.empty : Coh LChunk.empty := .of_agree Agree.nil

/-- no dangling and no stale map entry -/
theorem Coh.resolve {c : LChunk} (h : Coh c) {k : Bytes} {id : Nat} (hl : alookup k c.items = some id) :
    ∃ e, e ∈ c.list ∧ e.item.key = k ∧ e.id = id ∧ c.list.find? (·.item.key == k) = some e ∧
      DL.deref c.list id = some e := h.agree.resolve hl

theorem Coh.absent {c : LChunk} (h : Coh c) {k : Bytes} (hl : alookup k c.items = none) :
    ∀ e ∈ c.list, e.item.key ≠ k := h.agree.ne_of_absent hl

theorem Coh.explicit {c : LChunk} (h : Coh c) : Explicit c :=
  { mapKeysNodup := h.itemsNodup, listKeysNodup := h.keysNodup, idsNodup := h.idsNodup, idsFresh := h.idsFresh,
    mapToList := fun _ _ hp => by
      obtain ⟨e, he, hk, hid, _⟩ := h.agree.resolve (alookup_of_mem h.itemsNodup hp)
      exact ⟨e, he, hid, hk⟩
    listToMap := fun _ he => h.agree.mem_items he }

theorem Coh.of_explicit {c : LChunk} (h : Explicit c) : Coh c :=
  { keysNodup := h.listKeysNodup, idsNodup := h.idsNodup, idsFresh := h.idsFresh, itemsNodup := h.mapKeysNodup,
    lookup := fun k => by
      cases hl : alookup k c.items with
      | some id =>
        obtain ⟨e, he, hid, hk⟩ := h.mapToList k id (mem_of_alookup hl)
        rw [← hk, find?_attr_of_mem (fun y : Elem => y.item.key) h.listKeysNodup he, ← hid]
        rfl
      | none =>
        cases hf : c.list.find? (·.item.key == k) with
        | none => rfl
        | some e =>
          obtain ⟨hm, hk⟩ := (find?_attr_eq_some_iff (fun y : Elem => y.item.key) h.listKeysNodup).mp hf
          have := alookup_of_mem h.mapKeysNodup (h.listToMap e hm)
          rw [hk, hl] at this
          cases this }

theorem coh_iff_explicit (c : LChunk) : Coh c ↔ Explicit c := ⟨Coh.explicit, Coh.of_explicit⟩

theorem Coh.sameKeys {c : LChunk} (h : Coh c) : (c.items.map (·.1)).Perm (c.list.map (·.item.key)) := h.agree.sameKeys

theorem Coh.sameLen {c : LChunk} (h : Coh c) : c.items.length = c.list.length := h.agree.sameLen

/-! ### the primitive updates keep coherence -/

theorem Coh.removeNoLock {c : LChunk} (h : Coh c) {e : Elem} (he : e ∈ c.list) :
    Coh (c.removeNoLock e) ∧ (c.removeNoLock e).list = c.list.filter (·.item.key != e.item.key) :=
  ⟨.of_agree (h.agree.erase he), filter_attr_ne_congr Elem.id (·.item.key) h.idsNodup h.keysNodup he⟩

theorem Coh.addItemNoLock {c : LChunk} (h : Coh c) (item : Item) (hl : alookup item.key c.items = none) :
    Coh (c.addItemNoLock item) := .of_agree (h.agree.concat (e := ⟨c.nextId, item⟩) hl rfl)

theorem foldl_removeNoLock (vs : List Elem) (c : LChunk) :
    vs.foldl LChunk.removeNoLock c =
      { c with items := vs.foldl (fun m e => aerase e.item.key m) c.items,
               list := vs.foldl (fun l e => DL.remove l e.id) c.list,
               numBytes := subBytes c.numBytes (vs.map (·.item)) } := by
  induction vs generalizing c with
  | nil => rfl
  | cons e vs ih => rw [List.foldl_cons, ih]; rfl

theorem Coh.removeAll {c : LChunk} (h : Coh c) {vs : List Elem} (hs : vs.Sublist c.list) :
    Coh (vs.foldl LChunk.removeNoLock c) := by
  induction vs generalizing c with
  | nil => exact h
  | cons e vs ih =>
    refine ih (h.removeNoLock (hs.subset List.mem_cons_self)).1 ?_
    -- the remaining victims are other elements: they stay linked
    have hf : (e :: vs).filter (·.id != e.id) = vs :=
      filter_attr_ne_middle Elem.id (pre := []) (h.idsNodup.sublist (hs.map _))
    exact hf ▸ hs.filter _

/-! ## 4. The eviction walk -/

/-- `removeOldestLoop` follows element pointers through a list that it is modifying.  Ids being distinct and `Next()`
    being taken before the removal, it visits the elements `s` that were linked behind its cursor when it started, in
    order, and unlinks the first `n - r` of them that are not immune. -/
theorem removeOldestLoop_eq (n : Nat) (s : List Elem) : ∀ (fuel : Nat) (c : LChunk) (pre : List Elem) (r : Nat),
    (c.list.map (·.id)).Nodup → c.list = pre ++ s → s.length ≤ fuel →
    LChunk.removeOldestLoop n fuel c (s.head?.map (·.id)) r =
      (((s.filter (!·.item.immune)).take (n - r)).foldl LChunk.removeNoLock c,
       r + ((s.filter (!·.item.immune)).take (n - r)).length) := by
  induction s with
  | nil => intro fuel c pre r _ _ _; rw [List.filter_nil, List.take_nil]; cases fuel <;> rfl
  | cons e s ih =>
    intro fuel c pre r hnd hl hf
    cases fuel with
    | zero => cases hf
    | succ f =>
      have hd : DL.deref c.list e.id = some e := deref_of_mem _ e hnd (hl ▸ List.mem_append_right _ List.mem_cons_self)
      have hn : DL.next c.list e.id = s.head?.map (·.id) := by rw [hl]; exact next_middle pre e s (hl ▸ hnd)
      simp only [List.head?_cons, Option.map_some, LChunk.removeOldestLoop, hd, hn]
      by_cases hr : r < n
      · rw [if_pos hr]
        cases him : e.item.immune with
        | true =>
          rw [if_pos rfl, List.filter_cons_of_neg (by simp [him])]
          exact ih f c (pre ++ [e]) r hnd (by rw [hl, List.append_assoc]; rfl) (Nat.le_of_succ_le_succ hf)
        | false =>
          have hl' : (c.removeNoLock e).list = pre ++ s :=
            (congrArg (DL.remove · e.id) hl).trans (remove_middle pre e s (hl ▸ hnd))
          have hm : n - r = n - (r + 1) + 1 := (Nat.succ_pred_eq_of_pos (Nat.sub_pos_of_lt hr)).symm
          rw [if_neg Bool.false_ne_true, List.filter_cons_of_pos (by simp [him]), hm, List.take_succ_cons,
            List.foldl_cons, List.length_cons,
            ih f (c.removeNoLock e) pre (r + 1) (hnd.sublist (List.filter_sublist.map _)) hl' (Nat.le_of_succ_le_succ hf),
            Nat.add_assoc, Nat.add_comm 1]
      · rw [if_neg hr, Nat.sub_eq_zero_of_le (Nat.not_lt.mp hr), List.take_zero]
        rfl

theorem removeOldest_eq {c : LChunk} (h : (c.list.map (·.id)).Nodup) (n : Nat) :
    c.removeOldest n = (((c.list.filter (!·.item.immune)).take n).foldl LChunk.removeNoLock c,
      ((c.list.filter (!·.item.immune)).take n).length) :=
  (removeOldestLoop_eq n c.list c.list.length c [] 0 h rfl (Nat.le_refl _)).trans (by rw [Nat.sub_zero, Nat.zero_add])

/-- the fuel of `removeOldestLoop` is immaterial: any bound ≥ the length of the list gives the same result -/
theorem removeOldestLoop_fuel {c : LChunk} (h : (c.list.map (·.id)).Nodup) (n fuel : Nat) (hf : c.list.length ≤ fuel) :
    LChunk.removeOldestLoop n fuel c (DL.front c.list) 0 = c.removeOldest n :=
  (removeOldestLoop_eq n c.list fuel c [] 0 h rfl hf).trans
    (removeOldestLoop_eq n c.list c.list.length c [] 0 h rfl (Nat.le_refl _)).symm

theorem remove_victims (s : List Elem) : ∀ (pre : List Elem) (m : Nat), ((pre ++ s).map (·.id)).Nodup →
    (((s.filter (!·.item.immune)).take m).foldl (fun l e => DL.remove l e.id) (pre ++ s)).map (·.item) =
      pre.map (·.item) ++ (removeOldest m (s.map (·.item))).1 := by
  induction s with
  | nil => intro pre m _; simp [removeOldest_nil]
  | cons e s ih =>
    intro pre m hnd
    cases m with
    | zero => rw [List.take_zero, List.foldl_nil, removeOldest_zero, List.map_append]
    | succ m =>
      rw [List.map_cons]
      cases him : e.item.immune with
      | true =>
        rw [List.filter_cons_of_neg (by simp [him]), removeOldest_cons_immune m _ _ him]
        have := ih (pre ++ [e]) (m + 1) (by rwa [List.append_assoc])
        rwa [List.append_assoc, List.map_append, List.append_assoc] at this
      | false =>
        rw [List.filter_cons_of_pos (by simp [him]), List.take_succ_cons, List.foldl_cons, remove_middle pre e s hnd,
          removeOldest_cons_not m _ _ him]
        exact ih pre m (hnd.sublist (((List.sublist_cons_self e s).append_left pre).map _))

theorem removeOldest_spec {c : LChunk} (h : Coh c) (n : Nat) :
    Coh (c.removeOldest n).1 ∧ (c.removeOldest n).1.abs = (c.abs.removeOldestStep n).1 ∧
    (c.removeOldest n).2 = (c.abs.removeOldestStep n).2 ∧
    (∀ x ∈ c.list, x.item.immune = true → x ∈ (c.removeOldest n).1.list) := by
  have hv : (removeOldest n c.abs.items).2 = ((c.list.filter (!·.item.immune)).take n).map (·.item) := by
    show (removeOldest n (c.list.map (·.item))).2 = _
    rw [removeOldest_snd, List.map_take, List.filter_map]
    rfl
  rw [removeOldest_eq h.idsNodup]
  have hs : ((c.list.filter (!·.item.immune)).take n).Sublist c.list := (List.take_sublist _ _).trans List.filter_sublist
  refine ⟨h.removeAll hs, ?_, ?_, fun x hx hi => ?_⟩
  · rw [foldl_removeNoLock]
    exact chunk_ext (remove_victims c.list [] n h.idsNodup) rfl (congrArg (subBytes c.numBytes) hv.symm)
  · rw [removeOldestStep_snd, hv, List.length_map]
  · rw [foldl_removeNoLock]
    refine List.foldlRecOn _ _ hx fun l hl v hv => mem_remove.mpr ⟨hl, fun hid => ?_⟩
    -- a victim is not immune
    have hvi := (List.mem_filter.mp (List.mem_of_mem_take hv)).2
    rw [← eq_of_attr_eq Elem.id h.idsNodup hx (hs.subset hv) hid, hi] at hvi
    cases hvi

theorem Coh.removeOldest {c : LChunk} (h : Coh c) (n : Nat) : Coh (c.removeOldest n).1 := (removeOldest_spec h n).1

theorem removeOldest_refines {c : LChunk} (h : Coh c) (n : Nat) :
    (c.removeOldest n).1.abs = (c.abs.removeOldestStep n).1 ∧ (c.removeOldest n).2 = (c.abs.removeOldestStep n).2 :=
  ⟨(removeOldest_spec h n).2.1, (removeOldest_spec h n).2.2.1⟩

/-- a step that removed nothing did nothing (no coherence needed): the state `AddItem` leaves behind when it refuses -/
theorem removeOldestLoop_zero (n fuel : Nat) (c : LChunk) (cur : Option Nat) (r : Nat) :
    r ≤ (LChunk.removeOldestLoop n fuel c cur r).2 ∧
    ((LChunk.removeOldestLoop n fuel c cur r).2 = r → (LChunk.removeOldestLoop n fuel c cur r).1 = c) := by
  fun_induction LChunk.removeOldestLoop n fuel c cur r with
  | case4 _ _ _ _ _ _ _ _ ih => exact ih
  | case5 _ _ _ r _ _ _ _ ih =>
    exact ⟨Nat.le_of_succ_le ih.1, fun hh => absurd (Nat.le_trans ih.1 (Nat.le_of_eq hh)) (Nat.not_succ_le_self r)⟩
  | _ => exact ⟨Nat.le_refl _, fun _ => rfl⟩

theorem removeOldest_zero_unchanged (c : LChunk) (n : Nat) (h : (c.removeOldest n).2 = 0) : (c.removeOldest n).1 = c :=
  (removeOldestLoop_zero n _ c _ 0).2 h

/-! ## 5. Eviction -/

/-- `isCapacityExceededNoLock` reads the MAP's size; the hand model reads the list's length -/
theorem isCapacityExceeded_abs {c : LChunk} (h : Coh c) (cfg : ChunkCfg) :
    c.isCapacityExceeded cfg = c.abs.exceeded cfg := by
  unfold LChunk.isCapacityExceeded Chunk.exceeded
  rw [h.sameLen]
  simp [LChunk.abs]

theorem removeOldest_length {c : LChunk} (h : Coh c) (n : Nat) :
    (c.removeOldest n).1.list.length + (c.removeOldest n).2 = c.list.length ∧ (c.removeOldest n).2 ≤ n := by
  obtain ⟨_, h2, h3, _⟩ := removeOldest_spec h n
  have hl := removeOldestStep_length c.abs n
  rw [← h2, ← h3] at hl
  have hle := (removeOldest_partition n c.abs.items).2.2
  rw [← removeOldestStep_snd, ← h3] at hle
  simp only [LChunk.abs, List.length_map] at hl
  exact ⟨hl, hle⟩

theorem evictLoop_spec (cfg : ChunkCfg) (fuel : Nat) (c : LChunk) (last : Nat) (h : Coh c) :
    Coh (LChunk.evictLoop cfg fuel c last) ∧ (LChunk.evictLoop cfg fuel c last).abs = evictMore cfg fuel c.abs last ∧
    (∀ x ∈ c.list, x.item.immune = true → x ∈ (LChunk.evictLoop cfg fuel c last).list) := by
  fun_induction LChunk.evictLoop cfg fuel c last with
  | case1 => exact ⟨h, rfl, fun x hx _ => hx⟩
  | case2 f c last hc ih =>
    obtain ⟨s1, s2, s3, s4⟩ := removeOldest_spec h cfg.numToEvict
    obtain ⟨i1, i2, i3⟩ := ih s1
    rw [Bool.and_eq_true, beq_iff_eq, and_comm] at hc
    rw [evictMore_succ, ← isCapacityExceeded_abs h, if_pos hc, ← s2, ← s3]
    exact ⟨i1, i2, fun x hx hi => i3 x (s4 x hx hi) hi⟩
  | case3 f c last hc =>
    rw [Bool.and_eq_true, beq_iff_eq, and_comm] at hc
    rw [evictMore_succ, ← isCapacityExceeded_abs h, if_neg hc]
    exact ⟨h, rfl, fun x hx _ => hx⟩

theorem evictLoop_exit (cfg : ChunkCfg) (fuel : Nat) (c : LChunk) (last : Nat) (h : last ≠ cfg.numToEvict) :
    LChunk.evictLoop cfg fuel c last = c := by
  cases fuel with
  | zero => rfl
  | succ f => rw [LChunk.evictLoop, beq_false_of_ne h, Bool.and_false, if_neg Bool.false_ne_true]

/-- the fuel of the `for` loop of `evictItemsNoLock` is immaterial: every iteration that continues has unlinked
    `numItemsToPreemptivelyEvict ≥ 1` elements -/
theorem evictLoop_fuel (cfg : ChunkCfg) (hn : 1 ≤ cfg.numToEvict) (f1 f2 : Nat) (c : LChunk) (last : Nat) (h : Coh c)
    (h1 : c.list.length < f1) (h2 : c.list.length < f2) :
    LChunk.evictLoop cfg f1 c last = LChunk.evictLoop cfg f2 c last := by
  fun_induction LChunk.evictLoop cfg f1 c last generalizing f2 with
  | case1 => cases h1
  | case2 a c last hc ih =>
    obtain ⟨b, rfl⟩ := Nat.exists_eq_succ_of_ne_zero (Nat.ne_zero_of_lt h2)
    rw [LChunk.evictLoop, if_pos hc]
    by_cases hr : (c.removeOldest cfg.numToEvict).2 = cfg.numToEvict
    · have hl : (c.removeOldest cfg.numToEvict).1.list.length < c.list.length :=
        Nat.lt_of_lt_of_le (Nat.lt_add_of_pos_right (Nat.lt_of_lt_of_le hn (Nat.le_of_eq hr.symm)))
          (Nat.le_of_eq (removeOldest_length h _).1)
      exact ih b (h.removeOldest _) (Nat.lt_of_lt_of_le hl (Nat.le_of_lt_succ h1))
        (Nat.lt_of_lt_of_le hl (Nat.le_of_lt_succ h2))
    · rw [evictLoop_exit cfg a _ _ hr, evictLoop_exit cfg b _ _ hr]
  | case3 a c last hc =>
    obtain ⟨b, rfl⟩ := Nat.exists_eq_succ_of_ne_zero (Nat.ne_zero_of_lt h2)
    rw [LChunk.evictLoop, if_neg hc]

/-- the three ways `evictItemsIfCapacityExceededNoLock` ends: nothing to do; `ErrFailedCacheEviction`, the first step
    having removed nothing and so (`removeOldest_zero_unchanged`, no coherence needed) changed nothing; the loop -/
theorem evict_cases (cfg : ChunkCfg) (c : LChunk) :
    (c.isCapacityExceeded cfg = false ∧ c.evictItemsIfCapacityExceeded cfg = (c, false)) ∨
    (c.isCapacityExceeded cfg = true ∧ (c.removeOldest cfg.numToEvict).2 = 0 ∧
      c.evictItemsIfCapacityExceeded cfg = (c, true)) ∨
    (c.isCapacityExceeded cfg = true ∧ (c.removeOldest cfg.numToEvict).2 ≠ 0 ∧
      c.evictItemsIfCapacityExceeded cfg =
        (LChunk.evictLoop cfg (c.list.length + 1) (c.removeOldest cfg.numToEvict).1 (c.removeOldest cfg.numToEvict).2,
         false)) := by
  unfold LChunk.evictItemsIfCapacityExceeded LChunk.evictItems
  cases c.isCapacityExceeded cfg with
  | false => exact .inl ⟨rfl, rfl⟩
  | true =>
    rw [if_pos rfl]
    by_cases h0 : (c.removeOldest cfg.numToEvict).2 = 0
    · rw [if_pos h0, removeOldest_zero_unchanged c _ h0]
      exact .inr (.inl ⟨rfl, h0, rfl⟩)
    · rw [if_neg h0]
      exact .inr (.inr ⟨rfl, h0, rfl⟩)

theorem evict_err_unchanged (cfg : ChunkCfg) (c : LChunk) (he : (c.evictItemsIfCapacityExceeded cfg).2 = true) :
    (c.evictItemsIfCapacityExceeded cfg).1 = c := by
  rcases evict_cases cfg c with ⟨_, e⟩ | ⟨_, _, e⟩ | ⟨_, _, e⟩
  · rw [e]
  · rw [e]
  · rw [e] at he; cases he

theorem evictIfNeeded_spec {c : LChunk} (h : Coh c) (cfg : ChunkCfg) :
    Coh (c.evictItemsIfCapacityExceeded cfg).1 ∧
    c.abs.evictIfNeeded cfg =
      (if (c.evictItemsIfCapacityExceeded cfg).2 = true then none else some (c.evictItemsIfCapacityExceeded cfg).1.abs) ∧
    (∀ x ∈ c.list, x.item.immune = true → x ∈ (c.evictItemsIfCapacityExceeded cfg).1.list) := by
  obtain ⟨s1, s2, s3, s4⟩ := removeOldest_spec h cfg.numToEvict
  have hx := isCapacityExceeded_abs h cfg
  rcases evict_cases cfg c with ⟨hex, e⟩ | ⟨hex, h0, e⟩ | ⟨hex, h0, e⟩
  · rw [e, evictIfNeeded_of_not_exceeded (hx ▸ hex)]
    exact ⟨h, rfl, fun x hx _ => hx⟩
  · rw [e, evictIfNeeded_of_exceeded (hx ▸ hex), ← s3, if_pos h0]
    exact ⟨h, rfl, fun x hx _ => hx⟩
  · obtain ⟨i1, i2, i3⟩ :=
      evictLoop_spec cfg (c.list.length + 1) (c.removeOldest cfg.numToEvict).1 (c.removeOldest cfg.numToEvict).2 s1
    rw [e, evictIfNeeded_of_exceeded (hx ▸ hex), ← s3, if_neg h0, ← s2,
      show c.abs.items.length = c.list.length from List.length_map _, ← i2]
    exact ⟨i1, rfl, fun x hx hi => i3 x (s4 x hx hi) hi⟩

theorem evictIfNeeded_refines {c : LChunk} (h : Coh c) (cfg : ChunkCfg) :
    c.abs.evictIfNeeded cfg =
      (if (c.evictItemsIfCapacityExceeded cfg).2 = true then none else some (c.evictItemsIfCapacityExceeded cfg).1.abs) :=
  (evictIfNeeded_spec h cfg).2.1

/-- with any fuel above the length of the list, the loop of `evictItemsNoLock` computes what `evictItems` returns -/
theorem evictItems_fuel {c : LChunk} (h : Coh c) (cfg : ChunkCfg) (fuel : Nat) (hf : c.list.length < fuel)
    (hr : (c.removeOldest cfg.numToEvict).2 ≠ 0) :
    LChunk.evictLoop cfg fuel (c.removeOldest cfg.numToEvict).1 (c.removeOldest cfg.numToEvict).2 =
      (c.evictItems cfg).1 := by
  obtain ⟨hl, hle⟩ := removeOldest_length h cfg.numToEvict
  unfold LChunk.evictItems
  rw [if_neg hr]
  exact evictLoop_fuel cfg (Nat.lt_of_lt_of_le (Nat.pos_of_ne_zero hr) hle) _ _ _ _ (h.removeOldest _)
    (Nat.lt_of_le_of_lt (Nat.le.intro hl) hf) (Nat.lt_succ_of_le (Nat.le.intro hl))

/-! ## 6. The operations under coherence -/

/-- the duplicate test of `AddItem` asks the MAP; the hand model scans the list -/
theorem itemExists_abs {c : LChunk} (h : Coh c) (k : Bytes) : c.itemExists k = c.abs.has k :=
  (h.agree.isSome_lookup k).trans (List.any_map (p := fun it : Item => it.key == k)).symm

theorem setImmune_append_fresh (l : List Elem) (id : Nat) (it : Item) (hf : ∀ x ∈ l, x.id ≠ id) :
    DL.setImmune (l ++ [(⟨id, it⟩ : Elem)]) id = l ++ [(⟨id, { it with immune := true }⟩ : Elem)] := by
  unfold DL.setImmune
  rw [List.map_append, map_ite_attr_of_ne Elem.id _ hf, List.map_singleton, if_pos (beq_self_eq_true id)]

theorem insertNew_eq {c : LChunk} (h : Coh c) (k p : Bytes) (size : Int) :
    c.insertNew k p size =
      { c with items := aset k c.nextId c.items,
               list := c.list ++ [⟨c.nextId, ⟨k, p, size, c.immuneKeys.contains k⟩⟩],
               numBytes := c.numBytes + size, nextId := c.nextId + 1 } := by
  unfold LChunk.insertNew LChunk.trackNumBytesOnAdd LChunk.immunizeItemOnAdd LChunk.addItemNoLock DL.pushBack
  cases c.immuneKeys.contains k with
  | false => rfl
  | true => rw [if_pos rfl, setImmune_append_fresh _ _ _ fun x hx => Nat.ne_of_lt (h.idsFresh x hx)]

theorem insertNew_spec {c : LChunk} (h : Coh c) (k p : Bytes) (size : Int) (hk : c.itemExists k = false) :
    Coh (c.insertNew k p size) ∧
    (c.insertNew k p size).abs =
      { c.abs with items := c.abs.items ++ [⟨k, p, size, c.abs.immuneKeys.contains k⟩],
                   numBytes := c.abs.numBytes + size } := by
  rw [insertNew_eq h]
  exact ⟨.of_agree (h.agree.concat (e := ⟨c.nextId, ⟨k, p, size, c.immuneKeys.contains k⟩⟩)
      (Option.not_isSome_iff_eq_none.mp (Bool.eq_false_iff.mp hk)) rfl),
    chunk_ext List.map_append rfl rfl⟩

theorem LChunk.addItem_cases (cfg : ChunkCfg) (c : LChunk) (k p : Bytes) (size : Int) :
    (c.itemExists k = true ∧ c.addItem cfg k p size = (c, true, false)) ∨
    (c.itemExists k = false ∧ (c.evictItemsIfCapacityExceeded cfg).2 = true ∧
      c.addItem cfg k p size = (c, false, false)) ∨
    (c.itemExists k = false ∧ (c.evictItemsIfCapacityExceeded cfg).2 = false ∧
      c.addItem cfg k p size = ((c.evictItemsIfCapacityExceeded cfg).1.insertNew k p size, false, true)) := by
  unfold LChunk.addItem
  cases c.itemExists k with
  | true => exact .inl ⟨rfl, rfl⟩
  | false =>
    cases he : (c.evictItemsIfCapacityExceeded cfg).2 with
    | true => exact .inr (.inl ⟨rfl, rfl, by rw [evict_err_unchanged cfg c he]; rfl⟩)
    | false => exact .inr (.inr ⟨rfl, rfl, rfl⟩)

theorem addItem_spec {c : LChunk} (h : Coh c) (cfg : ChunkCfg) (k p : Bytes) (size : Int) :
    Coh (c.addItem cfg k p size).1 ∧ (c.addItem cfg k p size).1.abs = (c.abs.addItem Variant.current cfg k p size).1 ∧
    (c.addItem cfg k p size).2 = (c.abs.addItem Variant.current cfg k p size).2 := by
  obtain ⟨e1, e2, _⟩ := evictIfNeeded_spec h cfg
  unfold Chunk.addItem
  rw [if_neg (by decide), ← itemExists_abs h, e2]
  rcases c.addItem_cases cfg k p size with ⟨hk, e⟩ | ⟨hk, he, e⟩ | ⟨hk, he, e⟩
  · rw [e, hk]
    exact ⟨h, rfl, rfl⟩
  · rw [e, hk, he]
    exact ⟨h, rfl, rfl⟩
  · -- eviction only removes: the key is still unbound
    have hk' : (c.evictItemsIfCapacityExceeded cfg).1.itemExists k = false := by
      rw [he] at e2
      rw [itemExists_abs h, has_eq_false_iff] at hk
      rw [itemExists_abs e1, has_eq_false_iff]
      exact fun it hit => hk it ((evictIfNeeded_sublist cfg c.abs _ e2).subset hit)
    rw [e, hk, he]
    exact ⟨(insertNew_spec e1 k p size hk').1, (insertNew_spec e1 k p size hk').2, rfl⟩

theorem Coh.addItem {c : LChunk} (h : Coh c) (cfg : ChunkCfg) (k p : Bytes) (size : Int) :
    Coh (c.addItem cfg k p size).1 := (addItem_spec h cfg k p size).1

theorem addItem_refines {c : LChunk} (h : Coh c) (cfg : ChunkCfg) (k p : Bytes) (size : Int) :
    (c.addItem cfg k p size).1.abs = (c.abs.addItem Variant.current cfg k p size).1 ∧
    (c.addItem cfg k p size).2 = (c.abs.addItem Variant.current cfg k p size).2 := (addItem_spec h cfg k p size).2

theorem getItem_eq {c : LChunk} (h : Coh c) (k : Bytes) :
    c.getItem k = (c.list.find? (·.item.key == k)).map (·.item) := by
  show (match alookup k c.items with
        | none => none
        | some id => (DL.deref c.list id).map Elem.item) = _
  rw [h.lookup]
  cases hf : c.list.find? (·.item.key == k) with
  | none => rfl
  | some e => exact congrArg (Option.map Elem.item) (deref_of_mem _ e h.idsNodup (List.mem_of_find?_eq_some hf))

theorem getItem_refines {c : LChunk} (h : Coh c) (k : Bytes) : c.getItem k = c.abs.get k :=
  (getItem_eq h k).trans (List.find?_map (p := fun it : Item => it.key == k)).symm

theorem removeItem_eq {c : LChunk} (h : Coh c) (k : Bytes) :
    c.removeItem k = match c.list.find? (·.item.key == k) with
      | none => ({ c with immuneKeys := c.immuneKeys.filter (· != k) }, false)
      | some e => (({ c with immuneKeys := c.immuneKeys.filter (· != k) } : LChunk).removeNoLock e, true) := by
  unfold LChunk.removeItem
  rw [h.lookup]
  cases hf : c.list.find? (·.item.key == k) with
  | none => rfl
  | some e =>
    dsimp only [Option.map_some]
    rw [deref_of_mem _ e h.idsNodup (List.mem_of_find?_eq_some hf)]

theorem removeItem_spec {c : LChunk} (h : Coh c) (k : Bytes) :
    Coh (c.removeItem k).1 ∧ (c.removeItem k).1.abs = (c.abs.removeItem k).1 ∧ (c.removeItem k).2 = (c.abs.removeItem k).2 := by
  have hc : Coh ({ c with immuneKeys := c.immuneKeys.filter (· != k) } : LChunk) := .of_agree h.agree
  unfold Chunk.removeItem
  rw [removeItem_eq h, ← getItem_refines h, getItem_eq h]
  cases hf : c.list.find? (·.item.key == k) with
  | none => exact ⟨hc, rfl, rfl⟩
  | some e =>
    obtain ⟨he, hek⟩ := (find?_attr_eq_some_iff (fun y : Elem => y.item.key) h.keysNodup).mp hf
    refine ⟨(hc.removeNoLock he).1, chunk_ext ?_ rfl rfl, rfl⟩
    show (LChunk.removeNoLock _ e).list.map (·.item) = (c.list.map (·.item)).filter (·.key != k)
    rw [(hc.removeNoLock he).2, hek, List.filter_map]
    rfl

theorem Coh.removeItem {c : LChunk} (h : Coh c) (k : Bytes) : Coh (c.removeItem k).1 := (removeItem_spec h k).1

theorem removeItem_refines {c : LChunk} (h : Coh c) (k : Bytes) :
    (c.removeItem k).1.abs = (c.abs.removeItem k).1 ∧ (c.removeItem k).2 = (c.abs.removeItem k).2 :=
  (removeItem_spec h k).2

theorem immunizeKey_list {c : LChunk} (h : Coh c) (k : Bytes) :
    (c.immunizeKey k).1.list =
      c.list.map fun e => if e.item.key == k then { e with item := { e.item with immune := true } } else e := by
  show (match alookup k c.items with
        | some id => DL.setImmune c.list id
        | none => c.list) = _
  cases hl : alookup k c.items with
  | none => exact (map_ite_attr_of_ne (fun e : Elem => e.item.key) _ (h.absent hl)).symm
  | some id =>
    obtain ⟨e, he, rfl, rfl, _⟩ := h.resolve hl
    exact map_ite_attr_congr Elem.id (·.item.key) _ h.idsNodup h.keysNodup he

theorem immunizeKey_spec {c : LChunk} (h : Coh c) (k : Bytes) :
    Coh (c.immunizeKey k).1 ∧ (c.immunizeKey k).1.abs = (c.abs.immunizeKey k).1 ∧
    (c.immunizeKey k).2 = (c.abs.immunizeKey k).2 := by
  refine ⟨.of_agree ?_, chunk_ext ?_ rfl rfl, itemExists_abs h k⟩
  · rw [immunizeKey_list h]
    exact h.agree.map _ (fun x => (apply_ite Elem.id _ _ _).trans (ite_self _))
      (fun x => (apply_ite (fun y : Elem => y.item.key) _ _ _).trans (ite_self _))
  · show (c.immunizeKey k).1.list.map (·.item) =
      (c.list.map (·.item)).map fun it => if it.key == k then { it with immune := true } else it
    rw [immunizeKey_list h, List.map_map, List.map_map]
    exact List.map_congr_left fun x _ => apply_ite Elem.item _ _ _

theorem Coh.immunizeKey {c : LChunk} (h : Coh c) (k : Bytes) : Coh (c.immunizeKey k).1 := (immunizeKey_spec h k).1

theorem immunizeKey_refines {c : LChunk} (h : Coh c) (k : Bytes) :
    (c.immunizeKey k).1.abs = (c.abs.immunizeKey k).1 ∧ (c.immunizeKey k).2 = (c.abs.immunizeKey k).2 :=
  (immunizeKey_spec h k).2

theorem immunizeKeys_fst (c : LChunk) (keys : List Bytes) :
    (c.immunizeKeys keys).1 = keys.foldl (fun c k => (c.immunizeKey k).1) c :=
  (List.foldl_hom Prod.fst fun _ _ => rfl).symm

theorem immunizeKeys_list {c : LChunk} (h : Coh c) (keys : List Bytes) :
    (c.immunizeKeys keys).1.list =
      c.list.map fun e => if keys.contains e.item.key then { e with item := { e.item with immune := true } } else e := by
  rw [immunizeKeys_fst]
  induction keys generalizing c with
  | nil => exact (List.map_id _).symm
  | cons k ks ih =>
    rw [List.foldl_cons, ih (h.immunizeKey k), immunizeKey_list h, List.map_map]
    refine List.map_congr_left fun e _ => ?_
    dsimp only [Function.comp]
    rw [List.contains_cons]
    rcases Bool.eq_false_or_eq_true (e.item.key == k) with hk | hk
    · simp only [hk, if_true, Bool.true_or, ite_self]
    · simp only [hk, Bool.false_eq_true, if_false, Bool.false_or]

theorem handImmunizeKeys_pres (P : Chunk → Prop) (hP : ∀ c k, P c → P (c.immunizeKey k).1) {c : Chunk} (h : P c)
    (keys : List Bytes) : P (handImmunizeKeys c keys).1 :=
  List.foldlRecOn (motive := fun acc : Chunk × Nat × Nat => P acc.1) keys _ h fun acc hc k _ => hP acc.1 k hc

theorem immunizeKeys_spec {c : LChunk} (h : Coh c) (keys : List Bytes) :
    Coh (c.immunizeKeys keys).1 ∧ (c.immunizeKeys keys).1.abs = (handImmunizeKeys c.abs keys).1 ∧
    (c.immunizeKeys keys).2 = (handImmunizeKeys c.abs keys).2 :=
  List.foldl_rel (r := fun (x : LChunk × Nat × Nat) (y : Chunk × Nat × Nat) => Coh x.1 ∧ x.1.abs = y.1 ∧ x.2 = y.2)
    ⟨h, rfl, rfl⟩ fun k _ x y ⟨hx, h1, h2⟩ => by
      obtain ⟨s1, s2, s3⟩ := immunizeKey_spec hx k
      dsimp only
      rw [← h1, ← h2, ← s2, ← s3]
      exact ⟨s1, rfl, rfl⟩

theorem Coh.immunizeKeys {c : LChunk} (h : Coh c) (keys : List Bytes) : Coh (c.immunizeKeys keys).1 :=
  (immunizeKeys_spec h keys).1

theorem immunizeKeys_refines {c : LChunk} (h : Coh c) (keys : List Bytes) :
    (c.immunizeKeys keys).1.abs = (handImmunizeKeys c.abs keys).1 ∧
    (c.immunizeKeys keys).2 = (handImmunizeKeys c.abs keys).2 := (immunizeKeys_spec h keys).2

/-! ## 7. Refinement along histories -/

theorem lib_keysInOrder (c : LChunk) : c.keysInOrder = c.abs.items.map (·.key) := by
  simp [LChunk.keysInOrder, LChunk.abs, List.map_map]

theorem lib_count_eq_len {c : LChunk} (h : Coh c) : c.count = c.list.length := h.sameLen

/-- one call: coherence is kept, the new states correspond, the results are EQUAL -/
theorem step_refines (cfg : ChunkCfg) (c : LChunk) (op : Op) (h : Coh c) :
    Coh (c.step cfg op).1 ∧ (c.step cfg op).1.abs = (handStep cfg c.abs op).1 ∧
    (c.step cfg op).2 = (handStep cfg c.abs op).2 := by
  cases op with
  | add k p s =>
    obtain ⟨h1, h2, h3⟩ := addItem_spec h cfg k p s
    exact ⟨h1, h2, congrArg (fun r : Bool × Bool => Out.hasAdded r.1 r.2) h3⟩
  | remove k =>
    obtain ⟨h1, h2, h3⟩ := removeItem_spec h k
    exact ⟨h1, h2, congrArg Out.found h3⟩
  | immunize keys =>
    obtain ⟨h1, h2, h3⟩ := immunizeKeys_spec h keys
    exact ⟨h1, h2, congrArg (fun r : Nat × Nat => Out.nowFuture r.1 r.2) h3⟩
  | get k => exact ⟨h, rfl, congrArg Out.item (getItem_refines h k)⟩
  | removeOldest n =>
    obtain ⟨h1, h2, h3, _⟩ := removeOldest_spec h n
    exact ⟨h1, h2, congrArg Out.num h3⟩
  | count => exact ⟨h, rfl, congrArg Out.num ((lib_count_eq_len h).trans (List.length_map _).symm)⟩
  | countImmune | numBytes => exact ⟨h, rfl, rfl⟩
  | keysInOrder => exact ⟨h, rfl, congrArg Out.keys (lib_keysInOrder c)⟩

/-- `Coh` is kept by every operation, for every configuration and every size -/
theorem coh_step (cfg : ChunkCfg) (c : LChunk) (op : Op) (h : Coh c) : Coh (c.step cfg op).1 := (step_refines cfg c op h).1

theorem finalState_eq_foldl {σ : Type} (step : σ → Op → σ × Out) (s : σ) (ops : List Op) :
    finalState step s ops = ops.foldl (fun s op => (step s op).1) s := by
  induction ops generalizing s with
  | nil => rfl
  | cons op ops ih => exact ih _

theorem lib_sim_run (cfg : ChunkCfg) (ops : List Op) : ∀ c : LChunk, Coh c →
    trace (LChunk.step cfg) c ops = trace (handStep cfg) c.abs ops ∧
    (finalState (LChunk.step cfg) c ops).abs = finalState (handStep cfg) c.abs ops ∧
    Coh (finalState (LChunk.step cfg) c ops) := by
  induction ops with
  | nil => intro c h; exact ⟨rfl, rfl, h⟩
  | cons op ops ih =>
    intro c h
    obtain ⟨h1, h2, h3⟩ := step_refines cfg c op h
    obtain ⟨i1, i2, i3⟩ := ih _ h1
    simp only [trace, finalState]
    rw [← h2, ← h3]
    exact ⟨by rw [i1], i2, i3⟩

/-- MAIN THEOREM.  For every configuration and every list of operations applied to the fresh chunk, the model that
    keeps the map and the list apart returns, call after call, exactly what the hand-written one-list model returns; the
    final states correspond; the final state is coherent. -/
theorem lib_chunk_refines_model (cfg : ChunkCfg) (ops : List Op) :
    trace (LChunk.step cfg) LChunk.empty ops = trace (handStep cfg) Chunk.empty ops ∧
    (finalState (LChunk.step cfg) LChunk.empty ops).abs = finalState (handStep cfg) Chunk.empty ops ∧
    Coh (finalState (LChunk.step cfg) LChunk.empty ops) :=
  lib_sim_run cfg ops LChunk.empty Coh.empty

theorem coh_run (cfg : ChunkCfg) (ops : List Op) : Coh (finalState (LChunk.step cfg) LChunk.empty ops) :=
  (lib_chunk_refines_model cfg ops).2.2

/-- instance: the 7-call history of `Demo` (an immunization, an eviction that skips the immune item, a removal), both
    sides evaluated -/
example : trace (LChunk.step Demo.cfg) LChunk.empty Demo.history = trace (handStep Demo.cfg) Chunk.empty Demo.history ∧
    chunkView Demo.final.abs = chunkView (finalState (handStep Demo.cfg) Chunk.empty Demo.history) := by decide +kernel

theorem Demo.final_coh : Coh Demo.final := coh_run Demo.cfg Demo.history

/-! ### the hand model's invariant (numBytes = Σ sizes, flags = immuneKeys, bound), carried over -/

theorem chunkInv_handStep {cfg : ChunkCfg} {c : Chunk} (h : ChunkInv cfg c) (op : Op) (hw : op.sizeOk) :
    ChunkInv cfg (handStep cfg c op).1 := by
  cases op with
  | add k p s => exact ChunkInv.addItem cfg c k p s h hw
  | remove k => exact ChunkInv.removeItem cfg c k h
  | immunize keys => exact handImmunizeKeys_pres _ (fun c k => ChunkInv.immunizeKey cfg c k) h keys
  | removeOldest n => exact h.removeOldestStep n
  | get _ | count | countImmune | numBytes | keysInOrder => exact h

/-- coherence of the two structures + the hand model's bookkeeping invariant on what they describe -/
structure Inv (cfg : ChunkCfg) (c : LChunk) : Prop where
  coh : Coh c
  chunk : ChunkInv cfg c.abs

theorem Inv.empty (cfg : ChunkCfg) : Inv cfg LChunk.empty := ⟨Coh.empty, ChunkInv.empty cfg⟩

theorem inv_step (cfg : ChunkCfg) (c : LChunk) (op : Op) (hw : op.sizeOk) (h : Inv cfg c) : Inv cfg (c.step cfg op).1 := by
  obtain ⟨h1, h2, _⟩ := step_refines cfg c op h.coh
  exact ⟨h1, h2 ▸ chunkInv_handStep h.chunk op hw⟩

theorem inv_run (cfg : ChunkCfg) (ops : List Op) (hw : ∀ op ∈ ops, op.sizeOk) {c : LChunk} (h : Inv cfg c) :
    Inv cfg (finalState (LChunk.step cfg) c ops) := by
  rw [finalState_eq_foldl]
  exact List.foldlRecOn ops _ h fun c hc op hop => inv_step cfg c op (hw op hop) hc

theorem Demo.final_inv : Inv Demo.cfg Demo.final :=
  inv_run Demo.cfg Demo.history (by decide) (Inv.empty Demo.cfg)

theorem Inv.numBytes_eq {cfg : ChunkCfg} {c : LChunk} (h : Inv cfg c) : c.numBytes = sumSz (c.list.map (·.item)) :=
  h.chunk.bytes

theorem Inv.flags {cfg : ChunkCfg} {c : LChunk} (h : Inv cfg c) {e : Elem} (he : e ∈ c.list) :
    e.item.immune = c.immuneKeys.contains e.item.key :=
  h.chunk.flags e.item (List.mem_map_of_mem he)

theorem handStep_bound (cfg : ChunkCfg) (c : Chunk) (op : Op) (h : c.items.length ≤ cfg.maxNumItems) :
    (handStep cfg c op).1.items.length ≤ cfg.maxNumItems := by
  cases op with
  | add k p s =>
    show (c.addItem Variant.current cfg k p s).1.items.length ≤ _
    rcases Immunity.addItem_cases cfg c k p s with ⟨_, e⟩ | ⟨_, _, e⟩ | ⟨_, c', he, e⟩
    · rw [e]; exact h
    · rw [e]; exact h
    · rw [e]
      dsimp only
      rw [List.length_append, List.length_singleton]
      exact evictIfNeeded_room cfg c c' he h
  | remove k =>
    show (c.removeItem k).1.items.length ≤ _
    rw [removeItem_items]
    exact Nat.le_trans (List.length_filter_le _ _) h
  | immunize keys =>
    exact handImmunizeKeys_pres (·.items.length ≤ cfg.maxNumItems)
      (fun _ _ hc => Nat.le_trans (Nat.le_of_eq (List.length_map _)) hc) h keys
  | removeOldest n => exact Nat.le_trans (removeOldestStep_sublist c n).length_le h
  | get _ | count | countImmune | numBytes | keysInOrder => exact h

/-! ## 8. Corollaries stated on the code-faithful model -/

/-- after ANY history (any sizes, any configuration) `Count()` ≤ `maxNumItems` of the chunk -/
theorem lib_count_le_max (cfg : ChunkCfg) (ops : List Op) :
    (finalState (LChunk.step cfg) LChunk.empty ops).count ≤ cfg.maxNumItems := by
  obtain ⟨_, h2, h3⟩ := lib_chunk_refines_model cfg ops
  have hb : (finalState (handStep cfg) Chunk.empty ops).items.length ≤ cfg.maxNumItems := by
    rw [finalState_eq_foldl]
    exact List.foldlRecOn (motive := fun c : Chunk => c.items.length ≤ cfg.maxNumItems) ops _ (Nat.zero_le _)
      fun c hc op _ => handStep_bound cfg c op hc
  rw [← h2] at hb
  rw [lib_count_eq_len h3]
  exact Nat.le_trans (Nat.le_of_eq (List.length_map _).symm) hb

example : Demo.final.count = 2 ∧ Demo.final.list.length = 2 ∧ Demo.cfg.maxNumItems = 3 := by decide +kernel

/-- under coherence the keys of the linked elements are the keys the map binds: `AppendKeys` (map order) is a
    permutation of them -/
theorem lib_appendKeys_perm {c : LChunk} (h : Coh c) (acc : List Bytes) :
    (c.appendKeys acc).Perm (acc ++ c.keysInOrder) :=
  List.Perm.append_left acc h.sameKeys

/-- `ForEachItem` calls the function once per linked element, with its key and payload (in the map's order) -/
theorem lib_forEachItem_perm {c : LChunk} (h : Coh c) :
    c.forEachItem.Perm (c.list.map (fun e => (e.item.key, e.item.payload))) :=
  h.agree.filterMap_perm (·.item.payload)

/-- a refused `AddItem` (`has = false`, `added = false`) leaves the chunk exactly as it was -/
theorem lib_refusal_unchanged {c : LChunk} (cfg : ChunkCfg) (k p : Bytes) (size : Int)
    (hr : (c.addItem cfg k p size).2 = (false, false)) : (c.addItem cfg k p size).1 = c := by
  rcases c.addItem_cases cfg k p size with ⟨_, e⟩ | ⟨_, _, e⟩ | ⟨_, _, e⟩
  · rw [e]
  · rw [e]
  · rw [e] at hr
    cases hr

/-! ### an immune item is never evicted (statements about the linked ELEMENT, identity included) -/

theorem flag_of_immune {e : Elem} (h : e.item.immune = true) :
    ({ e with item := { e.item with immune := true } } : Elem) = e := by
  obtain ⟨i, ⟨k, p, s, im⟩⟩ := e
  cases h
  rfl

/-- `AddItem` never unlinks (nor alters) an immune element — whatever it has to evict to make room -/
theorem lib_immune_not_evicted {c : LChunk} (h : Coh c) (cfg : ChunkCfg) (k p : Bytes) (size : Int) {e : Elem}
    (he : e ∈ c.list) (hi : e.item.immune = true) : e ∈ (c.addItem cfg k p size).1.list := by
  obtain ⟨e1, _, e3⟩ := evictIfNeeded_spec h cfg
  rcases c.addItem_cases cfg k p size with ⟨_, ea⟩ | ⟨_, _, ea⟩ | ⟨_, _, ea⟩
  · rw [ea]; exact he
  · rw [ea]; exact he
  · rw [ea, insertNew_eq e1]
    exact List.mem_append_left _ (e3 e he hi)

/-- `RemoveOldest(n)` never unlinks an immune element -/
theorem lib_immune_not_removedOldest {c : LChunk} (h : Coh c) (n : Nat) {e : Elem}
    (he : e ∈ c.list) (hi : e.item.immune = true) : e ∈ (c.removeOldest n).1.list :=
  (removeOldest_spec h n).2.2.2 e he hi

theorem removeItem_keeps_other {c : LChunk} (h : Coh c) (k : Bytes) {e : Elem} (he : e ∈ c.list)
    (hk : e.item.key ≠ k) : e ∈ (c.removeItem k).1.list := by
  rw [removeItem_eq h]
  cases hf : c.list.find? (·.item.key == k) with
  | none => exact he
  | some e' =>
    obtain ⟨he', hek⟩ := (find?_attr_eq_some_iff (fun y : Elem => y.item.key) h.keysNodup).mp hf
    exact mem_remove.mpr ⟨he, fun hh => hk (eq_of_attr_eq Elem.id h.idsNodup he he' hh ▸ hek)⟩

/-- an immune linked element stays linked, unchanged, across every call except `RemoveItem` of its own key -/
theorem lib_immune_survives_step (cfg : ChunkCfg) {c : LChunk} (h : Coh c) {e : Elem} (he : e ∈ c.list)
    (hi : e.item.immune = true) (op : Op) (hop : op ≠ Op.remove e.item.key) : e ∈ (c.step cfg op).1.list := by
  cases op with
  | add k p s => exact lib_immune_not_evicted h cfg k p s he hi
  | remove k => exact removeItem_keeps_other h k he (fun hk => hop (by rw [hk]))
  | immunize keys =>
    show e ∈ (c.immunizeKeys keys).1.list
    rw [immunizeKeys_list h]
    exact List.mem_map.mpr ⟨e, he, ite_eq_right_iff.mpr fun _ => flag_of_immune hi⟩
  | removeOldest n => exact lib_immune_not_removedOldest h n he hi
  | get _ | count | countImmune | numBytes | keysInOrder => exact he

theorem lib_immune_survives_run (cfg : ChunkCfg) (ops : List Op) {c : LChunk} (h : Coh c) {e : Elem} (he : e ∈ c.list)
    (hi : e.item.immune = true) (hno : Op.remove e.item.key ∉ ops) : e ∈ (finalState (LChunk.step cfg) c ops).list := by
  rw [finalState_eq_foldl]
  exact (List.foldlRecOn (motive := fun c => Coh c ∧ e ∈ c.list) ops _ ⟨h, he⟩ fun c hc op hop =>
    ⟨coh_step cfg c op hc.1, lib_immune_survives_step cfg hc.1 hc.2 hi op fun e' => hno (e' ▸ hop)⟩).2

/-- instance: element 0 (key `[1]`, flagged) of `Demo.final` survives three more evicting adds -/
example : (⟨0, ⟨[1], [0xa1], 10, true⟩⟩ : Elem) ∈
    (finalState (LChunk.step Demo.cfg) Demo.final [.add [5] [0xa5] 1, .add [6] [0xa6] 1, .add [7] [0xa7] 1]).list :=
  lib_immune_survives_run Demo.cfg _ Demo.final_coh (e := ⟨0, ⟨[1], [0xa1], 10, true⟩⟩) (by decide) rfl (by decide)

theorem lib_immune_survives_get (cfg : ChunkCfg) (ops : List Op) {c : LChunk} (h : Coh c) {e : Elem} (he : e ∈ c.list)
    (hi : e.item.immune = true) (hno : Op.remove e.item.key ∉ ops) :
    (finalState (LChunk.step cfg) c ops).getItem e.item.key = some e.item := by
  have hc := (lib_sim_run cfg ops c h).2.2
  rw [getItem_eq hc, find?_attr_of_mem (fun y : Elem => y.item.key) hc.keysNodup
    (lib_immune_survives_run cfg ops h he hi hno)]
  rfl

/-! ### how an element becomes immune -/

/-- the same `*list.Element` carrying the same key, payload and size -/
def SameElem (e e' : Elem) : Prop :=
  e'.id = e.id ∧ e'.item.key = e.item.key ∧ e'.item.payload = e.item.payload ∧ e'.item.size = e.item.size

/-- `ImmunizeKeys(keys)` sets — through the map, through the pointer — the flag of the linked element of every
    resident key of `keys` -/
theorem lib_immunize_flags {c : LChunk} (h : Coh c) (keys : List Bytes) {e : Elem} (he : e ∈ c.list)
    (hk : e.item.key ∈ keys) : ∃ e' ∈ (c.immunizeKeys keys).1.list, SameElem e e' ∧ e'.item.immune = true := by
  rw [immunizeKeys_list h]
  refine ⟨_, List.mem_map_of_mem he, ?_⟩
  rw [if_pos (List.contains_iff_mem.mpr hk)]
  exact ⟨⟨rfl, rfl, rfl, rfl⟩, rfl⟩

/-- C12 on the code-faithful model: once a resident key has been immunized, the element that carries it stays linked —
    same element, same payload — whatever is added, evicted or immunized afterwards, until `RemoveItem` of that key -/
theorem lib_immunized_never_evicted (cfg : ChunkCfg) {c : LChunk} (h : Coh c) (keys : List Bytes) {e : Elem}
    (he : e ∈ c.list) (hk : e.item.key ∈ keys) (ops : List Op) (hno : Op.remove e.item.key ∉ ops) :
    ∃ e' ∈ (finalState (LChunk.step cfg) c (Op.immunize keys :: ops)).list, SameElem e e' ∧ e'.item.immune = true ∧
      (finalState (LChunk.step cfg) c (Op.immunize keys :: ops)).getItem e.item.key = some e'.item := by
  obtain ⟨e', he', hs, hi⟩ := lib_immunize_flags h keys he hk
  have hc := h.immunizeKeys keys
  have hno' : Op.remove e'.item.key ∉ ops := by rw [hs.2.1]; exact hno
  refine ⟨e', lib_immune_survives_run cfg ops hc he' hi hno', hs, hi, ?_⟩
  rw [← hs.2.1]
  exact lib_immune_survives_get cfg ops hc he' hi hno'

/-- C12, the other way in: a key immunized BEFORE it is added gets its element flagged by `AddItem` itself -/
theorem lib_future_immune_on_add {c : LChunk} (h : Coh c) (cfg : ChunkCfg) (k p : Bytes) (size : Int)
    (hk : k ∈ c.immuneKeys) (ha : (c.addItem cfg k p size).2.2 = true) :
    ∃ id, (⟨id, ⟨k, p, size, true⟩⟩ : Elem) ∈ (c.addItem cfg k p size).1.list := by
  obtain ⟨e1, e2, _⟩ := evictIfNeeded_spec h cfg
  rcases c.addItem_cases cfg k p size with ⟨_, ea⟩ | ⟨_, _, ea⟩ | ⟨_, he, ea⟩
  · rw [ea] at ha; cases ha
  · rw [ea] at ha; cases ha
  · -- eviction does not touch `immuneKeys`
    rw [he] at e2
    refine ⟨(c.evictItemsIfCapacityExceeded cfg).1.nextId, ?_⟩
    rw [ea, insertNew_eq e1, show (c.evictItemsIfCapacityExceeded cfg).1.immuneKeys = c.immuneKeys from
      evictIfNeeded_immuneKeys cfg c.abs _ e2, List.contains_iff_mem.mpr hk]
    exact List.mem_append_right _ List.mem_cons_self

/-! ## 9. What coherence buys: incoherent states on which the code and the hand model disagree

The hand model has ONE list, so it cannot even express these states; `abs` reads the list.  On each of them a
code-faithful operation returns something else than the hand model's operation on the abstraction — the refinement
theorems are false without `Coh`. -/

namespace Incoherent

def cfg : ChunkCfg := ⟨3, 1000, 1⟩
def cfg1 : ChunkCfg := ⟨1, 1000, 1⟩

/-- a STALE MAP ENTRY: key `[1]` is still bound (to element 0) but element 0 is no longer linked — what a removal that
    unlinks the element and forgets `delete(chunk.items, key)` leaves behind -/
def stale : LChunk := ⟨[([1], 0)], [], [], 0, 1⟩

example : ¬ Coh stale := fun h => by have := h.sameLen; simp [stale] at this

/-- `Count()` says 1, the list (and the hand model) hold nothing -/
example : stale.count = 1 ∧ stale.keysInOrder = [] ∧ stale.abs.items.length = 0 := by decide +kernel

/-- `AddItem([1])`: the code answers "duplicate" (has, not added); the hand model adds -/
example : (stale.step cfg (.add [1] [0xaa] 1)).2 = .hasAdded true false ∧
    (handStep cfg stale.abs (.add [1] [0xaa] 1)).2 = .hasAdded false true := by decide +kernel

/-- with room for one item the stale entry makes the chunk refuse EVERY new key for ever (the map is "full", the walk
    over the empty list evicts nothing); the hand model adds -/
example : (stale.step cfg1 (.add [2] [0xbb] 1)) = (stale, .hasAdded false false) ∧
    (handStep cfg1 stale.abs (.add [2] [0xbb] 1)).2 = .hasAdded false true := by decide +kernel

theorem stale_refuses_all (k p : Bytes) (s : Int) (hk : k ≠ [1]) : stale.addItem cfg1 k p s = (stale, false, false) := by
  have h1 : stale.itemExists k = false := by
    have : ([1] == k) = false := by simpa using fun h : [1] = k => hk h.symm
    simp [LChunk.itemExists, stale, alookup, this]
  have h2 : stale.evictItemsIfCapacityExceeded cfg1 = (stale, true) := by decide
  unfold LChunk.addItem
  rw [h1, h2]
  rfl

/-- a LINKED ELEMENT WITHOUT MAP ENTRY — what a `delete` with the wrong key, or a forgotten map insert, leaves behind -/
def orphan : LChunk := ⟨[], [⟨0, ⟨[1], [0xaa], 1, false⟩⟩], [], 1, 1⟩

example : ¬ Coh orphan := fun h => by have := h.sameLen; simp [orphan] at this

/-- `GetItem`/`RemoveItem` do not find the item the hand model finds; `AddItem` links the key a second time -/
example : (orphan.step cfg (.get [1])).2 = .item none ∧
    (handStep cfg orphan.abs (.get [1])).2 = .item (some ⟨[1], [0xaa], 1, false⟩) ∧
    (orphan.step cfg (.remove [1])).2 = .found false ∧ (handStep cfg orphan.abs (.remove [1])).2 = .found true ∧
    (orphan.step cfg (.add [1] [0xbb] 1)).2 = .hasAdded false true ∧
    (handStep cfg orphan.abs (.add [1] [0xbb] 1)).2 = .hasAdded true false ∧
    (orphan.step cfg (.add [1] [0xbb] 1)).1.keysInOrder = [[1], [1]] := by decide +kernel

/-- CROSSED POINTERS: both keys bound, both elements linked, but each entry points to the other key's element -/
def crossed : LChunk :=
  ⟨[([1], 1), ([2], 0)], [⟨0, ⟨[1], [0xa1], 1, false⟩⟩, ⟨1, ⟨[2], [0xa2], 1, false⟩⟩], [], 2, 2⟩

example : ¬ Coh crossed := fun h => by
  have := h.lookup [1]
  simp [crossed, alookup] at this

/-- `GetItem([1])` returns key `[2]`'s item; `RemoveItem([1])` unlinks key `[2]`'s element and deletes `[2]` from the map
    (`removeNoLock` deletes `item.key`), so `[1]` stays bound and listed -/
example : (crossed.step cfg (.get [1])).2 = .item (some ⟨[2], [0xa2], 1, false⟩) ∧
    (crossed.step cfg (.remove [1])).1.keysInOrder = [[1]] ∧
    (crossed.step cfg (.remove [1])).1.items = [([1], 1)] ∧
    (handStep cfg crossed.abs (.remove [1])).1.items.map (·.key) = [[2]] := by decide +kernel

/-- THE STALE CURSOR.  `removeOldestNoLock` saves `element.Next()` BEFORE `removeNoLock(elementToRemove)`.  Taking it
    after — on the list from which the element has been unlinked — yields nil (`container/list` clears the links of a
    removed element), and the loop stops after its first removal. -/
def removeOldestLoopStale (numToRemove : Nat) : Nat → LChunk → Option Nat → Nat → LChunk × Nat
  | 0, c, _, r => (c, r)
  | _ + 1, c, none, r => (c, r)
  | fuel + 1, c, some id, r =>
    if r < numToRemove then
      match DL.deref c.list id with
      | none => (c, r)
      | some e =>
        if e.item.immune then removeOldestLoopStale numToRemove fuel c (DL.next c.list id) r
        else removeOldestLoopStale numToRemove fuel (c.removeNoLock e) (DL.next (c.removeNoLock e).list id) (r + 1)
    else (c, r)

def three : LChunk :=
  finalState (LChunk.step cfg) LChunk.empty [.add [1] [0xa1] 1, .add [2] [0xa2] 1, .add [3] [0xa3] 1]

/-- asked to remove 2 of 3 evictable items: the code removes 2, the stale-cursor variant 1 -/
example : (three.removeOldest 2).2 = 2 ∧ (three.removeOldest 2).1.keysInOrder = [[3]] ∧
    (removeOldestLoopStale 2 three.list.length three (DL.front three.list) 0).2 = 1 ∧
    (removeOldestLoopStale 2 three.list.length three (DL.front three.list) 0).1.keysInOrder = [[2], [3]] := by decide +kernel

end Incoherent

/-! ## 10. Non-vacuity: a history on a chunk of capacity 3 -/

namespace Demo

example : history.length = 7 := rfl

example : trace (LChunk.step cfg) LChunk.empty history =
    [ .nowFuture 0 1, .hasAdded false true, .hasAdded false true, .hasAdded false true, .hasAdded false true,
      .found true, .keys [[1], [4]] ] := by decide +kernel

/-- the final state: the map binds `[1]` and `[4]` to elements 0 and 3 (ids 1 and 2 are gone for good), the list
    links element 0 (flagged) and element 3, 50 bytes -/
example : finalState (LChunk.step cfg) LChunk.empty history =
    ⟨[([1], 0), ([4], 3)], [⟨0, ⟨[1], [0xa1], 10, true⟩⟩, ⟨3, ⟨[4], [0xa4], 40, false⟩⟩], [[1]], 50, 4⟩ := by decide +kernel

example : trace (LChunk.step cfg) LChunk.empty history = trace (handStep cfg) Chunk.empty history :=
  (lib_chunk_refines_model cfg history).1

/-- the hypotheses of the theorems of sections 6–8 are met by the non-trivial state `final` (`final_coh`, `final_inv`) -/
example : final.count = 2 ∧ final.count = final.list.length ∧ final.count ≤ cfg.maxNumItems ∧ final.numBytes = 50 ∧
    final.countImmune = 1 ∧ final.getItem [1] = some ⟨[1], [0xa1], 10, true⟩ ∧ final.getItem [2] = none := by decide +kernel

example : (finalState (LChunk.step cfg) final [.add [5] [0xa5] 1, .add [6] [0xa6] 1, .add [7] [0xa7] 1]).keysInOrder =
    [[1], [6], [7]] := by decide +kernel

/-- all three results of `AddItem` occur: added, duplicate, refused (capacity 1, the only resident item is immune) -/
example : trace (LChunk.step ⟨1, 1000, 1⟩) LChunk.empty
      [.add [1] [0xa1] 1, .add [1] [0xff] 1, .immunize [[1], [9]], .add [2] [0xa2] 1, .get [1], .count] =
    [.hasAdded false true, .hasAdded true false, .nowFuture 1 1, .hasAdded false false,
     .item (some ⟨[1], [0xa1], 1, true⟩), .num 1] := by decide +kernel

/-- the byte limit evicts too, and `RemoveOldest(2)` skips the immune item -/
example : trace (LChunk.step ⟨10, 50, 1⟩) LChunk.empty
      [.add [1] [0xa1] 30, .immunize [[1]], .add [2] [0xa2] 30, .add [3] [0xa3] 5, .keysInOrder, .numBytes,
       .add [4] [0xa4] 5, .removeOldest 2, .keysInOrder] =
    [.hasAdded false true, .nowFuture 1 0, .hasAdded false true, .hasAdded false true, .keys [[1], [3]], .bytes 35,
     .hasAdded false true, .num 2, .keys [[1]]] := by decide +kernel

end Demo
end SV.Immunity.Lib
