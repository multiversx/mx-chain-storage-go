/-
  SV.Immunity.Proofs — proofs about the immunity cache chunk model (C12, C13).
-/
import SV.Immunity.Spec
import SV.PtrList
namespace SV.Immunity

theorem removeOldest_zero (l : List Item) : removeOldest 0 l = (l, []) := by
  cases l <;> rfl

theorem removeOldest_nil (n : Nat) : removeOldest n [] = ([], []) := by
  cases n <;> rfl

theorem removeOldest_cons_immune (n : Nat) (it : Item) (rest : List Item) (h : it.immune = true) :
    removeOldest (n + 1) (it :: rest) = (it :: (removeOldest (n + 1) rest).1, (removeOldest (n + 1) rest).2) := by
  simp [removeOldest, h]

theorem removeOldest_cons_not (n : Nat) (it : Item) (rest : List Item) (h : it.immune = false) :
    removeOldest (n + 1) (it :: rest) = ((removeOldest n rest).1, it :: (removeOldest n rest).2) := by
  simp [removeOldest, h]

theorem removeOldest_snd (n : Nat) (l : List Item) : (removeOldest n l).2 = (l.filter (!·.immune)).take n := by
  induction l generalizing n with
  | nil => rw [removeOldest_nil, List.filter_nil, List.take_nil]
  | cons a rest ih =>
    cases n with
    | zero => rw [removeOldest_zero, List.take_zero]
    | succ n =>
      cases ha : a.immune with
      | true => rw [removeOldest_cons_immune n a rest ha, List.filter_cons_of_neg (by simp [ha])]; exact ih (n + 1)
      | false =>
        rw [removeOldest_cons_not n a rest ha, List.filter_cons_of_pos (by simp [ha]), List.take_succ_cons]
        exact congrArg (a :: ·) (ih n)

theorem removeOldest_partition (n : Nat) (l : List Item) :
    ((removeOldest n l).1 ++ (removeOldest n l).2).Perm l ∧ (removeOldest n l).1.Sublist l ∧ (removeOldest n l).2.length ≤ n := by
  have h : ((removeOldest n l).1 ++ (removeOldest n l).2).Perm l ∧ (removeOldest n l).1.Sublist l := by
    induction l generalizing n with
    | nil => rw [removeOldest_nil]; exact ⟨.refl _, .refl _⟩
    | cons a rest ih =>
      cases n with
      | zero => rw [removeOldest_zero, List.append_nil]; exact ⟨.refl _, .refl _⟩
      | succ n =>
        cases ha : a.immune with
        | true =>
          rw [removeOldest_cons_immune n a rest ha]
          exact ⟨(ih (n + 1)).1.cons a, (ih (n + 1)).2.cons_cons a⟩
        | false =>
          rw [removeOldest_cons_not n a rest ha]
          exact ⟨List.perm_middle.trans ((ih n).1.cons a), (ih n).2.cons a⟩
  exact ⟨h.1, h.2, by rw [removeOldest_snd]; exact List.length_take_le _ _⟩

theorem removeOldest_keeps_immune (n : Nat) (l : List Item) :
    (∀ it ∈ (removeOldest n l).2, it.immune = false) ∧ (∀ it ∈ l, it.immune = true → it ∈ (removeOldest n l).1) := by
  have hrem : ∀ it ∈ (removeOldest n l).2, it.immune = false := by
    intro it hit
    rw [removeOldest_snd] at hit
    simpa using (List.mem_filter.mp (List.mem_of_mem_take hit)).2
  refine ⟨hrem, fun it hit himm => ?_⟩
  rcases List.mem_append.mp ((removeOldest_partition n l).1.mem_iff.mpr hit) with h | h
  · exact h
  · rw [hrem it h] at himm; cases himm

theorem removeOldest_all_immune (n : Nat) (l : List Item) (h : ∀ it ∈ l, it.immune = true) :
    removeOldest n l = (l, []) := by
  have h2 : (removeOldest n l).2 = [] := by
    rw [removeOldest_snd, List.filter_eq_nil_iff.mpr (fun it hit => by simp [h it hit]), List.take_nil]
  obtain ⟨hp, hs, _⟩ := removeOldest_partition n l
  rw [h2, List.append_nil] at hp
  exact Prod.ext (hs.eq_of_length hp.length_eq) h2

theorem removeOldest_eq_spec (cfg : ChunkCfg) (c : Chunk) (h : ChunkInv cfg c) (n : Nat) :
    removeOldest n c.items = specRemoveOldest c.immuneKeys n c.items := by
  have hf := h.flags
  generalize c.items = l at hf
  induction l generalizing n with
  | nil => cases n <;> rfl
  | cons a rest ih =>
    cases n with
    | zero => rfl
    | succ n =>
      simp only [removeOldest, specRemoveOldest, hf a List.mem_cons_self,
        ih _ (fun it hit => hf it (List.mem_cons_of_mem _ hit))]

/-! ### sums of sizes -/

def sumSz (l : List Item) : Int := (l.map (·.size)).foldl (· + ·) 0

theorem sumSz_eq_sum (l : List Item) : sumSz l = (l.map (·.size)).sum := List.sum_eq_foldl.symm

theorem sumSz_nil : sumSz [] = 0 := rfl

theorem sumSz_cons (a : Item) (l : List Item) : sumSz (a :: l) = a.size + sumSz l := by
  simp only [sumSz_eq_sum, List.map_cons, List.sum_cons]

theorem sumSz_append (l₁ l₂ : List Item) : sumSz (l₁ ++ l₂) = sumSz l₁ + sumSz l₂ := by
  simp only [sumSz_eq_sum, List.map_append, List.sum_append_int]

theorem sumSz_perm {l₁ l₂ : List Item} (h : l₁.Perm l₂) : sumSz l₁ = sumSz l₂ :=
  (h.map _).foldl_eq' (fun x _ y _ z => Int.add_right_comm z x y) 0

theorem sumSz_nonneg (l : List Item) (h : ∀ it ∈ l, 0 ≤ it.size) : 0 ≤ sumSz l := by
  induction l with
  | nil => exact Int.le_refl 0
  | cons a l ih =>
    rw [sumSz_cons]
    exact Int.add_nonneg (h a List.mem_cons_self) (ih (fun it hit => h it (List.mem_cons_of_mem _ hit)))

theorem subBytes_eq (b : Int) (rem : List Item) (hs : ∀ it ∈ rem, 0 ≤ it.size) (hb : sumSz rem ≤ b) :
    subBytes b rem = b - sumSz rem := by
  induction rem generalizing b with
  | nil => exact (Int.sub_zero b).symm
  | cons a rest ih =>
    have hrn := sumSz_nonneg rest (fun it hit => hs it (List.mem_cons_of_mem _ hit))
    rw [sumSz_cons] at hb ⊢
    have h2 : sumSz rest ≤ b - a.size := Int.le_sub_left_of_add_le hb
    show subBytes (max (b - a.size) 0) rest = _
    rw [Int.max_eq_left (Int.le_trans hrn h2), ih _ (fun it hit => hs it (List.mem_cons_of_mem _ hit)) h2, Int.sub_sub]

theorem sumSz_filter_key (l : List Item) (it : Item) (hnd : (l.map (·.key)).Nodup) (hit : it ∈ l) :
    sumSz l = sumSz (l.filter (·.key != it.key)) + it.size := by
  rw [← sumSz_perm (List.filter_append_perm (·.key == it.key) l), sumSz_append, PtrList.filter_attr_eq_of_mem Item.key hnd hit,
    sumSz_cons, sumSz_nil, Int.add_zero, Int.add_comm]
  rfl

/-! ### eviction -/

theorem exceeded_eq_false_iff {cfg : ChunkCfg} {c : Chunk} :
    c.exceeded cfg = false ↔ c.items.length < cfg.maxNumItems ∧ c.numBytes < (cfg.maxNumBytes : Int) := by
  rw [Chunk.exceeded, Bool.or_eq_false_iff, decide_eq_false_iff_not, decide_eq_false_iff_not, Nat.not_le, Int.not_le]

theorem removeOldestStep_items (c : Chunk) (n : Nat) :
    (c.removeOldestStep n).1.items = (removeOldest n c.items).1 := rfl

theorem removeOldestStep_numBytes (c : Chunk) (n : Nat) :
    (c.removeOldestStep n).1.numBytes = subBytes c.numBytes (removeOldest n c.items).2 := rfl

theorem removeOldestStep_snd (c : Chunk) (n : Nat) :
    (c.removeOldestStep n).2 = (removeOldest n c.items).2.length := rfl

theorem removeOldestStep_sublist (c : Chunk) (n : Nat) : (c.removeOldestStep n).1.items.Sublist c.items :=
  (removeOldest_partition n c.items).2.1

theorem removeOldestStep_length (c : Chunk) (n : Nat) :
    (c.removeOldestStep n).1.items.length + (c.removeOldestStep n).2 = c.items.length := by
  rw [removeOldestStep_items, removeOldestStep_snd, ← List.length_append]
  exact (removeOldest_partition n c.items).1.length_eq

theorem evictMore_succ (cfg : ChunkCfg) (f : Nat) (c : Chunk) (r : Nat) :
    evictMore cfg (f + 1) c r =
      if r = cfg.numToEvict ∧ c.exceeded cfg = true then
        evictMore cfg f (c.removeOldestStep cfg.numToEvict).1 (c.removeOldestStep cfg.numToEvict).2
      else c :=
  ite_congr (by rw [Bool.and_eq_true, beq_iff_eq, and_comm]) (fun _ => rfl) (fun _ => rfl)

theorem evictIfNeeded_of_not_exceeded {cfg : ChunkCfg} {c : Chunk} (h : c.exceeded cfg = false) :
    c.evictIfNeeded cfg = some c := by
  unfold Chunk.evictIfNeeded; rw [h]; rfl

theorem evictIfNeeded_of_exceeded {cfg : ChunkCfg} {c : Chunk} (h : c.exceeded cfg = true) :
    c.evictIfNeeded cfg =
      if (c.removeOldestStep cfg.numToEvict).2 = 0 then none
      else some (evictMore cfg (c.items.length + 1) (c.removeOldestStep cfg.numToEvict).1
        (c.removeOldestStep cfg.numToEvict).2) := by
  unfold Chunk.evictIfNeeded; rw [if_pos h]

theorem evictMore_pres (P : Chunk → Prop) (hP : ∀ c n, P c → P (c.removeOldestStep n).1)
    (cfg : ChunkCfg) (fuel : Nat) (c : Chunk) (r : Nat) (h : P c) : P (evictMore cfg fuel c r) := by
  induction fuel generalizing c r with
  | zero => exact h
  | succ fuel ih =>
    rw [evictMore_succ]
    split
    · exact ih _ _ (hP c cfg.numToEvict h)
    · exact h

theorem evictIfNeeded_pres (P : Chunk → Prop) (hP : ∀ c n, P c → P (c.removeOldestStep n).1)
    (cfg : ChunkCfg) (c c' : Chunk) (h : P c) (he : c.evictIfNeeded cfg = some c') : P c' := by
  cases hex : c.exceeded cfg with
  | false => rw [evictIfNeeded_of_not_exceeded hex] at he; cases he; exact h
  | true =>
    rw [evictIfNeeded_of_exceeded hex] at he
    split at he
    · cases he
    · cases he; exact evictMore_pres P hP cfg _ _ _ (hP c cfg.numToEvict h)

theorem evictIfNeeded_immuneKeys (cfg : ChunkCfg) (c c' : Chunk) (he : c.evictIfNeeded cfg = some c') :
    c'.immuneKeys = c.immuneKeys :=
  evictIfNeeded_pres (fun x => x.immuneKeys = c.immuneKeys) (fun _ _ h => h) cfg c c' rfl he

theorem evictIfNeeded_sublist (cfg : ChunkCfg) (c c' : Chunk) (he : c.evictIfNeeded cfg = some c') :
    c'.items.Sublist c.items :=
  evictIfNeeded_pres (fun x => x.items.Sublist c.items)
    (fun x n h => (removeOldestStep_sublist x n).trans h) cfg c c' (List.Sublist.refl _) he

theorem evictIfNeeded_keeps_immune (cfg : ChunkCfg) (c c' : Chunk) (he : c.evictIfNeeded cfg = some c') :
    ∀ it ∈ c.items, it.immune = true → it ∈ c'.items :=
  evictIfNeeded_pres (fun x => ∀ it ∈ c.items, it.immune = true → it ∈ x.items)
    (fun x n h it hit himm => (removeOldest_keeps_immune n x.items).2 it (h it hit himm) himm) cfg c c'
    (fun _ hit _ => hit) he

theorem evictIfNeeded_length (cfg : ChunkCfg) (c c' : Chunk) (he : c.evictIfNeeded cfg = some c') :
    c'.items.length ≤ c.items.length ∧ (c.exceeded cfg = true → c'.items.length < c.items.length) := by
  refine ⟨(evictIfNeeded_sublist cfg c c' he).length_le, fun hex => ?_⟩
  rw [evictIfNeeded_of_exceeded hex] at he
  split at he
  · cases he
  · rename_i hr
    cases he
    have := evictMore_pres (fun x => x.items.length ≤ (c.removeOldestStep cfg.numToEvict).1.items.length)
      (fun x n h => Nat.le_trans (removeOldestStep_sublist x n).length_le h) cfg (c.items.length + 1) _
      (c.removeOldestStep cfg.numToEvict).2 (Nat.le_refl _)
    exact Nat.lt_of_le_of_lt this
      (removeOldestStep_length c cfg.numToEvict ▸ Nat.lt_add_of_pos_right (Nat.pos_of_ne_zero hr))

theorem evictIfNeeded_room (cfg : ChunkCfg) (c c' : Chunk) (he : c.evictIfNeeded cfg = some c')
    (hb : c.items.length ≤ cfg.maxNumItems) : c'.items.length < cfg.maxNumItems := by
  have hlen := evictIfNeeded_length cfg c c' he
  cases hex : c.exceeded cfg with
  | true => exact Nat.lt_of_lt_of_le (hlen.2 hex) hb
  | false => exact Nat.lt_of_le_of_lt hlen.1 (exceeded_eq_false_iff.mp hex).1

/-- the `sizes` and `bytes` clauses of `ChunkInv`: all that an eviction step needs to keep the counter true -/
def BInv (c : Chunk) : Prop := (∀ it ∈ c.items, 0 ≤ it.size) ∧ c.numBytes = sumSz c.items

theorem removeOldestStep_BInv (c : Chunk) (n : Nat) (h : BInv c) : BInv (c.removeOldestStep n).1 := by
  obtain ⟨hs, hb⟩ := h
  have hperm := (removeOldest_partition n c.items).1
  have hsum := sumSz_perm hperm
  rw [sumSz_append] at hsum
  have hkeep : ∀ it ∈ (removeOldest n c.items).1, 0 ≤ it.size := fun it hit =>
    hs it (hperm.subset (List.mem_append_left _ hit))
  have hk0 := sumSz_nonneg _ hkeep
  refine ⟨hkeep, ?_⟩
  rw [removeOldestStep_numBytes, removeOldestStep_items, hb, ← hsum,
    subBytes_eq _ _ (fun it hit => hs it (hperm.subset (List.mem_append_right _ hit))) (Int.le_add_of_nonneg_left hk0),
    Int.add_sub_cancel]

theorem has_eq_true_iff (c : Chunk) (k : Bytes) : c.has k = true ↔ ∃ it ∈ c.items, it.key = k := by
  simp [Chunk.has, List.any_eq_true]

theorem has_eq_false_iff (c : Chunk) (k : Bytes) : c.has k = false ↔ ∀ it ∈ c.items, it.key ≠ k := by
  rw [← Bool.not_eq_true, has_eq_true_iff]
  exact ⟨fun h it hit e => h ⟨it, hit, e⟩, fun h ⟨it, hit, e⟩ => h it hit e⟩

theorem get_some_mem (c : Chunk) (k : Bytes) (it : Item) (h : c.get k = some it) : it ∈ c.items ∧ it.key = k :=
  ⟨List.mem_of_find?_eq_some h, by simpa using List.find?_some h⟩

theorem get_none (c : Chunk) (k : Bytes) (h : c.get k = none) : ∀ it ∈ c.items, it.key ≠ k := by
  intro it hit
  simpa using (List.find?_eq_none.mp h) it hit

/-! ### what the three operations do to the fields of a chunk -/

theorem chunk_ext {a b : Chunk} (h1 : a.items = b.items) (h2 : a.immuneKeys = b.immuneKeys)
    (h3 : a.numBytes = b.numBytes) : a = b := by
  cases a; cases b
  cases h1; cases h2; cases h3
  rfl

theorem addItem_cases (cfg : ChunkCfg) (c : Chunk) (k p : Bytes) (size : Int) :
    (c.has k = true ∧ c.addItem Variant.current cfg k p size = (c, true, false)) ∨
    (c.has k = false ∧ c.evictIfNeeded cfg = none ∧ c.addItem Variant.current cfg k p size = (c, false, false)) ∨
    (c.has k = false ∧ ∃ c', c.evictIfNeeded cfg = some c' ∧
      c.addItem Variant.current cfg k p size =
        ({ c' with items := c'.items ++ [⟨k, p, size, c'.immuneKeys.contains k⟩],
                   numBytes := c'.numBytes + size }, false, true)) := by
  unfold Chunk.addItem
  rw [if_neg (by decide : ¬ Variant.current.evictBeforeDupCheck = true)]
  cases hk : c.has k with
  | true => exact Or.inl ⟨rfl, rfl⟩
  | false =>
    cases he : c.evictIfNeeded cfg with
    | none => exact Or.inr (Or.inl ⟨rfl, rfl, rfl⟩)
    | some c' => exact Or.inr (Or.inr ⟨rfl, c', rfl, rfl⟩)

theorem removeItem_items (c : Chunk) (k : Bytes) : (c.removeItem k).1.items = c.items.filter (·.key != k) := by
  unfold Chunk.removeItem
  split
  · rename_i hg
    exact (List.filter_eq_self.mpr (fun it hit => by simpa using get_none c k hg it hit)).symm
  · rfl

theorem removeItem_immuneKeys (c : Chunk) (k : Bytes) :
    (c.removeItem k).1.immuneKeys = c.immuneKeys.filter (· != k) := by
  unfold Chunk.removeItem; split <;> rfl

theorem removeItem_numBytes (c : Chunk) (k : Bytes) :
    (c.removeItem k).1.numBytes = match c.get k with
      | none => c.numBytes
      | some it => max (c.numBytes - it.size) 0 := by
  unfold Chunk.removeItem; cases c.get k <;> rfl

theorem immunizeKey_items_map {β : Type} (c : Chunk) (k : Bytes) (f : Item → β)
    (hf : ∀ it, f { it with immune := true } = f it) : (c.immunizeKey k).1.items.map f = c.items.map f := by
  show (c.items.map _).map f = _
  rw [List.map_map]
  apply List.map_congr_left
  intro it _
  show f (if it.key == k then _ else it) = f it
  split
  · exact hf it
  · rfl

theorem mem_immunizeKey_items {c : Chunk} {k : Bytes} {it : Item} (hit : it ∈ c.items) :
    (if it.key == k then { it with immune := true } else it) ∈ (c.immunizeKey k).1.items :=
  List.mem_map.mpr ⟨it, hit, rfl⟩

theorem immunizeKey_immuneKeys_mem (c : Chunk) (k x : Bytes) :
    x ∈ (c.immunizeKey k).1.immuneKeys ↔ x ∈ c.immuneKeys ∨ x = k := by
  show x ∈ (if c.immuneKeys.contains k then c.immuneKeys else c.immuneKeys ++ [k]) ↔ _
  split
  · rename_i hc
    exact ⟨Or.inl, fun h => h.elim id (fun e => e ▸ List.contains_iff_mem.mp hc)⟩
  · rw [List.mem_append, List.mem_singleton]

/-! ### invariant preservation -/

theorem ChunkInv.empty (cfg : ChunkCfg) : ChunkInv cfg Chunk.empty := by
  constructor <;> simp [Chunk.empty]

theorem ChunkInv.binv {cfg : ChunkCfg} {c : Chunk} (h : ChunkInv cfg c) : BInv c := ⟨h.sizes, h.bytes⟩

theorem ChunkInv.removeOldestStep {cfg : ChunkCfg} {c : Chunk} (h : ChunkInv cfg c) (n : Nat) :
    ChunkInv cfg (c.removeOldestStep n).1 :=
  have hsub := removeOldestStep_sublist c n
  have hb := removeOldestStep_BInv c n h.binv
  { keysNodup := h.keysNodup.sublist (hsub.map _), immuneNodup := h.immuneNodup,
    flags := fun it hit => h.flags it (hsub.subset hit), sizes := hb.1, bytes := hb.2,
    bound := Nat.le_trans hsub.length_le h.bound }

theorem ChunkInv.evictIfNeeded {cfg : ChunkCfg} {c c' : Chunk} (h : ChunkInv cfg c)
    (he : c.evictIfNeeded cfg = some c') : ChunkInv cfg c' :=
  evictIfNeeded_pres (ChunkInv cfg) (fun _ n hx => hx.removeOldestStep n) cfg c c' h he

theorem ChunkInv.push {cfg : ChunkCfg} {c : Chunk} (h : ChunkInv cfg c) (k p : Bytes) {size : Int} (hs : 0 ≤ size)
    (hk : c.has k = false) (hlen : c.items.length < cfg.maxNumItems) :
    ChunkInv cfg { c with items := c.items ++ [⟨k, p, size, c.immuneKeys.contains k⟩], numBytes := c.numBytes + size } := by
  constructor
  · show (List.map (fun it : Item => it.key) (c.items ++ [_])).Nodup
    rw [List.map_append, List.map_singleton, (List.perm_append_singleton _ _).nodup_iff, List.nodup_cons]
    refine ⟨fun hm => ?_, h.keysNodup⟩
    obtain ⟨it, hit, e⟩ := List.mem_map.mp hm
    exact (has_eq_false_iff c k).mp hk it hit e
  · exact h.immuneNodup
  · intro it hit
    rcases List.mem_append.mp hit with hi | hi
    · exact h.flags it hi
    · rw [List.mem_singleton.mp hi]
  · intro it hit
    rcases List.mem_append.mp hit with hi | hi
    · exact h.sizes it hi
    · rw [List.mem_singleton.mp hi]; exact hs
  · show c.numBytes + size = sumSz (c.items ++ [_])
    rw [sumSz_append, sumSz_cons, sumSz_nil, ← h.binv.2, Int.add_zero]
  · show (c.items ++ [_]).length ≤ _
    rw [List.length_append]; exact hlen

/-- needs no `1 ≤ maxNumItems`: a chunk of capacity 0 is empty and refuses every add -/
theorem ChunkInv.addItem (cfg : ChunkCfg) (c : Chunk) (k p : Bytes) (size : Int) (h : ChunkInv cfg c) (hs : 0 ≤ size) :
    ChunkInv cfg (c.addItem Variant.current cfg k p size).1 := by
  rcases addItem_cases cfg c k p size with ⟨_, e⟩ | ⟨_, _, e⟩ | ⟨hk, c', he, e⟩
  · rw [e]; exact h
  · rw [e]; exact h
  · rw [e]
    have hsub := evictIfNeeded_sublist cfg c c' he
    exact (h.evictIfNeeded he).push k p hs
      ((has_eq_false_iff c' k).mpr fun it hit => (has_eq_false_iff c k).mp hk it (hsub.subset hit))
      (evictIfNeeded_room cfg c c' he h.bound)

theorem contains_filter_ne (l : List Bytes) (k x : Bytes) (h : x ≠ k) :
    (l.filter (· != k)).contains x = l.contains x := by
  rw [Bool.eq_iff_iff]
  simp only [List.contains_iff_mem, List.mem_filter, bne_iff_ne, ne_eq]
  exact ⟨fun h' => h'.1, fun h' => ⟨h', h⟩⟩

theorem ChunkInv.removeItem (cfg : ChunkCfg) (c : Chunk) (k : Bytes) (h : ChunkInv cfg c) : ChunkInv cfg (c.removeItem k).1 := by
  have hsub : (c.removeItem k).1.items.Sublist c.items := removeItem_items c k ▸ List.filter_sublist
  have hsz : ∀ it ∈ (c.removeItem k).1.items, 0 ≤ it.size := fun it hit => h.sizes it (hsub.subset hit)
  constructor
  · exact h.keysNodup.sublist (hsub.map _)
  · rw [removeItem_immuneKeys]; exact h.immuneNodup.sublist List.filter_sublist
  · intro it hit
    rw [removeItem_items, List.mem_filter] at hit
    rw [removeItem_immuneKeys, contains_filter_ne _ _ _ (by simpa using hit.2)]
    exact h.flags it hit.1
  · exact hsz
  · show (c.removeItem k).1.numBytes = sumSz (c.removeItem k).1.items
    rw [removeItem_numBytes, removeItem_items]
    cases hg : c.get k with
    | none =>
      rw [List.filter_eq_self.mpr (fun it hit => by simpa using get_none c k hg it hit)]
      exact h.bytes
    | some it =>
      obtain ⟨hit, rfl⟩ := get_some_mem c _ it hg
      have h2 := sumSz_nonneg _ hsz
      rw [removeItem_items] at h2
      show max (c.numBytes - it.size) 0 = _
      rw [h.binv.2, sumSz_filter_key c.items it h.keysNodup hit, Int.add_sub_cancel, Int.max_eq_left h2]
  · exact Nat.le_trans hsub.length_le h.bound

theorem ChunkInv.immunizeKey (cfg : ChunkCfg) (c : Chunk) (k : Bytes) (h : ChunkInv cfg c) : ChunkInv cfg (c.immunizeKey k).1 := by
  constructor
  · rw [immunizeKey_items_map c k Item.key (fun _ => rfl)]; exact h.keysNodup
  · show (if c.immuneKeys.contains k then c.immuneKeys else c.immuneKeys ++ [k]).Nodup
    by_cases hc : c.immuneKeys.contains k = true
    · rw [if_pos hc]; exact h.immuneNodup
    · rw [if_neg hc, (List.perm_append_singleton _ _).nodup_iff, List.nodup_cons]
      exact ⟨fun hm => hc (List.contains_iff_mem.mpr hm), h.immuneNodup⟩
  · intro x hx
    obtain ⟨it, hit, rfl⟩ := List.mem_map.mp hx
    by_cases hk : it.key = k
    · rw [if_pos (by simpa using hk)]
      exact (List.contains_iff_mem.mpr ((immunizeKey_immuneKeys_mem c k _).mpr (Or.inr hk))).symm
    · rw [if_neg (by simpa using hk), h.flags it hit, Bool.eq_iff_iff, List.contains_iff_mem, List.contains_iff_mem,
        immunizeKey_immuneKeys_mem]
      exact ⟨Or.inl, fun h' => h'.resolve_right hk⟩
  · intro x hx
    obtain ⟨it, hit, rfl⟩ := List.mem_map.mp hx
    have := h.sizes it hit
    split <;> exact this
  · rw [immunizeKey_items_map c k Item.size (fun _ => rfl)]; exact h.bytes
  · show (c.items.map _).length ≤ cfg.maxNumItems
    rw [List.length_map]; exact h.bound

/-- the key an operation acts on (the cache routes an operation to a chunk by it) -/
def COp.key : COp → Bytes
  | .add k _ _ => k
  | .rm k => k
  | .imm k => k

/-- sizes passed to `add` are non-negative.  A hypothesis about the caller: `ImmunityCache.HasOrAdd` takes
    `sizeInBytes int` and nothing in the code rejects a negative one (crossTxCache passes `int(tx.Size)`) -/
def COp.sizeOk : COp → Prop
  | .add _ _ s => 0 ≤ s
  | _ => True

theorem ChunkInv.apply (cfg : ChunkCfg) (c : Chunk) (op : COp) (hw : op.sizeOk) (h : ChunkInv cfg c) :
    ChunkInv cfg (c.apply cfg op) := by
  cases op with
  | add k p s => exact ChunkInv.addItem cfg c k p s h hw
  | rm k => exact ChunkInv.removeItem cfg c k h
  | imm k => exact ChunkInv.immunizeKey cfg c k h

theorem ChunkInv.foldl (cfg : ChunkCfg) (c : Chunk) (ops : List COp) (hw : ∀ op ∈ ops, op.sizeOk) (h : ChunkInv cfg c) :
    ChunkInv cfg (ops.foldl (Chunk.apply cfg) c) :=
  List.foldlRecOn ops (Chunk.apply cfg) h (fun c hc op hop => ChunkInv.apply cfg c op (hw op hop) hc)

/-- C13: reachable chunks satisfy the invariant, in particular hold at most maxNumItems items and NumBytes = Σ sizes -/
theorem ChunkInv.run (cfg : ChunkCfg) (ops : List COp) (hw : ∀ op ∈ ops, op.sizeOk) :
    ChunkInv cfg (ops.foldl (Chunk.apply cfg) Chunk.empty) :=
  ChunkInv.foldl cfg Chunk.empty ops hw (ChunkInv.empty cfg)

/-! ### C12 / C13 on addItem -/

/-- C12: an add evicts only non-immune items: every immune resident stays, as the very same item (same payload) -/
theorem addItem_keeps_immune (cfg : ChunkCfg) (c : Chunk) (k p : Bytes) (size : Int) :
    ∀ it ∈ c.items, it.immune = true → it ∈ (c.addItem Variant.current cfg k p size).1.items := by
  intro it hit himm
  rcases addItem_cases cfg c k p size with ⟨_, e⟩ | ⟨_, _, e⟩ | ⟨hk, c', he, e⟩
  · rw [e]; exact hit
  · rw [e]; exact hit
  · rw [e]
    exact List.mem_append_left _ (evictIfNeeded_keeps_immune cfg c c' he it hit himm)

/-- C12: adds never overwrite the payload of a key that is already present; has=true exactly then -/
theorem addItem_present (cfg : ChunkCfg) (c : Chunk) (k p : Bytes) (size : Int) (hk : c.has k = true) :
    c.addItem Variant.current cfg k p size = (c, true, false) := by
  rcases addItem_cases cfg c k p size with ⟨_, e⟩ | ⟨hk', _, _⟩ | ⟨hk', _⟩
  · exact e
  · rw [hk] at hk'; cases hk'
  · rw [hk] at hk'; cases hk'

/-- C12: a refused add leaves the chunk unchanged -/
theorem addItem_refused (cfg : ChunkCfg) (c : Chunk) (k p : Bytes) (size : Int) (c' : Chunk)
    (h : c.addItem Variant.current cfg k p size = (c', false, false)) : c' = c := by
  rcases addItem_cases cfg c k p size with ⟨_, e⟩ | ⟨_, _, e⟩ | ⟨hk, c'', he, e⟩
  · rw [e] at h; cases h
  · rw [e] at h; cases h; rfl
  · rw [e] at h; cases h

/-- C12: if every resident is immune and capacity is reached, the add is refused -/
theorem addItem_all_immune_refused (cfg : ChunkCfg) (c : Chunk) (k p : Bytes) (size : Int)
    (hall : ∀ it ∈ c.items, it.immune = true) (hex : c.exceeded cfg = true) (hk : c.has k = false) :
    c.addItem Variant.current cfg k p size = (c, false, false) := by
  have he : c.evictIfNeeded cfg = none := by
    rw [evictIfNeeded_of_exceeded hex, removeOldestStep_snd, removeOldest_all_immune _ _ hall]; rfl
  rcases addItem_cases cfg c k p size with ⟨hk', _⟩ | ⟨_, _, e⟩ | ⟨_, c', he', _⟩
  · rw [hk] at hk'; cases hk'
  · exact e
  · rw [he] at he'; cases he'

/-- C13: flags are truthful: has ⇔ was present; added ⇔ became present -/
theorem addItem_flags (cfg : ChunkCfg) (c : Chunk) (k p : Bytes) (size : Int) :
    let r := c.addItem Variant.current cfg k p size
    r.2.1 = c.has k ∧ (r.2.2 = true ↔ (c.has k = false ∧ r.1.has k = true)) ∧
    (r.2.2 = true → ∃ it ∈ r.1.items, it.key = k ∧ it.payload = p ∧ it.size = size) := by
  intro r
  rcases addItem_cases cfg c k p size with ⟨hk, e⟩ | ⟨hk, _, e⟩ | ⟨hk, c', he, e⟩
  · rw [show r = _ from e]
    exact ⟨hk.symm, ⟨fun h => (Bool.false_ne_true h).elim, fun h => by rw [hk] at h; cases h.1⟩,
      fun h => (Bool.false_ne_true h).elim⟩
  · rw [show r = _ from e]
    exact ⟨hk.symm, ⟨fun h => (Bool.false_ne_true h).elim, fun h => by rw [hk] at h; cases h.2⟩,
      fun h => (Bool.false_ne_true h).elim⟩
  · rw [show r = _ from e]
    have hmem : (⟨k, p, size, c'.immuneKeys.contains k⟩ : Item) ∈ c'.items ++ [⟨k, p, size, c'.immuneKeys.contains k⟩] :=
      List.mem_append_right _ List.mem_cons_self
    exact ⟨hk.symm, ⟨fun _ => ⟨hk, (has_eq_true_iff _ k).mpr ⟨_, hmem, rfl⟩⟩, fun _ => rfl⟩,
      fun _ => ⟨_, hmem, rfl, rfl, rfl⟩⟩

/-! ### protection -/

theorem addItem_immuneKeys (cfg : ChunkCfg) (c : Chunk) (k p : Bytes) (size : Int) :
    (c.addItem Variant.current cfg k p size).1.immuneKeys = c.immuneKeys := by
  rcases addItem_cases cfg c k p size with ⟨_, e⟩ | ⟨_, _, e⟩ | ⟨hk, c', he, e⟩
  · rw [e]
  · rw [e]
  · rw [e]; exact evictIfNeeded_immuneKeys cfg c c' he

/-- C12: protection is preserved by every operation except removing that key -/
theorem Protected.step (cfg : ChunkCfg) (c : Chunk) (k p : Bytes) (op : COp) (h : Protected c k p)
    (hop : op ≠ COp.rm k) : Protected (c.apply cfg op) k p := by
  obtain ⟨hk, it, hit, hkey, hpay, himm⟩ := h
  cases op with
  | add k' p' s =>
    exact ⟨(addItem_immuneKeys cfg c k' p' s).symm ▸ hk, it, addItem_keeps_immune cfg c k' p' s it hit himm,
      hkey, hpay, himm⟩
  | rm k' =>
    have hne : k ≠ k' := fun e => hop (e ▸ rfl)
    refine ⟨?_, it, ?_, hkey, hpay, himm⟩
    · show k ∈ (c.removeItem k').1.immuneKeys
      rw [removeItem_immuneKeys, List.mem_filter]; exact ⟨hk, bne_iff_ne.mpr hne⟩
    · show it ∈ (c.removeItem k').1.items
      rw [removeItem_items, List.mem_filter]; exact ⟨hit, bne_iff_ne.mpr (hkey ▸ hne)⟩
  | imm k' =>
    refine ⟨(immunizeKey_immuneKeys_mem c k' k).mpr (Or.inl hk), _, mem_immunizeKey_items hit, ?_, ?_, ?_⟩
    · split <;> exact hkey
    · split <;> exact hpay
    · split
      · rfl
      · exact himm

theorem Protected.run (cfg : ChunkCfg) (c : Chunk) (k p : Bytes) (ops : List COp) (h : Protected c k p)
    (hop : COp.rm k ∉ ops) : Protected (ops.foldl (Chunk.apply cfg) c) k p :=
  List.foldlRecOn ops (Chunk.apply cfg) h (fun c hc op hmem => Protected.step cfg c k p op hc (fun e => hop (e ▸ hmem)))

/-- C12: protection starts when an immune key is added, or a resident key is immunized -/
theorem Protected.of_add (cfg : ChunkCfg) (c : Chunk) (k p : Bytes) (size : Int)
    (hk : k ∈ c.immuneKeys) (ha : (c.addItem Variant.current cfg k p size).2.2 = true) :
    Protected (c.addItem Variant.current cfg k p size).1 k p := by
  rcases addItem_cases cfg c k p size with ⟨_, e⟩ | ⟨_, _, e⟩ | ⟨hk', c', he, e⟩
  · rw [e] at ha; cases ha
  · rw [e] at ha; cases ha
  · rw [e]
    have hk'' : k ∈ c'.immuneKeys := evictIfNeeded_immuneKeys cfg c c' he ▸ hk
    exact ⟨hk'', _, List.mem_append_right _ List.mem_cons_self, rfl, rfl, List.contains_iff_mem.mpr hk''⟩

theorem Protected.of_immunize (c : Chunk) (k : Bytes) (it : Item) (hit : it ∈ c.items) (hk : it.key = k) : Protected (c.immunizeKey k).1 k it.payload := by
  refine ⟨(immunizeKey_immuneKeys_mem c k k).mpr (Or.inr rfl), _, mem_immunizeKey_items (k := k) hit, ?_⟩
  rw [if_pos (by simpa using hk)]
  exact ⟨hk, rfl, rfl⟩

/-- C13: Remove withdraws current or future immunity -/
theorem removeItem_withdraws (c : Chunk) (k : Bytes) : k ∉ (c.removeItem k).1.immuneKeys ∧ (c.removeItem k).1.has k = false := by
  rw [removeItem_immuneKeys, has_eq_false_iff, removeItem_items]
  exact ⟨fun h => by simpa using (List.mem_filter.mp h).2, fun x hx => by simpa using (List.mem_filter.mp hx).2⟩

/-- the legacy order (evict, then look for a duplicate) overwrites a resident key: concrete counter-example -/
theorem legacy_overwrite_counterexample : ∃ (cfg : ChunkCfg) (c : Chunk) (k p : Bytes),
    c.has k = true ∧ (c.addItem Variant.legacy cfg k p 1).2 = (false, true) ∧
    ((c.addItem Variant.legacy cfg k p 1).1.get k).map (·.payload) ≠ (c.get k).map (·.payload) :=
  ⟨⟨2, 100, 1⟩, ⟨[⟨[1], [0xaa], 1, false⟩, ⟨[2], [0xaa], 1, false⟩], [], 2⟩, [1], [0xbb], by decide +kernel⟩

end SV.Immunity
