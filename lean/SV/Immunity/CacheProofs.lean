/-
  SV.Immunity.CacheProofs — the immunity-cache theorems lifted from one chunk to the whole cache,
  for any number of chunks (properties C12, C13).

  The chunk-level results live in `SV.Immunity.Proofs`; here the cache = config + list of chunks routed by
  `fnv32 key % numChunks` is treated: invariant `CacheInv` (with ROUTING), capacity bound, agreement of the
  views (Get / items / Count / NumBytes / CountImmune), truthful HasOrAdd flags, the protection property
  `CProtected` along arbitrary cache-level histories, refusals change nothing.
-/
import SV.Immunity.Proofs
namespace SV.Immunity

/-! ### chunk-level complements -/

theorem ChunkInv.get_of_mem {cfg : ChunkCfg} {c : Chunk} (h : ChunkInv cfg c) {it : Item} (hit : it ∈ c.items) :
    c.get it.key = some it :=
  PtrList.find?_attr_of_mem Item.key h.keysNodup hit

theorem has_eq_isSome (c : Chunk) (k : Bytes) : c.has k = (c.get k).isSome := by
  rw [Bool.eq_iff_iff, has_eq_true_iff, Chunk.get, List.find?_isSome]
  simp

theorem apply_item_keys (cfg : ChunkCfg) (c : Chunk) (op : COp) :
    ∀ it ∈ (c.apply cfg op).items, it.key = op.key ∨ ∃ it' ∈ c.items, it'.key = it.key := by
  intro it hit
  cases op with
  | add k p s =>
    change it ∈ (c.addItem Variant.current cfg k p s).1.items at hit
    rcases addItem_cases cfg c k p s with ⟨_, e⟩ | ⟨_, _, e⟩ | ⟨_, c', he, e⟩
    · rw [e] at hit; exact Or.inr ⟨it, hit, rfl⟩
    · rw [e] at hit; exact Or.inr ⟨it, hit, rfl⟩
    · rw [e] at hit
      rcases List.mem_append.mp hit with hi | hi
      · exact Or.inr ⟨it, (evictIfNeeded_sublist cfg c c' he).subset hi, rfl⟩
      · left; rw [List.mem_singleton.mp hi]; rfl
  | rm k =>
    change it ∈ (c.removeItem k).1.items at hit
    rw [removeItem_items] at hit
    exact Or.inr ⟨it, (List.mem_filter.mp hit).1, rfl⟩
  | imm k =>
    obtain ⟨it', hit', rfl⟩ := List.mem_map.mp hit
    exact Or.inr ⟨it', hit', by split <;> rfl⟩

theorem mem_apply_immuneKeys (cfg : ChunkCfg) (c : Chunk) (op : COp) (x : Bytes) :
    x ∈ (c.apply cfg op).immuneKeys ↔
      match op with
      | .add _ _ _ => x ∈ c.immuneKeys
      | .rm k => x ∈ c.immuneKeys ∧ x ≠ k
      | .imm k => x ∈ c.immuneKeys ∨ x = k := by
  cases op with
  | add k p s => exact addItem_immuneKeys cfg c k p s ▸ Iff.rfl
  | rm k =>
    show x ∈ (c.removeItem k).1.immuneKeys ↔ _
    rw [removeItem_immuneKeys, List.mem_filter, bne_iff_ne]
  | imm k => exact immunizeKey_immuneKeys_mem c k x

theorem apply_immune_keys (cfg : ChunkCfg) (c : Chunk) (op : COp) :
    ∀ x ∈ (c.apply cfg op).immuneKeys, x = op.key ∨ x ∈ c.immuneKeys := by
  intro x hx
  have := (mem_apply_immuneKeys cfg c op x).mp hx
  cases op with
  | add k p s => exact Or.inr this
  | rm k => exact Or.inr this.1
  | imm k => exact this.symm

theorem get_push (c : Chunk) (it : Item) (nb : Int) (k : Bytes) :
    ({ c with items := c.items ++ [it], numBytes := nb } : Chunk).get k
      = (c.get k).or (if it.key == k then some it else none) := by
  show (c.items ++ [it]).find? _ = _
  rw [List.find?_append, List.find?_singleton]; rfl

theorem addItem_added_get (cfg : ChunkCfg) (c : Chunk) (k p : Bytes) (size : Int)
    (ha : (c.addItem Variant.current cfg k p size).2.2 = true) :
    (c.addItem Variant.current cfg k p size).1.get k = some ⟨k, p, size, c.immuneKeys.contains k⟩ := by
  rcases addItem_cases cfg c k p size with ⟨_, e⟩ | ⟨_, _, e⟩ | ⟨hk, c', he, e⟩
  · rw [e] at ha; cases ha
  · rw [e] at ha; cases ha
  · have hnone : c'.get k = none := by
      cases hg : c'.get k with
      | none => rfl
      | some it =>
        obtain ⟨hit, hkey⟩ := get_some_mem c' k it hg
        exact absurd hkey ((has_eq_false_iff c k).mp hk it ((evictIfNeeded_sublist cfg c c' he).subset hit))
    rw [e, get_push, hnone, Option.none_or, if_pos (beq_self_eq_true k), evictIfNeeded_immuneKeys cfg c c' he]

theorem addItem_get_other (cfg : ChunkCfg) (c : Chunk) (k p : Bytes) (size : Int) (h : ChunkInv cfg c)
    (k' : Bytes) (hne : k' ≠ k) :
    (c.addItem Variant.current cfg k p size).1.get k' = c.get k' ∨
    ((c.addItem Variant.current cfg k p size).1.get k' = none ∧ ∃ it, c.get k' = some it ∧ it.immune = false) := by
  rcases addItem_cases cfg c k p size with ⟨_, e⟩ | ⟨_, _, e⟩ | ⟨hk, c', he, e⟩
  · rw [e]; exact Or.inl rfl
  · rw [e]; exact Or.inl rfl
  · have hsub := evictIfNeeded_sublist cfg c c' he
    rw [e, get_push, if_neg (fun hb => hne (LawfulBEq.eq_of_beq hb).symm), Option.or_none]
    cases hg' : c'.get k' with
    | some it =>
      obtain ⟨hit, hkey⟩ := get_some_mem c' k' it hg'
      exact Or.inl (hkey ▸ (h.get_of_mem (hsub.subset hit)).symm)
    | none =>
      cases hg : c.get k' with
      | none => exact Or.inl rfl
      | some it =>
        obtain ⟨hit, hkey⟩ := get_some_mem c k' it hg
        refine Or.inr ⟨rfl, it, rfl, ?_⟩
        cases himm : it.immune with
        | false => rfl
        | true => exact absurd hkey (get_none c' k' hg' it (evictIfNeeded_keeps_immune cfg c c' he it hit himm))

theorem immunizeKey_get_payload (c : Chunk) (k' k : Bytes) :
    ((c.immunizeKey k').1.get k).map (·.payload) = (c.get k).map (·.payload) := by
  unfold Chunk.immunizeKey Chunk.get
  dsimp only
  induction c.items with
  | nil => rfl
  | cons a rest ih =>
    rw [List.map_cons, List.find?_cons, List.find?_cons]
    have hkey : (if a.key == k' then { a with immune := true } else a).key = a.key := by split <;> rfl
    have hpay : (if a.key == k' then { a with immune := true } else a).payload = a.payload := by split <;> rfl
    rw [hkey]
    cases a.key == k
    · exact ih
    · exact congrArg some hpay

/-! ### the cache: basic facts about routing and `setChunk` -/

theorem Cache.idx_lt (c : Cache) (hp : 1 ≤ c.cfg.numChunks) (k : Bytes) : c.idx k < c.cfg.numChunks :=
  Nat.mod_lt _ hp

@[simp] theorem Cache.setChunk_cfg (c : Cache) (i : Nat) (ch : Chunk) : (c.setChunk i ch).cfg = c.cfg := rfl
@[simp] theorem Cache.setChunk_idx (c : Cache) (i : Nat) (ch : Chunk) (k : Bytes) : (c.setChunk i ch).idx k = c.idx k := rfl

theorem Cache.setChunk_get? (c : Cache) (i j : Nat) (ch : Chunk) :
    (c.setChunk i ch).chunks[j]? = if i = j then (if i < c.chunks.length then some ch else none) else c.chunks[j]? :=
  List.getElem?_set

theorem Cache.setChunk_chunkOf (c : Cache) (k : Bytes) : c.setChunk (c.idx k) (c.chunkOf k) = c := by
  unfold Cache.setChunk Cache.chunkOf
  by_cases hi : c.idx k < c.chunks.length
  · have : (c.chunks[c.idx k]?).getD Chunk.empty = c.chunks[c.idx k] := by simp [hi]
    rw [this, List.set_getElem_self]
  · rw [List.set_eq_of_length_le (by omega)]

theorem Cache.chunkOf_setChunk (c : Cache) (i : Nat) (ch : Chunk) (k : Bytes) (hi : i < c.chunks.length) :
    (c.setChunk i ch).chunkOf k = if c.idx k = i then ch else c.chunkOf k := by
  unfold Cache.chunkOf
  rw [Cache.setChunk_idx, Cache.setChunk_get?]
  by_cases e : c.idx k = i
  · rw [if_pos e.symm, if_pos hi, if_pos e]; rfl
  · rw [if_neg (fun e' => e e'.symm), if_neg e]

theorem Cache.chunkOf_congr (c : Cache) (k k' : Bytes) (e : c.idx k = c.idx k') : c.chunkOf k = c.chunkOf k' := by
  unfold Cache.chunkOf; rw [e]

/-! ### 1. the cache invariant -/

/-- cache invariant: as many chunks as configured (≥ 1), every chunk satisfies the chunk invariant for the per-chunk
    limits, and ROUTING: whatever is stored in chunk `i` (items, immune keys) hashes to `i` -/
structure CacheInv (c : Cache) : Prop where
  len : c.chunks.length = c.cfg.numChunks
  pos : 1 ≤ c.cfg.numChunks
  chunk : ∀ (i : Nat) (ch : Chunk), c.chunks[i]? = some ch → ChunkInv c.cfg.chunkCfg ch
  routeItems : ∀ (i : Nat) (ch : Chunk), c.chunks[i]? = some ch → ∀ it ∈ ch.items, fnv32 it.key % c.cfg.numChunks = i
  routeImmune : ∀ (i : Nat) (ch : Chunk), c.chunks[i]? = some ch → ∀ k ∈ ch.immuneKeys, fnv32 k % c.cfg.numChunks = i

theorem CacheInv.idx_lt {c : Cache} (h : CacheInv c) (k : Bytes) : c.idx k < c.chunks.length := by
  rw [h.len]; exact c.idx_lt h.pos k

theorem CacheInv.chunkOf_get? {c : Cache} (h : CacheInv c) (k : Bytes) : c.chunks[c.idx k]? = some (c.chunkOf k) := by
  have hi := h.idx_lt k
  unfold Cache.chunkOf
  simp [hi]

theorem CacheInv.chunkOf_mem {c : Cache} (h : CacheInv c) (k : Bytes) : c.chunkOf k ∈ c.chunks :=
  List.mem_iff_getElem?.mpr ⟨_, h.chunkOf_get? k⟩

theorem CacheInv.chunkOf_inv {c : Cache} (h : CacheInv c) (k : Bytes) : ChunkInv c.cfg.chunkCfg (c.chunkOf k) :=
  h.chunk _ _ (h.chunkOf_get? k)

theorem CacheInv.chunk_mem {c : Cache} (h : CacheInv c) {ch : Chunk} (hm : ch ∈ c.chunks) : ChunkInv c.cfg.chunkCfg ch := by
  obtain ⟨i, hi⟩ := List.mem_iff_getElem?.mp hm
  exact h.chunk i ch hi

theorem CacheInv.eq_chunkOf {c : Cache} (h : CacheInv c) {i : Nat} {ch : Chunk} (hi : c.chunks[i]? = some ch) {k : Bytes}
    (hr : c.idx k = i) : ch = c.chunkOf k :=
  Option.some.inj (hi.symm.trans (hr ▸ h.chunkOf_get? k))

theorem CacheInv.chunk_of_item {c : Cache} (h : CacheInv c) {ch : Chunk} (hm : ch ∈ c.chunks) {it : Item}
    (hit : it ∈ ch.items) : ch = c.chunkOf it.key := by
  obtain ⟨i, hi⟩ := List.mem_iff_getElem?.mp hm
  exact h.eq_chunkOf hi (h.routeItems i ch hi it hit)

theorem CacheInv.chunk_of_immune {c : Cache} (h : CacheInv c) {ch : Chunk} (hm : ch ∈ c.chunks) {k : Bytes}
    (hk : k ∈ ch.immuneKeys) : ch = c.chunkOf k := by
  obtain ⟨i, hi⟩ := List.mem_iff_getElem?.mp hm
  exact h.eq_chunkOf hi (h.routeImmune i ch hi k hk)

/-- valid configurations: at least one chunk. (`ChunkInv` of an empty chunk needs nothing else; the property's
    "at least one item per chunk", `1 ≤ maxNumItems / numChunks`, is what makes adds succeed, not what makes them safe.) -/
theorem CacheInv.init (cfg : Config) (hn : 1 ≤ cfg.numChunks) : CacheInv (Cache.init cfg) := by
  have hget : ∀ (i : Nat) (ch : Chunk), (Cache.init cfg).chunks[i]? = some ch → ch = Chunk.empty :=
    fun _ _ hi => (List.mem_replicate.mp (List.mem_of_getElem? hi)).2
  constructor
  · exact List.length_replicate
  · exact hn
  · intro i ch hi; rw [hget i ch hi]; exact ChunkInv.empty _
  · intro i ch hi it hit; rw [hget i ch hi] at hit; cases hit
  · intro i ch hi k hk; rw [hget i ch hi] at hk; cases hk

/-- the property's "valid configuration": at least one chunk, at least one item and one byte per chunk -/
structure Config.Valid (cfg : Config) : Prop where
  chunks : 1 ≤ cfg.numChunks
  items : 1 ≤ cfg.maxNumItems / cfg.numChunks
  bytes : 1 ≤ cfg.maxNumBytes / cfg.numChunks

theorem CacheInv.init_valid (cfg : Config) (hv : cfg.Valid) : CacheInv (Cache.init cfg) := CacheInv.init cfg hv.chunks

theorem Cache.init_chunkOf (cfg : Config) (k : Bytes) : (Cache.init cfg).chunkOf k = Chunk.empty := by
  unfold Cache.chunkOf Cache.init
  rw [List.getElem?_replicate]
  split <;> rfl

/-- what "at least one item and one byte per chunk" buys: the first add into a fresh cache is accepted
    (safety — `CacheInv` — needs only `1 ≤ numChunks`) -/
theorem init_add_succeeds (cfg : Config) (hv : cfg.Valid) (k p : Bytes) (s : Int) :
    ((Cache.init cfg).hasOrAdd Variant.current k p s).2 = (false, true) := by
  have hmax : max cfg.numChunks 1 = cfg.numChunks := Nat.max_eq_left hv.chunks
  have h1 : 1 ≤ cfg.chunkCfg.maxNumItems := by
    show 1 ≤ cfg.maxNumItems / max cfg.numChunks 1; rw [hmax]; exact hv.items
  have h2 : 1 ≤ cfg.chunkCfg.maxNumBytes := by
    show 1 ≤ cfg.maxNumBytes / max cfg.numChunks 1; rw [hmax]; exact hv.bytes
  have hex : Chunk.empty.exceeded cfg.chunkCfg = false :=
    exceeded_eq_false_iff.mpr ⟨h1, Int.ofNat_lt.mpr h2⟩
  unfold Cache.hasOrAdd
  rw [Cache.init_chunkOf]
  show (Chunk.empty.addItem Variant.current cfg.chunkCfg k p s).2 = _
  rcases addItem_cases cfg.chunkCfg Chunk.empty k p s with ⟨hk, _⟩ | ⟨_, he, _⟩ | ⟨_, c', _, e⟩
  · cases hk
  · rw [evictIfNeeded_of_not_exceeded hex] at he; cases he
  · rw [e]

theorem CacheInv.setChunk {c : Cache} (h : CacheInv c) (i : Nat) (ch : Chunk) (hc : ChunkInv c.cfg.chunkCfg ch)
    (hri : ∀ it ∈ ch.items, fnv32 it.key % c.cfg.numChunks = i)
    (hrk : ∀ k ∈ ch.immuneKeys, fnv32 k % c.cfg.numChunks = i) : CacheInv (c.setChunk i ch) := by
  have hcases : ∀ (j : Nat) (ch' : Chunk), (c.setChunk i ch).chunks[j]? = some ch' → (i = j ∧ ch' = ch) ∨ c.chunks[j]? = some ch' := by
    intro j ch' hj
    rw [Cache.setChunk_get?] at hj
    by_cases e : i = j
    · rw [if_pos e] at hj
      by_cases hl : i < c.chunks.length
      · rw [if_pos hl] at hj; exact Or.inl ⟨e, (Option.some.inj hj).symm⟩
      · rw [if_neg hl] at hj; cases hj
    · rw [if_neg e] at hj; exact Or.inr hj
  constructor
  · show (c.chunks.set i ch).length = c.cfg.numChunks
    rw [List.length_set]; exact h.len
  · exact h.pos
  · intro j ch' hj
    rcases hcases j ch' hj with ⟨_, rfl⟩ | hj'
    · exact hc
    · exact h.chunk j ch' hj'
  · intro j ch' hj
    rcases hcases j ch' hj with ⟨rfl, rfl⟩ | hj'
    · exact hri
    · exact h.routeItems j ch' hj'
  · intro j ch' hj
    rcases hcases j ch' hj with ⟨rfl, rfl⟩ | hj'
    · exact hrk
    · exact h.routeImmune j ch' hj'

/-- every single-key cache operation is "run the chunk operation on the chunk of the key and write it back" -/
def Cache.applyAt (c : Cache) (op : COp) : Cache :=
  c.setChunk (c.idx op.key) ((c.chunkOf op.key).apply c.cfg.chunkCfg op)

theorem CacheInv.applyAt {c : Cache} (h : CacheInv c) (op : COp) (hw : op.sizeOk) : CacheInv (c.applyAt op) := by
  refine h.setChunk _ _ (ChunkInv.apply _ _ op hw (h.chunkOf_inv _)) ?_ ?_
  · intro it hit
    rcases apply_item_keys _ _ op it hit with e | ⟨it', hit', e⟩
    · rw [e]; rfl
    · rw [← e]; exact h.routeItems _ _ (h.chunkOf_get? _) it' hit'
  · intro x hx
    rcases apply_immune_keys _ _ op x hx with e | hx'
    · rw [e]; rfl
    · exact h.routeImmune _ _ (h.chunkOf_get? _) x hx'

theorem chunkOf_applyAt {c : Cache} (h : CacheInv c) (op : COp) (k : Bytes) :
    (c.applyAt op).chunkOf k =
      if c.idx k = c.idx op.key then (c.chunkOf k).apply c.cfg.chunkCfg op else c.chunkOf k := by
  unfold Cache.applyAt
  rw [Cache.chunkOf_setChunk _ _ _ _ (h.idx_lt _)]
  exact ite_congr rfl (fun e => by rw [c.chunkOf_congr _ _ e]) (fun _ => rfl)

theorem Cache.hasOrAdd_eq (c : Cache) (k p : Bytes) (s : Int) :
    c.hasOrAdd Variant.current k p s =
      (c.applyAt (.add k p s), ((c.chunkOf k).addItem Variant.current c.cfg.chunkCfg k p s).2) := rfl

theorem Cache.hasOrAdd_fst (c : Cache) (k p : Bytes) (s : Int) :
    (c.hasOrAdd Variant.current k p s).1 = c.applyAt (.add k p s) := congrArg Prod.fst (c.hasOrAdd_eq k p s)

theorem Cache.remove_fst (c : Cache) (k : Bytes) : (c.remove k).1 = c.applyAt (.rm k) := rfl

/-- one step of the `ImmunizeKeys` loop -/
def Cache.immunizeOne (c : Cache) (k : Bytes) : Cache := c.applyAt (.imm k)

theorem Cache.immunizeKeys_fold (keys : List Bytes) (c : Cache) (a b : Nat) :
    (keys.foldl (fun (acc : Cache × Nat × Nat) k =>
      let (ch, now) := (acc.1.chunkOf k).immunizeKey k
      (acc.1.setChunk (acc.1.idx k) ch, if now then acc.2.1 + 1 else acc.2.1, if now then acc.2.2 else acc.2.2 + 1))
      (c, a, b)).1 = keys.foldl Cache.immunizeOne c := by
  induction keys generalizing c a b with
  | nil => rfl
  | cons k rest ih =>
    rw [List.foldl_cons, List.foldl_cons]
    exact ih _ _ _

/-- the capacity gate of `ImmunizeKeys` -/
def Cache.gateRefuses (c : Cache) (keys : List Bytes) : Prop := c.countImmune + keys.length > c.cfg.maxNumItems

instance (c : Cache) (keys : List Bytes) : Decidable (c.gateRefuses keys) := by unfold Cache.gateRefuses; infer_instance

theorem Cache.immunizeKeys_refused (c : Cache) (keys : List Bytes) (hg : c.gateRefuses keys) :
    c.immunizeKeys keys = (c, 0, 0) := by
  unfold Cache.gateRefuses at hg; unfold Cache.immunizeKeys; rw [if_pos hg]

theorem Cache.immunizeKeys_accepted (c : Cache) (keys : List Bytes) (hg : ¬ c.gateRefuses keys) :
    (c.immunizeKeys keys).1 = keys.foldl Cache.immunizeOne c := by
  unfold Cache.gateRefuses at hg; unfold Cache.immunizeKeys; rw [if_neg hg]; exact Cache.immunizeKeys_fold keys c 0 0

theorem Cache.immunizeKeys_pres (P : Cache → Prop) (hP : ∀ c k, P c → P (c.immunizeOne k)) {c : Cache} (hp : P c)
    (keys : List Bytes) : P (c.immunizeKeys keys).1 := by
  by_cases hg : c.gateRefuses keys
  · rw [Cache.immunizeKeys_refused c keys hg]; exact hp
  · rw [Cache.immunizeKeys_accepted c keys hg]
    exact List.foldlRecOn keys Cache.immunizeOne hp (fun x hx k _ => hP x k hx)

theorem CacheInv.hasOrAdd {c : Cache} (h : CacheInv c) (k p : Bytes) (s : Int) (hs : 0 ≤ s) :
    CacheInv (c.hasOrAdd Variant.current k p s).1 := h.applyAt (.add k p s) hs

theorem CacheInv.remove {c : Cache} (h : CacheInv c) (k : Bytes) : CacheInv (c.remove k).1 := h.applyAt (.rm k) trivial

theorem CacheInv.immunizeOne {c : Cache} (h : CacheInv c) (k : Bytes) : CacheInv (c.immunizeOne k) := h.applyAt (.imm k) trivial

theorem CacheInv.immunizeKeys {c : Cache} (h : CacheInv c) (keys : List Bytes) : CacheInv (c.immunizeKeys keys).1 :=
  Cache.immunizeKeys_pres CacheInv (fun _ k h => h.immunizeOne k) h keys

theorem CacheInv.clear {c : Cache} (h : CacheInv c) : CacheInv c.clear := CacheInv.init c.cfg h.pos

/-- cache-level operations of a history -/
inductive CacheOp where
  | add (k p : Bytes) (size : Int)
  | rm (k : Bytes)
  | imm (keys : List Bytes)
  | clear
  deriving DecidableEq

def Cache.apply (c : Cache) : CacheOp → Cache
  | .add k p s => (c.hasOrAdd Variant.current k p s).1
  | .rm k => (c.remove k).1
  | .imm keys => (c.immunizeKeys keys).1
  | .clear => c.clear

def CacheOp.sizeOk : CacheOp → Prop
  | .add _ _ s => 0 ≤ s
  | _ => True

instance : DecidablePred CacheOp.sizeOk := fun op => by
  cases op <;> unfold CacheOp.sizeOk <;> infer_instance

@[simp] theorem Cache.apply_cfg (c : Cache) (op : CacheOp) : (c.apply op).cfg = c.cfg := by
  cases op with
  | add k p s => rfl
  | rm k => rfl
  | imm keys => exact Cache.immunizeKeys_pres (·.cfg = c.cfg) (fun _ _ hp => hp) rfl keys
  | clear => rfl

theorem CacheInv.apply {c : Cache} (h : CacheInv c) (op : CacheOp) (hw : op.sizeOk) : CacheInv (c.apply op) := by
  cases op with
  | add k p s => exact h.hasOrAdd k p s hw
  | rm k => exact h.remove k
  | imm keys => exact h.immunizeKeys keys
  | clear => exact h.clear

theorem CacheInv.foldl {c : Cache} (h : CacheInv c) (ops : List CacheOp) (hw : ∀ op ∈ ops, op.sizeOk) :
    CacheInv (ops.foldl Cache.apply c) :=
  List.foldlRecOn ops Cache.apply h (fun _ hc op hop => hc.apply op (hw op hop))

theorem CacheInv.run (cfg : Config) (hn : 1 ≤ cfg.numChunks) (ops : List CacheOp) (hw : ∀ op ∈ ops, op.sizeOk) :
    CacheInv (ops.foldl Cache.apply (Cache.init cfg)) := (CacheInv.init cfg hn).foldl ops hw

theorem Cache.foldl_apply_cfg (ops : List CacheOp) (c : Cache) : (ops.foldl Cache.apply c).cfg = c.cfg :=
  List.foldlRecOn ops Cache.apply (motive := (·.cfg = c.cfg)) rfl (fun x hx op _ => (x.apply_cfg op).trans hx)

/-! ### 2. the cache never holds more than MaxNumItems items -/

theorem sum_map_le_mul {α : Type} (l : List α) (f : α → Nat) (b : Nat) (h : ∀ x ∈ l, f x ≤ b) :
    (l.map f).sum ≤ l.length * b := by
  induction l with
  | nil => exact Nat.zero_le _
  | cons a rest ih =>
    have h1 := h a List.mem_cons_self
    have h2 := ih (fun x hx => h x (List.mem_cons_of_mem _ hx))
    rw [List.map_cons, List.sum_cons, List.length_cons, Nat.succ_mul]
    omega

theorem Config.chunkCfg_maxNumItems (cfg : Config) (hn : 1 ≤ cfg.numChunks) :
    cfg.chunkCfg.maxNumItems = cfg.maxNumItems / cfg.numChunks := by
  show cfg.maxNumItems / max cfg.numChunks 1 = _
  rw [Nat.max_eq_left hn]

/-- C13: the cache (all chunks together) never holds more than MaxNumItems items -/
theorem count_le_max {c : Cache} (h : CacheInv c) : c.count ≤ c.cfg.maxNumItems := by
  have h1 : c.count ≤ c.chunks.length * c.cfg.chunkCfg.maxNumItems :=
    sum_map_le_mul c.chunks (·.items.length) _ (fun ch hch => (h.chunk_mem hch).bound)
  rw [h.len, Config.chunkCfg_maxNumItems c.cfg h.pos] at h1
  exact Nat.le_trans h1 (Nat.mul_div_le _ _)

theorem count_le_max_run (cfg : Config) (hn : 1 ≤ cfg.numChunks) (ops : List CacheOp) (hw : ∀ op ∈ ops, op.sizeOk) :
    (ops.foldl Cache.apply (Cache.init cfg)).count ≤ cfg.maxNumItems := by
  have := count_le_max (CacheInv.run cfg hn ops hw)
  rwa [Cache.foldl_apply_cfg] at this

/-! ### 3. the views agree -/

/-- all immune keys of the cache (the union of the chunks' `immuneKeys` sets) -/
def Cache.immuneKeys (c : Cache) : List Bytes := c.chunks.flatMap (·.immuneKeys)

theorem mem_items_iff {c : Cache} (h : CacheInv c) (it : Item) : it ∈ c.items ↔ it ∈ (c.chunkOf it.key).items := by
  unfold Cache.items
  rw [List.mem_flatMap]
  exact ⟨fun ⟨ch, hch, hit⟩ => h.chunk_of_item hch hit ▸ hit, fun hit => ⟨_, h.chunkOf_mem _, hit⟩⟩

theorem mem_immuneKeys_iff {c : Cache} (h : CacheInv c) (k : Bytes) : k ∈ c.immuneKeys ↔ k ∈ (c.chunkOf k).immuneKeys := by
  unfold Cache.immuneKeys
  rw [List.mem_flatMap]
  exact ⟨fun ⟨ch, hch, hk⟩ => h.chunk_of_immune hch hk ▸ hk, fun hk => ⟨_, h.chunkOf_mem _, hk⟩⟩

/-- Get and the item list (Keys / ForEachItem) describe the same map -/
theorem get_iff {c : Cache} (h : CacheInv c) (k p : Bytes) :
    c.get k = some p ↔ ∃ it ∈ c.items, it.key = k ∧ it.payload = p := by
  unfold Cache.get
  constructor
  · intro hg
    obtain ⟨it, hget, hp⟩ := Option.map_eq_some_iff.mp hg
    obtain ⟨hit, hkey⟩ := get_some_mem _ k it hget
    exact ⟨it, (mem_items_iff h it).mpr (hkey ▸ hit), hkey, hp⟩
  · rintro ⟨it, hit, rfl, rfl⟩
    rw [(h.chunkOf_inv it.key).get_of_mem ((mem_items_iff h it).mp hit)]; rfl

/-- Has (= `(get k).isSome`) and the key list -/
theorem has_iff {c : Cache} (h : CacheInv c) (k : Bytes) : (c.get k).isSome = true ↔ k ∈ c.items.map (·.key) := by
  rw [Option.isSome_iff_exists, List.mem_map]
  constructor
  · rintro ⟨p, hp⟩
    obtain ⟨it, hit, hk, _⟩ := (get_iff h k p).mp hp
    exact ⟨it, hit, hk⟩
  · rintro ⟨it, hit, hk⟩
    exact ⟨it.payload, (get_iff h k it.payload).mpr ⟨it, hit, hk, rfl⟩⟩

theorem nodup_flatMap_of_routed {α β : Type} (l : List α) (f : α → List β) (r : β → Nat)
    (hnd : ∀ a ∈ l, (f a).Nodup) (hr : ∀ (i : Nat) (a : α), l[i]? = some a → ∀ b ∈ f a, r b = i) :
    (l.flatMap f).Nodup := by
  rw [List.nodup_iff_pairwise_ne, List.pairwise_flatMap]
  refine ⟨hnd, ?_⟩
  rw [List.pairwise_iff_getElem]
  intro i j hi hj hij x hx y hy e
  have r1 := hr i _ (List.getElem?_eq_getElem hi) x hx
  have r2 := hr j _ (List.getElem?_eq_getElem hj) y hy
  rw [← e, r1] at r2
  omega

theorem items_keys_nodup {c : Cache} (h : CacheInv c) : (c.items.map (·.key)).Nodup := by
  unfold Cache.items
  rw [List.map_flatMap]
  refine nodup_flatMap_of_routed c.chunks _ (fnv32 · % c.cfg.numChunks) (fun _ hch => (h.chunk_mem hch).keysNodup) ?_
  intro i ch hi x hx
  obtain ⟨it, hit, rfl⟩ := List.mem_map.mp hx
  exact h.routeItems i ch hi it hit

/-- Count = Len = number of items -/
theorem count_eq_length (c : Cache) : c.count = c.items.length := by
  unfold Cache.count Cache.items
  rw [List.length_flatMap]

/-- NumBytes = Σ of the sizes of the resident items (no clamp ever fires) -/
theorem numBytes_eq_sum {c : Cache} (h : CacheInv c) : c.numBytes = sumSz c.items := by
  have hb : ∀ ch ∈ c.chunks, ch.numBytes = sumSz ch.items := fun _ hch => (h.chunk_mem hch).binv.2
  unfold Cache.numBytes Cache.items
  generalize c.chunks = l at hb
  induction l with
  | nil => rfl
  | cons a rest ih =>
    rw [← List.sum_eq_foldl, List.map_cons, List.sum_cons, List.sum_eq_foldl, List.flatMap_cons, sumSz_append,
      ih (fun ch hch => hb ch (List.mem_cons_of_mem _ hch)), hb a List.mem_cons_self]

theorem numBytes_nonneg {c : Cache} (h : CacheInv c) : 0 ≤ c.numBytes := by
  rw [numBytes_eq_sum h]
  apply sumSz_nonneg
  intro it hit
  rw [mem_items_iff h] at hit
  exact (h.chunkOf_inv it.key).sizes it hit

/-- CountImmune = number of DISTINCT immune keys over all chunks -/
theorem immuneKeys_nodup {c : Cache} (h : CacheInv c) : c.immuneKeys.Nodup :=
  nodup_flatMap_of_routed c.chunks _ (fnv32 · % c.cfg.numChunks) (fun _ hch => (h.chunk_mem hch).immuneNodup)
    h.routeImmune

theorem countImmune_eq_length (c : Cache) : c.countImmune = c.immuneKeys.length := by
  unfold Cache.countImmune Cache.immuneKeys
  rw [List.length_flatMap]

/-- how the immune-key set evolves: adds leave it alone, `remove k` deletes `k`, an accepted `immunizeKeys keys` adds `keys`,
    a refused one leaves it alone, `clear` empties it.  Together with `countImmune_eq_length`/`immuneKeys_nodup`:
    CountImmune = number of accepted immune keys not since removed. -/
theorem mem_immuneKeys_applyAt {c : Cache} (h : CacheInv c) (op : COp) (hw : op.sizeOk) (x : Bytes) :
    x ∈ (c.applyAt op).immuneKeys ↔
      match (generalizing := false) op with
      | .add _ _ _ => x ∈ c.immuneKeys
      | .rm k => x ∈ c.immuneKeys ∧ x ≠ k
      | .imm k => x ∈ c.immuneKeys ∨ x = k := by
  rw [mem_immuneKeys_iff (h.applyAt op hw), mem_immuneKeys_iff h, chunkOf_applyAt h]
  by_cases e : c.idx x = c.idx op.key
  · rw [if_pos e]; exact mem_apply_immuneKeys _ _ op x
  · rw [if_neg e]
    have hne : x ≠ op.key := fun e' => e (e' ▸ rfl)
    cases op with
    | add k p s => exact Iff.rfl
    | rm k => exact ⟨fun hx => ⟨hx, hne⟩, fun hx => hx.1⟩
    | imm k => exact ⟨Or.inl, fun hx => hx.resolve_right hne⟩

theorem immuneKeys_remove {c : Cache} (h : CacheInv c) (k x : Bytes) :
    x ∈ (c.remove k).1.immuneKeys ↔ x ∈ c.immuneKeys ∧ x ≠ k := mem_immuneKeys_applyAt h (.rm k) trivial x

theorem immuneKeys_immunizeKeys {c : Cache} (h : CacheInv c) (keys : List Bytes) (x : Bytes) :
    x ∈ (c.immunizeKeys keys).1.immuneKeys ↔ x ∈ c.immuneKeys ∨ (¬ c.gateRefuses keys ∧ x ∈ keys) := by
  have hfold : ∀ (c : Cache), CacheInv c →
      (x ∈ (keys.foldl Cache.immunizeOne c).immuneKeys ↔ x ∈ c.immuneKeys ∨ x ∈ keys) := by
    induction keys with
    | nil => intro c _; exact ⟨Or.inl, fun hx => hx.resolve_right List.not_mem_nil⟩
    | cons k rest ih =>
      intro c h
      rw [List.foldl_cons, ih _ (h.immunizeOne k), show x ∈ (c.immunizeOne k).immuneKeys ↔ _ from
        mem_immuneKeys_applyAt h (.imm k) trivial x, List.mem_cons, or_assoc]
  by_cases hg : c.gateRefuses keys
  · rw [Cache.immunizeKeys_refused c keys hg]
    exact ⟨Or.inl, fun hx => hx.resolve_right (fun hx' => hx'.1 hg)⟩
  · rw [Cache.immunizeKeys_accepted c keys hg, hfold c h]
    exact ⟨fun hx => hx.imp_right (fun hx' => ⟨hg, hx'⟩), fun hx => hx.imp_right (fun hx' => hx'.2)⟩

theorem immuneKeys_init (cfg : Config) : (Cache.init cfg).immuneKeys = [] := by
  unfold Cache.init Cache.immuneKeys
  induction cfg.numChunks with
  | zero => rfl
  | succ n ih => rw [List.replicate_succ, List.flatMap_cons, ih]; rfl

/-- the immune-key capacity is an invariant of every cache operation: only an accepted `ImmunizeKeys` adds keys,
    at most `keys.length` of them, and the gate has made room for that many -/
theorem countImmune_le_max_step {c : Cache} (h : CacheInv c) (op : CacheOp) (hw : op.sizeOk)
    (hc : c.countImmune ≤ c.cfg.maxNumItems) : (c.apply op).countImmune ≤ c.cfg.maxNumItems := by
  have hsub : ∀ (l : List Bytes), (∀ x, x ∈ (c.apply op).immuneKeys → x ∈ l) → (c.apply op).countImmune ≤ l.length :=
    fun l hs => countImmune_eq_length _ ▸ List.Nodup.length_le_of_subset (immuneKeys_nodup (h.apply op hw)) hs
  rw [countImmune_eq_length] at hc
  cases op with
  | add k p s => exact Nat.le_trans (hsub _ (fun x hx => (mem_immuneKeys_applyAt h (.add k p s) hw x).mp hx)) hc
  | rm k => exact Nat.le_trans (hsub _ (fun x hx => ((immuneKeys_remove h k x).mp hx).1)) hc
  | imm keys =>
    by_cases hg : c.gateRefuses keys
    · show (c.immunizeKeys keys).1.countImmune ≤ _
      rw [Cache.immunizeKeys_refused c keys hg, countImmune_eq_length]; exact hc
    · refine Nat.le_trans (hsub (c.immuneKeys ++ keys) (fun x hx => ?_)) ?_
      · exact List.mem_append.mpr (((immuneKeys_immunizeKeys h keys x).mp hx).imp_right (fun hx' => hx'.2))
      · rw [List.length_append, ← countImmune_eq_length]; exact Nat.le_of_not_gt hg
  | clear =>
    show (Cache.init c.cfg).countImmune ≤ _
    rw [countImmune_eq_length, immuneKeys_init]; exact Nat.zero_le _

theorem countImmune_le_max_run (cfg : Config) (hn : 1 ≤ cfg.numChunks) (ops : List CacheOp) (hw : ∀ op ∈ ops, op.sizeOk) :
    (ops.foldl Cache.apply (Cache.init cfg)).countImmune ≤ cfg.maxNumItems := by
  have h0 : (Cache.init cfg).countImmune ≤ (Cache.init cfg).cfg.maxNumItems := by
    rw [countImmune_eq_length, immuneKeys_init]; exact Nat.zero_le _
  have := List.foldlRecOn ops Cache.apply (motive := fun c => CacheInv c ∧ c.countImmune ≤ c.cfg.maxNumItems)
    ⟨CacheInv.init cfg hn, h0⟩ (fun c hc op hop =>
      ⟨hc.1.apply op (hw op hop), by rw [Cache.apply_cfg]; exact countImmune_le_max_step hc.1 op (hw op hop) hc.2⟩)
  rw [Cache.foldl_apply_cfg] at this
  exact this.2

/-! ### 4. cache-level flags of HasOrAdd -/

theorem get_applyAt {c : Cache} (h : CacheInv c) (op : COp) (k : Bytes) :
    (c.applyAt op).get k =
      if c.idx k = c.idx op.key then (((c.chunkOf k).apply c.cfg.chunkCfg op).get k).map (·.payload) else c.get k := by
  unfold Cache.get
  rw [chunkOf_applyAt h]
  exact apply_ite (fun ch : Chunk => (ch.get k).map (·.payload)) (c.idx k = c.idx op.key) _ _

theorem get_isSome (c : Cache) (k : Bytes) : (c.get k).isSome = (c.chunkOf k).has k := by
  unfold Cache.get; rw [Option.isSome_map, has_eq_isSome]

/-- C13: `has` ⇔ the key was present; `added` ⇔ it became present; and then it is retrievable with the given payload -/
theorem hasOrAdd_flags {c : Cache} (h : CacheInv c) (k p : Bytes) (s : Int) :
    let r := c.hasOrAdd Variant.current k p s
    r.2.1 = (c.get k).isSome ∧
    (r.2.2 = true ↔ ((c.get k).isSome = false ∧ (r.1.get k).isSome = true)) ∧
    (r.2.2 = true → r.1.get k = some p) := by
  intro r
  have hr : r = _ := c.hasOrAdd_eq k p s
  have hget : (c.applyAt (.add k p s)).get k
      = ((((c.chunkOf k).addItem Variant.current c.cfg.chunkCfg k p s).1).get k).map (·.payload) :=
    (get_applyAt h (.add k p s) k).trans (if_pos rfl)
  obtain ⟨f1, f2, _⟩ := addItem_flags c.cfg.chunkCfg (c.chunkOf k) k p s
  rw [hr, get_isSome, hget, Option.isSome_map, ← has_eq_isSome]
  exact ⟨f1, f2, fun ha => by rw [addItem_added_get _ _ _ _ _ ha]; rfl⟩

/-- C12: an add of a key that is present changes NOTHING (in particular not its payload) and reports has = true -/
theorem hasOrAdd_present (c : Cache) (k p : Bytes) (s : Int) (hk : (c.get k).isSome = true) :
    c.hasOrAdd Variant.current k p s = (c, true, false) := by
  rw [Cache.hasOrAdd_eq, Cache.applyAt]
  show (c.setChunk (c.idx k) ((c.chunkOf k).addItem Variant.current c.cfg.chunkCfg k p s).1, _) = _
  rw [addItem_present _ _ _ _ _ (get_isSome c k ▸ hk), Cache.setChunk_chunkOf]

theorem hasOrAdd_other_chunk {c : Cache} (h : CacheInv c) (k p : Bytes) (s : Int) (k' : Bytes) (hne : c.idx k' ≠ c.idx k) :
    (c.hasOrAdd Variant.current k p s).1.chunkOf k' = c.chunkOf k' := by
  rw [Cache.hasOrAdd_fst, chunkOf_applyAt h]
  exact if_neg hne

/-- C12: residency of another key `k'` changes only by eviction of a NON-immune item of the same chunk:
    either `get k'` is as before, or `k'` was resident, not immune, in the chunk of `k`, and is now absent -/
theorem hasOrAdd_get_other {c : Cache} (h : CacheInv c) (k p : Bytes) (s : Int) (k' : Bytes) (hne : k' ≠ k) :
    (c.hasOrAdd Variant.current k p s).1.get k' = c.get k' ∨
    ((c.hasOrAdd Variant.current k p s).1.get k' = none ∧ (c.get k').isSome = true ∧ c.idx k' = c.idx k ∧
      k' ∉ c.immuneKeys) := by
  rw [Cache.hasOrAdd_fst, get_applyAt h]
  by_cases e : c.idx k' = c.idx (COp.add k p s).key
  · rw [if_pos e]
    have hinv := h.chunkOf_inv k'
    show Option.map _ (((c.chunkOf k').addItem Variant.current c.cfg.chunkCfg k p s).1.get k') = _ ∨
      Option.map _ (((c.chunkOf k').addItem Variant.current c.cfg.chunkCfg k p s).1.get k') = none ∧ _
    rcases addItem_get_other c.cfg.chunkCfg (c.chunkOf k') k p s hinv k' hne with e1 | ⟨e1, it, e2, e3⟩
    · rw [e1]; exact Or.inl rfl
    · rw [e1]
      refine Or.inr ⟨rfl, by unfold Cache.get; rw [e2]; rfl, e, fun hmem => ?_⟩
      obtain ⟨hit, hkey⟩ := get_some_mem _ k' it e2
      have hf := hinv.flags it hit
      rw [e3, hkey, List.contains_iff_mem.mpr ((mem_immuneKeys_iff h k').mp hmem)] at hf
      cases hf
  · rw [if_neg e]; exact Or.inl rfl

/-- C12: an add never changes the payload under which a present key (the added one or any other) is stored -/
theorem hasOrAdd_payload_stable {c : Cache} (h : CacheInv c) (k p : Bytes) (s : Int) (k' q : Bytes)
    (hq : c.get k' = some q) :
    (c.hasOrAdd Variant.current k p s).1.get k' = some q ∨ (c.hasOrAdd Variant.current k p s).1.get k' = none := by
  by_cases e : k' = k
  · subst e
    rw [hasOrAdd_present c k' p s (by rw [hq]; rfl)]
    exact Or.inl hq
  · rcases hasOrAdd_get_other h k p s k' e with e1 | ⟨e1, _⟩
    · rw [e1]; exact Or.inl hq
    · exact Or.inr e1

theorem hasOrAdd_no_new_other {c : Cache} (h : CacheInv c) (k p : Bytes) (s : Int) (k' q : Bytes) (hne : k' ≠ k)
    (hq : (c.hasOrAdd Variant.current k p s).1.get k' = some q) : c.get k' = some q := by
  rcases hasOrAdd_get_other h k p s k' hne with e1 | ⟨e1, _⟩
  · rw [← e1]; exact hq
  · rw [e1] at hq; cases hq

theorem hasOrAdd_keeps_immune {c : Cache} (h : CacheInv c) (k p : Bytes) (s : Int) (k' q : Bytes)
    (himm : k' ∈ c.immuneKeys) (hq : c.get k' = some q) : (c.hasOrAdd Variant.current k p s).1.get k' = some q := by
  by_cases e : k' = k
  · subst e
    rw [hasOrAdd_present c k' p s (by rw [hq]; rfl)]
    exact hq
  · rcases hasOrAdd_get_other h k p s k' e with e1 | ⟨_, _, _, e4⟩
    · rw [e1]; exact hq
    · exact absurd himm e4

/-! ### 5. cache-level protection (C12) -/

def CProtected (c : Cache) (k p : Bytes) : Prop := k ∈ (c.chunkOf k).immuneKeys ∧ c.get k = some p

/-- `k` is immune (now, or "in the future" if it is not resident yet) -/
def CImmune (c : Cache) (k : Bytes) : Prop := k ∈ (c.chunkOf k).immuneKeys

instance (c : Cache) (k p : Bytes) : Decidable (CProtected c k p) := by unfold CProtected; infer_instance
instance (c : Cache) (k : Bytes) : Decidable (CImmune c k) := by unfold CImmune; infer_instance

theorem cimmune_iff {c : Cache} (h : CacheInv c) (k : Bytes) : CImmune c k ↔ k ∈ c.immuneKeys :=
  (mem_immuneKeys_iff h k).symm

theorem cprotected_iff {c : Cache} (h : CacheInv c) (k p : Bytes) : CProtected c k p ↔ Protected (c.chunkOf k) k p := by
  have hinv := h.chunkOf_inv k
  unfold CProtected Protected Cache.get
  constructor
  · rintro ⟨hk, hg⟩
    obtain ⟨it, hget, hp⟩ := Option.map_eq_some_iff.mp hg
    obtain ⟨hit, hkey⟩ := get_some_mem _ k it hget
    exact ⟨hk, it, hit, hkey, hp, by rw [hinv.flags it hit, hkey]; exact List.contains_iff_mem.mpr hk⟩
  · rintro ⟨hk, it, hit, rfl, rfl, _⟩
    exact ⟨hk, by rw [hinv.get_of_mem hit]; rfl⟩

theorem cprotected_iff_views {c : Cache} (h : CacheInv c) (k p : Bytes) :
    CProtected c k p ↔ k ∈ c.immuneKeys ∧ ∃ it ∈ c.items, it.key = k ∧ it.payload = p := by
  unfold CProtected
  rw [← mem_immuneKeys_iff h, get_iff h]

theorem cprotected_applyAt {c : Cache} (h : CacheInv c) (k p : Bytes) (op : COp) (hw : op.sizeOk)
    (hp : CProtected c k p) (hop : op ≠ COp.rm k) : CProtected (c.applyAt op) k p := by
  by_cases e : c.idx k = c.idx op.key
  · rw [cprotected_iff (h.applyAt op hw), chunkOf_applyAt h, if_pos e]
    exact Protected.step _ _ k p op ((cprotected_iff h k p).mp hp) hop
  · unfold CProtected Cache.get at hp ⊢
    rw [chunkOf_applyAt h, if_neg e]
    exact hp

theorem cimmune_applyAt {c : Cache} (h : CacheInv c) (k : Bytes) (op : COp)
    (hp : CImmune c k) (hop : op ≠ COp.rm k) : CImmune (c.applyAt op) k := by
  unfold CImmune at hp ⊢
  rw [chunkOf_applyAt h]
  by_cases e : c.idx k = c.idx op.key
  · rw [if_pos e, mem_apply_immuneKeys]
    cases op with
    | add k' p' s => exact hp
    | rm k' => exact ⟨hp, fun e' => hop (e' ▸ rfl)⟩
    | imm k' => exact Or.inl hp
  · rw [if_neg e]; exact hp

/-- a property of the cache that every single-key operation other than `rm k` preserves is preserved by every cache
    operation other than `remove k` and `clear`: `ImmunizeKeys` is a sequence of single-key operations, or refused -/
theorem step_pres {P : Cache → Prop} {k : Bytes}
    (hP : ∀ (c : Cache) (op : COp), CacheInv c → op.sizeOk → op ≠ COp.rm k → P c → P (c.applyAt op))
    {c : Cache} (h : CacheInv c) (op : CacheOp) (hw : op.sizeOk) (hp : P c)
    (hrm : op ≠ CacheOp.rm k) (hcl : op ≠ CacheOp.clear) : P (c.apply op) := by
  cases op with
  | add k' p' s =>
    show P (c.hasOrAdd Variant.current k' p' s).1
    rw [Cache.hasOrAdd_fst]
    exact hP c (.add k' p' s) h hw (fun e => by cases e) hp
  | rm k' =>
    show P (c.remove k').1
    rw [Cache.remove_fst]
    exact hP c (.rm k') h trivial (fun e => hrm (by cases e; rfl)) hp
  | imm keys =>
    exact (Cache.immunizeKeys_pres (fun x => CacheInv x ∧ P x)
      (fun x k' hx => ⟨hx.1.immunizeOne k', hP x (.imm k') hx.1 trivial (fun e => by cases e) hx.2⟩) ⟨h, hp⟩ keys).2
  | clear => exact absurd rfl hcl

/-- C12: protection is preserved by EVERY cache operation other than `remove k` and `clear`:
    adds of any key (whatever eviction they trigger), removes of other keys, `ImmunizeKeys` of any keys (accepted or refused) -/
theorem cprotected_step {c : Cache} (h : CacheInv c) (k p : Bytes) (op : CacheOp) (hw : op.sizeOk)
    (hp : CProtected c k p) (hrm : op ≠ CacheOp.rm k) (hcl : op ≠ CacheOp.clear) : CProtected (c.apply op) k p :=
  step_pres (fun _ op h hw hop hp => cprotected_applyAt h k p op hw hp hop) h op hw hp hrm hcl

theorem cimmune_step {c : Cache} (h : CacheInv c) (k : Bytes) (op : CacheOp) (hw : op.sizeOk)
    (hp : CImmune c k) (hrm : op ≠ CacheOp.rm k) (hcl : op ≠ CacheOp.clear) : CImmune (c.apply op) k :=
  step_pres (fun _ op h _ hop hp => cimmune_applyAt h k op hp hop) h op hw hp hrm hcl

theorem run_pres {P : Cache → Prop} {k : Bytes}
    (hP : ∀ (c : Cache) (op : CacheOp), CacheInv c → op.sizeOk → P c → op ≠ CacheOp.rm k → op ≠ CacheOp.clear →
      P (c.apply op))
    {c : Cache} (h : CacheInv c) (ops : List CacheOp) (hw : ∀ op ∈ ops, op.sizeOk) (hp : P c)
    (hrm : CacheOp.rm k ∉ ops) (hcl : CacheOp.clear ∉ ops) : P (ops.foldl Cache.apply c) :=
  (List.foldlRecOn ops Cache.apply (motive := fun x => CacheInv x ∧ P x) ⟨h, hp⟩ (fun x hx op hop =>
    ⟨hx.1.apply op (hw op hop), hP x op hx.1 (hw op hop) hx.2 (fun e => hrm (e ▸ hop)) (fun e => hcl (e ▸ hop))⟩)).2

/-- C12: … hence along any cache-level history without `remove k` and `clear`: the item stays retrievable with its
    ORIGINAL payload -/
theorem cprotected_run {c : Cache} (h : CacheInv c) (k p : Bytes) (ops : List CacheOp) (hw : ∀ op ∈ ops, op.sizeOk)
    (hp : CProtected c k p) (hrm : CacheOp.rm k ∉ ops) (hcl : CacheOp.clear ∉ ops) :
    CProtected (ops.foldl Cache.apply c) k p :=
  run_pres (fun _ op h hw hp => cprotected_step h k p op hw hp) h ops hw hp hrm hcl

theorem cprotected_run_get {c : Cache} (h : CacheInv c) (k p : Bytes) (ops : List CacheOp) (hw : ∀ op ∈ ops, op.sizeOk)
    (hp : CProtected c k p) (hrm : CacheOp.rm k ∉ ops) (hcl : CacheOp.clear ∉ ops) :
    (ops.foldl Cache.apply c).get k = some p := (cprotected_run h k p ops hw hp hrm hcl).2

theorem cimmune_run {c : Cache} (h : CacheInv c) (k : Bytes) (ops : List CacheOp) (hw : ∀ op ∈ ops, op.sizeOk)
    (hp : CImmune c k) (hrm : CacheOp.rm k ∉ ops) (hcl : CacheOp.clear ∉ ops) :
    CImmune (ops.foldl Cache.apply c) k :=
  run_pres (fun _ op h hw hp => cimmune_step h k op hw hp) h ops hw hp hrm hcl

theorem get_immunizeOne {c : Cache} (h : CacheInv c) (k' k : Bytes) : (c.immunizeOne k').get k = c.get k := by
  rw [Cache.immunizeOne, get_applyAt h]
  by_cases e : c.idx k = c.idx (COp.imm k').key
  · rw [if_pos e]; exact immunizeKey_get_payload (c.chunkOf k) k' k
  · rw [if_neg e]

theorem get_immunizeKeys {c : Cache} (h : CacheInv c) (keys : List Bytes) (k : Bytes) :
    (c.immunizeKeys keys).1.get k = c.get k :=
  (Cache.immunizeKeys_pres (fun x => CacheInv x ∧ x.get k = c.get k)
    (fun _ k' hx => ⟨hx.1.immunizeOne k', (get_immunizeOne hx.1 k' k).trans hx.2⟩) ⟨h, rfl⟩ keys).2

theorem cimmune_of_immunize {c : Cache} (h : CacheInv c) (keys : List Bytes) (hg : ¬ c.gateRefuses keys)
    (k : Bytes) (hk : k ∈ keys) : CImmune (c.immunizeKeys keys).1 k := by
  rw [cimmune_iff (h.immunizeKeys keys), immuneKeys_immunizeKeys h]
  exact Or.inr ⟨hg, hk⟩

/-- C12: protection starts when `ImmunizeKeys keys` is accepted (the gate passes) and `k ∈ keys` is resident with payload `p` -/
theorem cprotected_of_immunize {c : Cache} (h : CacheInv c) (keys : List Bytes) (hg : ¬ c.gateRefuses keys)
    (k p : Bytes) (hk : k ∈ keys) (hres : c.get k = some p) : CProtected (c.immunizeKeys keys).1 k p :=
  ⟨cimmune_of_immunize h keys hg k hk, by rw [get_immunizeKeys h]; exact hres⟩

/-- C12: … or when a key that was immunized earlier (future immunity) is added -/
theorem cprotected_of_add {c : Cache} (h : CacheInv c) (k p : Bytes) (s : Int) (hk : CImmune c k)
    (ha : (c.hasOrAdd Variant.current k p s).2.2 = true) : CProtected (c.hasOrAdd Variant.current k p s).1 k p :=
  ⟨cimmune_applyAt h k (.add k p s) hk (fun e => by cases e), (hasOrAdd_flags h k p s).2.2 ha⟩

/-- C12, the whole story: `ImmunizeKeys keys` accepted with `k ∈ keys`; any history `ops₁` without `remove k`/`clear`;
    `HasOrAdd k p` reports added; any history `ops₂` without `remove k`/`clear`: `Get k` still returns `p`. -/
theorem immunize_then_add_protected {c : Cache} (h : CacheInv c) (keys : List Bytes) (hg : ¬ c.gateRefuses keys)
    (k p : Bytes) (s : Int) (hs : 0 ≤ s) (hk : k ∈ keys) (ops₁ ops₂ : List CacheOp)
    (hw₁ : ∀ op ∈ ops₁, op.sizeOk) (hw₂ : ∀ op ∈ ops₂, op.sizeOk)
    (hrm₁ : CacheOp.rm k ∉ ops₁) (hcl₁ : CacheOp.clear ∉ ops₁) (hrm₂ : CacheOp.rm k ∉ ops₂) (hcl₂ : CacheOp.clear ∉ ops₂)
    (ha : ((ops₁.foldl Cache.apply (c.immunizeKeys keys).1).hasOrAdd Variant.current k p s).2.2 = true) :
    (ops₂.foldl Cache.apply ((ops₁.foldl Cache.apply (c.immunizeKeys keys).1).hasOrAdd Variant.current k p s).1).get k
      = some p := by
  have h1 := h.immunizeKeys keys
  have h2 := h1.foldl ops₁ hw₁
  have i2 := cimmune_run h1 k ops₁ hw₁ (cimmune_of_immunize h keys hg k hk) hrm₁ hcl₁
  exact cprotected_run_get (h2.hasOrAdd k p s hs) k p ops₂ hw₂ (cprotected_of_add h2 k p s i2 ha) hrm₂ hcl₂

/-! ### 6. refusals change nothing -/

/-- C12: a refused add (has = false, added = false: eviction failed because everything evictable is immune)
    leaves the whole cache unchanged -/
theorem refused_add_changes_nothing (c : Cache) (k p : Bytes) (s : Int) (c' : Cache)
    (h : c.hasOrAdd Variant.current k p s = (c', false, false)) : c' = c := by
  rw [Cache.hasOrAdd_eq] at h
  obtain ⟨h1, h2⟩ := Prod.mk.inj h
  rw [← h1]
  show c.setChunk (c.idx k) ((c.chunkOf k).addItem Variant.current c.cfg.chunkCfg k p s).1 = c
  rw [addItem_refused _ _ _ _ _ ((c.chunkOf k).addItem Variant.current c.cfg.chunkCfg k p s).1 (Prod.ext rfl h2),
    Cache.setChunk_chunkOf]

/-- C12: when every resident of the chunk of `k` is immune and that chunk is at capacity, the add is refused -/
theorem hasOrAdd_all_immune_refused (c : Cache) (k p : Bytes) (s : Int)
    (hall : ∀ it ∈ (c.chunkOf k).items, it.immune = true) (hex : (c.chunkOf k).exceeded c.cfg.chunkCfg = true)
    (hk : (c.get k).isSome = false) : c.hasOrAdd Variant.current k p s = (c, false, false) := by
  rw [Cache.hasOrAdd_eq, Cache.applyAt]
  show (c.setChunk (c.idx k) ((c.chunkOf k).addItem Variant.current c.cfg.chunkCfg k p s).1, _) = _
  rw [addItem_all_immune_refused _ _ _ _ _ hall hex (get_isSome c k ▸ hk), Cache.setChunk_chunkOf]

/-- C13: the `ImmunizeKeys` capacity gate refuses the call AS A WHOLE: numNow = numFuture = 0 and NO chunk changes
    (so no key of the batch became immune, no view changed) -/
theorem immunize_gate_refuses_whole (c : Cache) (keys : List Bytes)
    (hg : c.countImmune + keys.length > c.cfg.maxNumItems) :
    c.immunizeKeys keys = (c, 0, 0) ∧
    (∀ i : Nat, (c.immunizeKeys keys).1.chunks[i]? = c.chunks[i]?) ∧
    (∀ k, (c.immunizeKeys keys).1.chunkOf k = c.chunkOf k) ∧
    (c.immunizeKeys keys).1.immuneKeys = c.immuneKeys ∧ (c.immunizeKeys keys).1.items = c.items := by
  have e := Cache.immunizeKeys_refused c keys hg
  rw [e]
  exact ⟨rfl, fun _ => rfl, fun _ => rfl, rfl, rfl⟩

/-! ### non-vacuity: 2 chunks, capacity 4 (2 per chunk, evict 1 per chunk), both chunks used;
    immunize-before-add, eviction pressure, a refused add, a refused ImmunizeKeys -/
namespace Demo

def cfg : Config := ⟨2, 4, 1000, 2⟩

/-- odd one-byte keys are routed to chunk 0, even ones to chunk 1 -/
example : fnv32 [1] % 2 = 0 ∧ fnv32 [3] % 2 = 0 ∧ fnv32 [5] % 2 = 0 ∧ fnv32 [7] % 2 = 0 ∧
    fnv32 [2] % 2 = 1 ∧ fnv32 [4] % 2 = 1 := by decide +kernel
example : cfg.chunkCfg.maxNumItems = 2 ∧ cfg.chunkCfg.numToEvict = 1 := by decide +kernel
example : cfg.Valid := ⟨by decide, by decide, by decide⟩

/-- key [1] is immunized BEFORE it is added (future immunity); chunk 0 = {[1]*, [3]} is then full, chunk 1 = {[2]} -/
def pre : List CacheOp := [.imm [[1]], .add [1] [0xa1] 1, .add [2] [0xa2] 1, .add [3] [0xa3] 1]
/-- add [5]: chunk 0 is full → evicts [3] (oldest NON-immune; [1] is older but immune); immunize [5] (resident);
    add [7]: chunk 0 is full of immune items → refused; add [4]: chunk 1 full, cache at MaxNumItems = 4;
    add [1] again with another payload: has = true, payload kept; ImmunizeKeys of 3 keys: 2 + 3 > 4 → refused as a whole -/
def mid : List CacheOp := [.add [5] [0xa5] 1, .imm [[5]], .add [7] [0xa7] 1, .add [4] [0xa4] 1, .add [1] [0xff] 1,
  .imm [[9], [11], [13]]]

def c0 : Cache := Cache.init cfg
def c1 : Cache := pre.foldl Cache.apply c0
def c2 : Cache := mid.foldl Cache.apply c1

theorem inv0 : CacheInv c0 := CacheInv.init cfg (by decide)
theorem inv1 : CacheInv c1 := inv0.foldl pre (by decide)
theorem inv2 : CacheInv c2 := inv1.foldl mid (by decide)

-- `CacheInv.init` / `CacheInv.run`: hypotheses met
example : CacheInv (mid.foldl Cache.apply (pre.foldl Cache.apply (Cache.init cfg))) := inv2
-- `count_le_max`: met, and tight (4 items, both chunks full)
example : c2.count ≤ 4 := count_le_max inv2
example : c2.count = 4 ∧ c2.chunks.map (·.items.length) = [2, 2] := by decide +kernel
-- views (`get_iff`, `items_keys_nodup`, `count_eq_length`, `numBytes_eq_sum`, `countImmune_eq_length`)
example : c2.items.map (fun it => (it.key, it.payload, it.immune)) =
    [([1], [0xa1], true), ([5], [0xa5], true), ([2], [0xa2], false), ([4], [0xa4], false)] := by decide +kernel
example : c2.get [1] = some [0xa1] ∧ c2.get [5] = some [0xa5] ∧ c2.get [3] = none ∧ c2.get [7] = none := by decide +kernel
example : ∃ it ∈ c2.items, it.key = [1] ∧ it.payload = [0xa1] := (get_iff inv2 [1] [0xa1]).mp (by decide)
example : c2.numBytes = 4 ∧ sumSz c2.items = 4 ∧ c2.countImmune = 2 ∧ c2.immuneKeys = [[1], [5]] := by decide +kernel
-- `hasOrAdd_flags` on the evicting add of [5] to the full chunk 0: added, [3] evicted, immune [1] kept
example : (c1.hasOrAdd Variant.current [5] [0xa5] 1).2 = (false, true) ∧ c1.get [5] = none ∧
    (c1.hasOrAdd Variant.current [5] [0xa5] 1).1.get [5] = some [0xa5] := by decide +kernel
example : c1.get [3] = some [0xa3] ∧ (c1.hasOrAdd Variant.current [5] [0xa5] 1).1.get [3] = none ∧
    c1.idx [3] = c1.idx [5] ∧ [3] ∉ c1.immuneKeys := by decide          -- the "evicted" branch of `hasOrAdd_get_other`
example : (c1.hasOrAdd Variant.current [5] [0xa5] 1).1.get [2] = c1.get [2] ∧ c1.idx [2] ≠ c1.idx [5] := by decide +kernel
example : (c1.hasOrAdd Variant.current [5] [0xa5] 1).1.get [1] = some [0xa1] :=
  hasOrAdd_keeps_immune inv1 [5] [0xa5] 1 [1] [0xa1] (by decide) (by decide)
-- `hasOrAdd_present`: the duplicate add of [1] with payload ff
example : c2.hasOrAdd Variant.current [1] [0xff] 1 = (c2, true, false) := hasOrAdd_present c2 [1] [0xff] 1 (by decide)
-- `refused_add_changes_nothing` / `hasOrAdd_all_immune_refused`: chunk 0 = {[1]*, [5]*} is full of immune items
example : (c2.hasOrAdd Variant.current [7] [0xa7] 1).2 = (false, false) := by decide +kernel
example : c2.hasOrAdd Variant.current [7] [0xa7] 1 = (c2, false, false) :=
  hasOrAdd_all_immune_refused c2 [7] [0xa7] 1 (by decide) (by decide) (by decide)
example : (c2.hasOrAdd Variant.current [7] [0xa7] 1).1 = c2 :=
  refused_add_changes_nothing c2 [7] [0xa7] 1 _ (by
    have : (c2.hasOrAdd Variant.current [7] [0xa7] 1).2 = (false, false) := by decide
    exact Prod.ext rfl this)
-- `immunize_gate_refuses_whole`: 2 immune keys + 3 new ones > 4
example : c2.countImmune + [[9], [11], [13]].length > c2.cfg.maxNumItems := by decide +kernel
example : c2.immunizeKeys [[9], [11], [13]] = (c2, 0, 0) := (immunize_gate_refuses_whole c2 _ (by decide)).1
-- the gate passes for the two accepted calls
example : ¬ c0.gateRefuses [[1]] := by decide +kernel
-- `cprotected_of_add` (immunize before add), `cprotected_of_immunize` (immunize after add), `cprotected_run`
example : CImmune (c0.immunizeKeys [[1]]).1 [1] := cimmune_of_immunize inv0 [[1]] (by decide) [1] (by decide)
example : CProtected c1 [1] [0xa1] := by decide +kernel
example : CProtected ((c0.immunizeKeys [[1]]).1.hasOrAdd Variant.current [1] [0xa1] 1).1 [1] [0xa1] :=
  cprotected_of_add (inv0.immunizeKeys [[1]]) [1] [0xa1] 1
    (cimmune_of_immunize inv0 [[1]] (by decide) [1] (by decide)) (by decide)
example : CProtected c2 [1] [0xa1] :=
  cprotected_run inv1 [1] [0xa1] mid (by decide) (by decide) (by decide) (by decide)
example : CProtected ((Cache.apply c1 (.add [5] [0xa5] 1)).immunizeKeys [[5]]).1 [5] [0xa5] :=
  cprotected_of_immunize (inv1.apply _ (by decide)) [[5]] (by decide) [5] [0xa5] (by decide) (by decide)
-- the whole story in one statement: immunize [1]; add it; then the rest of the history (eviction pressure etc.)
def rest : List CacheOp := [CacheOp.add [2] [0xa2] 1, .add [3] [0xa3] 1] ++ mid
theorem gate_ok : ¬ c0.gateRefuses [[1]] := by decide +kernel
theorem added_ok : ((([] : List CacheOp).foldl Cache.apply (c0.immunizeKeys [[1]]).1).hasOrAdd
    Variant.current [1] [0xa1] 1).2.2 = true := by decide +kernel
theorem rest_ok : (∀ op ∈ rest, op.sizeOk) ∧ CacheOp.rm [1] ∉ rest ∧ CacheOp.clear ∉ rest := by decide +kernel
example : (rest.foldl Cache.apply
    ((([] : List CacheOp).foldl Cache.apply (c0.immunizeKeys [[1]]).1).hasOrAdd Variant.current [1] [0xa1] 1).1).get [1]
      = some [0xa1] :=
  immunize_then_add_protected inv0 [[1]] gate_ok [1] [0xa1] 1 (by decide) (by decide) [] rest
    (by decide) rest_ok.1 (by decide) (by decide) rest_ok.2.1 rest_ok.2.2 added_ok
-- and protection really ends with `remove k` / `clear` (so the two exclusions in `cprotected_step` are necessary)
example : ¬ CProtected (c2.apply (.rm [1])) [1] [0xa1] ∧ ¬ CProtected (c2.apply .clear) [1] [0xa1] := by decide +kernel

end Demo

end SV.Immunity
