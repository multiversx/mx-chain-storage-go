/-
  SV.Misc.AdapterProofs — the storage/cacher adapter (bounded LRU tier spilling its victims to a persister)
  never loses a key (C17), and the F11 counter-example for the legacy LRU.
-/
import SV.Misc.Adapter
import SV.LRU.Proofs
import SV.AssocList
namespace SV.Adapter
open SV SV.LRU

/-- persisting one victim (a value that serialises to zero bytes is skipped) -/
def spill (db : List (Bytes × Bytes)) (e : Entry) : List (Bytes × Bytes) :=
  if e.val.isEmpty then db else aset e.key e.val db

theorem put_eq (vr : Variant) (a : A) (k v : Bytes) (size : Int) :
    a.put vr k v size =
      (⟨(a.mem.addSizedAndReturnEvicted vr k v size).1, (a.mem.addSizedAndReturnEvicted vr k v size).2.foldl spill a.db⟩,
        !(a.mem.addSizedAndReturnEvicted vr k v size).2.isEmpty) := by
  -- with the write named, `rfl` does not look into the eviction loop
  generalize h : a.mem.addSizedAndReturnEvicted vr k v size = r
  unfold A.put
  rw [h]
  rfl

/-- in the domain of C17 (every victim carries the non-empty value bound to its key) a victim is always written -/
theorem spill_bound {V : Bytes → Bytes} (hv : ∀ x, V x ≠ []) (db : List (Bytes × Bytes)) {e : Entry}
    (he : e.val = V e.key) : spill db e = aset e.key (V e.key) db := by
  rw [spill, he, if_neg]
  rw [List.isEmpty_iff]
  exact hv _

theorem alookup_spill {V : Bytes → Bytes} (hv : ∀ x, V x ≠ []) (x : Bytes) (vs : List Entry) :
    ∀ db : List (Bytes × Bytes), (∀ e ∈ vs, e.val = V e.key) →
      alookup x (vs.foldl spill db) = if ∃ e ∈ vs, e.key = x then some (V x) else alookup x db := by
  induction vs with
  | nil => intro db _; simp
  | cons e r ih =>
    intro db hvals
    rw [List.foldl_cons, ih _ fun e' he' => hvals e' (List.mem_cons_of_mem _ he'),
      spill_bound hv db (hvals e List.mem_cons_self), alookup_aset]
    by_cases hr : ∃ e' ∈ r, e'.key = x
    · obtain ⟨e', he', hk⟩ := hr
      rw [if_pos ⟨e', he', hk⟩, if_pos ⟨e', List.mem_cons_of_mem _ he', hk⟩]
    · rw [if_neg hr]
      by_cases hxe : e.key = x
      · rw [if_pos (beq_iff_eq.mpr hxe.symm), if_pos ⟨e, List.mem_cons_self, hxe⟩, hxe]
      · rw [if_neg (mt beq_iff_eq.mp (Ne.symm hxe)), if_neg]
        rintro ⟨e', he', hk⟩
        rcases List.mem_cons.mp he' with rfl | he'
        · exact hxe hk
        · exact hr ⟨e', he', hk⟩

theorem has_iff {c : Cap} {k : Bytes} : c.has k = true ↔ ∃ e ∈ c.entries, e.key = k := by
  simp [Cap.has]

theorem get_mem (c : Cap) (k : Bytes) (e : Entry) (he : e ∈ (c.get k).1.entries) : e ∈ c.entries := by
  unfold Cap.get at he
  cases hf : c.find k with
  | none => rw [hf] at he; exact he
  | some e0 =>
    rw [hf] at he
    rcases List.mem_cons.mp he with rfl | he
    · exact List.mem_of_find?_eq_some hf
    · exact (List.mem_filter.mp he).1

theorem get_has (c : Cap) (k x : Bytes) (h : c.has x = true) : (c.get k).1.has x = true := by
  obtain ⟨e, he, rfl⟩ := has_iff.mp h
  unfold Cap.get
  cases hf : c.find k with
  | none => exact h
  | some e0 =>
    by_cases hek : e.key = k
    · exact has_iff.mpr ⟨e0, List.mem_cons_self, by rw [hek]; simpa using List.find?_some hf⟩
    · exact has_iff.mpr ⟨e, List.mem_cons_of_mem _ (List.mem_filter.mpr ⟨he, by simpa using hek⟩), rfl⟩

theorem get_fst (a : A) (k : Bytes) : (a.get k).1 = ⟨(a.mem.get k).1, a.db⟩ := by
  unfold A.get Cap.get
  cases a.mem.find k <;> rfl

structure AInv (V : Bytes → Bytes) (S : List Bytes) (a : A) : Prop where
  cap : LRU.CapInv a.mem
  memVals : ∀ e ∈ a.mem.entries, e.val = V e.key
  dbVals : ∀ k v, alookup k a.db = some v → v = V k
  stored : ∀ k ∈ S, a.mem.has k = true ∨ alookup k a.db = some (V k)

theorem AInv.init (V : Bytes → Bytes) (cap : Nat) (maxBytes : Int) : AInv V [] ⟨LRU.Cap.init cap maxBytes, []⟩ := by
  refine ⟨CapInv.init cap maxBytes, ?_, ?_, ?_⟩
  · intro e he; simp [Cap.init] at he
  · intro k v h; simp [alookup] at h
  · intro k hk; cases hk

theorem victims_vals (V : Bytes → Bytes) (S : List Bytes) (a : A) (k : Bytes) (size : Int) (h : AInv V S a) :
    ∀ e ∈ (a.mem.addSizedAndReturnEvicted Variant.current k (V k) size).2, e.val = V e.key := by
  intro e he
  obtain ⟨_, h2, _, _⟩ := addSizedAndReturnEvicted_conservation a.mem k (V k) size h.cap
  exact h.memVals e (h2 e he).1

theorem resident_after (a : A) (k v : Bytes) (size : Int) (h : CapInv a.mem) :
    ∀ e ∈ (a.mem.addSizedAndReturnEvicted Variant.current k v size).1.entries,
      e = ⟨k, v, size⟩ ∨ e ∈ a.mem.entries := by
  intro e he
  unfold Cap.addSizedAndReturnEvicted at he
  by_cases hs : size < 0
  · rw [addSizedCore_negative a.mem k v size hs, evictIfNeeded_noop a.mem h.bytes h.fits] at he
    exact Or.inr he
  · obtain ⟨rest, h1, h2, _, h4, _, _⟩ := addSizedCore_shape a.mem k v size h (by omega)
    have hm : e ∈ (a.mem.addSizedCore Variant.current k v size).entries := by
      rw [(evictIfNeeded_split _ h4).1]
      exact List.mem_append_left _ he
    rw [h1] at hm
    exact (List.mem_cons.mp hm).imp id fun hm => ((h2 e).mp hm).1

theorem victim_of_dropped (a : A) (k v : Bytes) (size : Int) (h : CapInv a.mem) (e : Entry) (he : e ∈ a.mem.entries)
    (hek : e.key ≠ k) (hnr : (a.mem.addSizedAndReturnEvicted Variant.current k v size).1.has e.key = false) :
    e ∈ (a.mem.addSizedAndReturnEvicted Variant.current k v size).2 := by
  rcases (addSizedAndReturnEvicted_conservation a.mem k v size h).1 e he hek with hres | hvict
  · rw [has_iff.mpr ⟨e, hres, rfl⟩] at hnr; cases hnr
  · exact hvict

/-- C17: a Put (valid size, non-empty serialisation) keeps every key put so far, and the new one, retrievable -/
theorem AInv.put (V : Bytes → Bytes) (S : List Bytes) (a : A) (k : Bytes) (size : Int) (h : AInv V S a)
    (hs : 0 ≤ size) (hv : ∀ x, V x ≠ []) : AInv V (k :: S) (a.put LRU.Variant.current k (V k) size).1 := by
  have hlook := fun x => alookup_spill hv x _ a.db (victims_vals V S a k size h)
  have hres := resident_after a k (V k) size h.cap
  have hdrop := victim_of_dropped a k (V k) size h.cap
  have hinv := CapInv.addSized a.mem k (V k) size h.cap
  have hhead := addSized_head a.mem k (V k) size h.cap hs
  rw [(addSizedAndReturnEvicted_conservation a.mem k (V k) size h.cap).2.2.2] at hinv hhead
  rw [put_eq]
  generalize a.mem.addSizedAndReturnEvicted Variant.current k (V k) size = r at *
  refine ⟨hinv, ?_, ?_, ?_⟩
  · intro e he
    rcases hres e he with rfl | he
    · rfl
    · exact h.memVals e he
  · intro x v hx
    rw [show (⟨r.1, r.2.foldl spill a.db⟩ : A).db = r.2.foldl spill a.db from rfl, hlook] at hx
    split at hx
    · cases hx; rfl
    · exact h.dbVals x v hx
  · intro x hx
    rw [show (⟨r.1, r.2.foldl spill a.db⟩ : A).db = r.2.foldl spill a.db from rfl, hlook]
    by_cases hxk : x = k
    · -- the written entry is at the head of the memory tier
      exact Or.inl (hxk ▸ has_iff.mpr ⟨_, List.mem_of_mem_head? hhead, rfl⟩)
    · rcases h.stored x ((List.mem_cons.mp hx).resolve_left hxk) with hm | hd
      · obtain ⟨e, he, rfl⟩ := has_iff.mp hm
        cases hr : r.1.has e.key
        · exact Or.inr (if_pos ⟨e, hdrop e he hxk hr, rfl⟩)
        · exact Or.inl rfl
      · right
        split
        · rfl
        · exact hd

theorem AInv.get (V : Bytes → Bytes) (S : List Bytes) (a : A) (k : Bytes) (h : AInv V S a) : AInv V S (a.get k).1 := by
  rw [get_fst]
  exact ⟨CapInv.get a.mem k h.cap, fun e hm => h.memVals e (get_mem a.mem k e hm), h.dbVals,
    fun x hx => (h.stored x hx).imp (get_has a.mem k x) id⟩

/-- every key put so far is reported by Has and returned by Get with its value -/
theorem retrievable (V : Bytes → Bytes) (S : List Bytes) (a : A) (k : Bytes) (h : AInv V S a) (hk : k ∈ S) :
    a.has k = true ∧ (a.get k).2 = some (V k) := by
  cases hm : a.mem.has k with
  | true =>
    obtain ⟨e, hf, he, hek⟩ := has_find a.mem k hm
    refine ⟨by simp [A.has, hm], ?_⟩
    unfold A.get Cap.get
    rw [hf]
    show some e.val = some (V k)
    rw [h.memVals e he, hek]
  | false =>
    have hd : alookup k a.db = some (V k) := (h.stored k hk).resolve_left (by simp [hm])
    refine ⟨by simp [A.has, hm, hd], ?_⟩
    unfold A.get Cap.get
    rw [(has_false a.mem k hm).1]
    exact hd

/-- entries leave the memory tier only by being written to the persister in the same step; the flag says whether anything was spilled -/
theorem put_spills (V : Bytes → Bytes) (S : List Bytes) (a : A) (k : Bytes) (size : Int) (h : AInv V S a) (hv : ∀ x, V x ≠ []) :
    let r := a.put LRU.Variant.current k (V k) size
    (∀ e ∈ a.mem.entries, e.key ≠ k → r.1.mem.has e.key = false → alookup e.key r.1.db = some e.val) ∧
    (r.2 = true ↔ ∃ e ∈ a.mem.entries, e.key ≠ k ∧ r.1.mem.has e.key = false) := by
  have hlook := fun x => alookup_spill hv x _ a.db (victims_vals V S a k size h)
  have hdrop := victim_of_dropped a k (V k) size h.cap
  have hvict := (addSizedAndReturnEvicted_conservation a.mem k (V k) size h.cap).2.1
  rw [put_eq]
  generalize a.mem.addSizedAndReturnEvicted Variant.current k (V k) size = r at *
  refine ⟨?_, ?_⟩
  · intro e he hek hnr
    rw [show (⟨r.1, r.2.foldl spill a.db⟩ : A).db = r.2.foldl spill a.db from rfl, hlook,
      if_pos ⟨e, hdrop e he hek hnr, rfl⟩, h.memVals e he]
  · rw [show (_, !r.2.isEmpty).2 = !r.2.isEmpty from rfl, Bool.not_eq_true', List.isEmpty_eq_false_iff]
    constructor
    · intro hne
      obtain ⟨e, he⟩ := List.exists_mem_of_ne_nil _ hne
      exact ⟨e, hvict e he⟩
    · intro ⟨e, he, hek, hnr⟩
      exact List.ne_nil_of_mem (hdrop e he hek hnr)

inductive Op where
  | put (k : Bytes) (size : Int)
  | get (k : Bytes)

def A.step (V : Bytes → Bytes) (a : A) : Op → A
  | .put k size => (a.put LRU.Variant.current k (V k) size).1
  | .get k => (a.get k).1

def putKeys : List Op → List Bytes
  | [] => []
  | .put k _ :: r => k :: putKeys r
  | .get _ :: r => putKeys r

theorem run_inv (V : Bytes → Bytes) (hv : ∀ x, V x ≠ []) (ops : List Op) :
    ∀ (S : List Bytes) (a : A), AInv V S a →
      (∀ op ∈ ops, (match op with | .put _ s => 0 ≤ s | .get _ => True)) →
      AInv V ((putKeys ops).reverse ++ S) (ops.foldl (A.step V) a) := by
  induction ops with
  | nil => intro S a h _; exact h
  | cons op r ih =>
    intro S a h hs
    have hs' : ∀ op ∈ r, (match op with | .put _ s => 0 ≤ s | .get _ => True) :=
      fun o ho => hs o (List.mem_cons_of_mem _ ho)
    cases op with
    | put k size =>
      have := ih (k :: S) _ (AInv.put V S a k size h (hs (.put k size) List.mem_cons_self) hv) hs'
      rwa [putKeys, List.reverse_cons, List.append_assoc]
    | get k => exact ih S _ (AInv.get V S a k h) hs'

theorem run_never_loses (V : Bytes → Bytes) (hv : ∀ x, V x ≠ []) (cap : Nat) (maxBytes : Int) (ops : List Op)
    (hs : ∀ op ∈ ops, (match op with | .put _ s => 0 ≤ s | .get _ => True)) (k : Bytes) (hk : k ∈ putKeys ops) :
    let a := ops.foldl (A.step V) ⟨LRU.Cap.init cap maxBytes, []⟩
    a.has k = true ∧ (a.get k).2 = some (V k) :=
  retrievable V _ _ k (run_inv V hv ops [] _ (AInv.init V cap maxBytes) hs)
    (List.mem_append_left _ (List.mem_reverse.mpr hk))

/-- F11 (pre-repair): the legacy LRU evicted silently and the adapter lost the entry -/
theorem legacy_loses_entry : ∃ (a : A) (k v : Bytes) (size : Int) (e : LRU.Entry),
    e ∈ a.mem.entries ∧ e.key ≠ k ∧ (a.put LRU.Variant.legacy k v size).1.has e.key = false :=
  ⟨⟨⟨3, 10, [⟨[1], [], 4⟩, ⟨[2], [], 4⟩], 8⟩, []⟩, [1], [], 8, ⟨[2], [], 4⟩, by decide⟩

end SV.Adapter
