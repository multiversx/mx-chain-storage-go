/-
  SV.Misc.AdapterMore — C17 for the remaining entry points of storageCacherAdapter:
  HasOrAdd, Remove, Has, Peek, Clear and the `numValuesInStorage` counter behind `Len`.

  Main results
    * `AInv.hasOrAdd`, `AInv.remove`, `AInv.clear`, `AInv.mono`     — the invariant of AdapterProofs is preserved
    * `run_inv2`, `run_never_loses2`                                  — histories over Put/HasOrAdd/Get/Has/Peek/Remove:
                                                                        every live key is reported by Has and returned by Get
    * `mem_liveKeys_iff`                                              — `liveKeys` = inserted by a put/hoa and no later rm
    * `hasOrAdd_spec`, `hasOrAdd_spills`                              — HasOrAdd = Has, then Put when absent; spill clause
    * `remove_has`, `remove_quirk`                                    — what Has says after Remove (the stale spilled copy)
    * `clear_keeps_spilled`, `clear_drops_resident`                   — Clear purges the memory tier only
    * `AL.put_len`, `AL.put_len_domain`, `AL.hasOrAdd_len`, `AL.remove_len`, `len_drift`, `len_negative`
                                                                      — the exact `Len` equations and the counter's drift
-/
import SV.Misc.AdapterProofs
namespace SV.Adapter
open SV SV.LRU

/-! ### the memory tier's `remove` and `purge` -/

theorem remove_flag (c : Cap) (k : Bytes) : (c.remove k).2 = c.has k := by
  unfold Cap.remove
  cases hk : c.has k with
  | true => obtain ⟨e, hf, _, _⟩ := has_find c k hk; rw [hf]
  | false => obtain ⟨hf, _⟩ := has_false c k hk; rw [hf]

theorem has_remove_ne (c : Cap) (k x : Bytes) (hx : x ≠ k) : (c.remove k).1.has x = c.has x := by
  unfold Cap.has
  rw [Cap.remove_entries]
  rw [Bool.eq_iff_iff]
  simp only [List.any_eq_true, List.mem_filter, beq_iff_eq, bne_iff_ne, ne_eq]
  constructor
  · intro ⟨e, ⟨he, _⟩, hk⟩; exact ⟨e, he, hk⟩
  · intro ⟨e, he, hk⟩; exact ⟨e, ⟨he, by rw [hk]; exact hx⟩, hk⟩

theorem has_remove_self (c : Cap) (k : Bytes) : (c.remove k).1.has k = false := by
  unfold Cap.has
  rw [Cap.remove_entries]
  simp only [List.any_eq_false, List.mem_filter, bne_iff_ne, ne_eq, beq_iff_eq]
  intro e he
  exact he.2

theorem has_purge (c : Cap) (k : Bytes) : c.purge.has k = false := rfl

theorem remove_eq (a : A) (k : Bytes) :
    a.remove k = ⟨(a.mem.remove k).1, if a.mem.has k then a.db else aerase k a.db⟩ := by
  unfold A.remove
  have hfl := remove_flag a.mem k
  cases hr : a.mem.remove k with
  | mk m b =>
    rw [hr] at hfl
    rw [← hfl]
    cases b <;> simp

/-! ### the invariant: Has-or-add, Remove, Clear -/

theorem AInv.mono {V : Bytes → Bytes} {S S' : List Bytes} {a : A} (h : AInv V S a) (hs : ∀ x ∈ S', x ∈ S) :
    AInv V S' a :=
  ⟨h.cap, h.memVals, h.dbVals, fun k hk => h.stored k (hs k hk)⟩

theorem AInv.spilled {V : Bytes → Bytes} {S : List Bytes} {a : A} (h : AInv V S a) {k : Bytes}
    (hk : (alookup k a.db).isSome = true) : alookup k a.db = some (V k) := by
  obtain ⟨v, hv⟩ := Option.isSome_iff_exists.mp hk
  rw [hv, h.dbVals k v hv]

/-- C17 for `HasOrAdd`: afterwards the key is tracked (it was retrievable, or it has just been put) -/
theorem AInv.hasOrAdd (V : Bytes → Bytes) (S : List Bytes) (a : A) (k : Bytes) (size : Int) (h : AInv V S a)
    (hs : 0 ≤ size) (hv : ∀ x, V x ≠ []) : AInv V (k :: S) (a.hasOrAdd LRU.Variant.current k (V k) size).1 := by
  unfold A.hasOrAdd
  cases hk : a.has k with
  | true =>
    -- a key reported by `Has` is resident, or spilled with its bound value
    refine ⟨h.cap, h.memVals, h.dbVals, fun x hx => ?_⟩
    rcases List.mem_cons.mp hx with rfl | hx
    · exact (Bool.or_eq_true _ _ ▸ hk).imp id h.spilled
    · exact h.stored x hx
  | false => exact AInv.put V S a k size h hs hv

/-- C17 for `Remove`: every tracked key other than the removed one stays tracked -/
theorem AInv.remove (V : Bytes → Bytes) (S : List Bytes) (a : A) (k : Bytes) (h : AInv V S a) :
    AInv V (S.filter (· != k)) (a.remove k) := by
  rw [remove_eq]
  have hdb : ∀ x, x ≠ k → alookup x (if a.mem.has k then a.db else aerase k a.db) = alookup x a.db := by
    intro x hxk
    split
    · rfl
    · exact alookup_aerase_ne a.db hxk
  refine ⟨CapInv.remove a.mem k h.cap, ?_, ?_, ?_⟩
  · intro e he
    rw [show (⟨(a.mem.remove k).1, _⟩ : A).mem = (a.mem.remove k).1 from rfl, Cap.remove_entries] at he
    exact h.memVals e (List.mem_filter.mp he).1
  · intro x v hx
    by_cases hxk : x = k
    · rw [show (⟨(a.mem.remove k).1, _⟩ : A).db = _ from rfl] at hx
      split at hx
      · exact h.dbVals x v hx
      · rw [hxk, alookup_aerase_self] at hx; cases hx
    · exact h.dbVals x v ((hdb x hxk).symm.trans hx)
  · intro x hx
    obtain ⟨hxS, hne⟩ := List.mem_filter.mp hx
    have hxk : x ≠ k := by simpa using hne
    exact (h.stored x hxS).imp (fun hm => (has_remove_ne _ _ _ hxk).trans hm) fun hd => (hdb x hxk).trans hd

/-- `Clear`: the tracked keys that have a spilled copy stay tracked -/
theorem AInv.clear (V : Bytes → Bytes) (S : List Bytes) (a : A) (h : AInv V S a) :
    AInv V (S.filter (fun k => (alookup k a.db).isSome)) a.clear :=
  ⟨CapInv.purge a.mem, fun _ he => (nomatch he), h.dbVals, fun _ hx => Or.inr (h.spilled (List.mem_filter.mp hx).2)⟩

/-! ### histories over all entry points -/

inductive Op2 where
  | put (k : Bytes) (size : Int)
  | hoa (k : Bytes) (size : Int)
  | get (k : Bytes)
  | has (k : Bytes)
  | peek (k : Bytes)
  | rm (k : Bytes)
  deriving DecidableEq, Repr

/-- one call (values are `V k`; `Has`/`Peek` are read-only) -/
def A.step2 (V : Bytes → Bytes) (a : A) : Op2 → A
  | .put k size => (a.put LRU.Variant.current k (V k) size).1
  | .hoa k size => (a.hasOrAdd LRU.Variant.current k (V k) size).1
  | .get k => (a.get k).1
  | .has _ => a
  | .peek _ => a
  | .rm k => a.remove k

def Op2.sizeOk : Op2 → Prop
  | .put _ s => 0 ≤ s
  | .hoa _ s => 0 ≤ s
  | _ => True

/-- does the call insert key `k`?  A `hoa` counts whether or not it found the key: if it found it the key was
    retrievable already (and stays so), otherwise it has just been put. -/
def Op2.inserts (k : Bytes) : Op2 → Bool
  | .put k' _ => k' == k
  | .hoa k' _ => k' == k
  | _ => false

def liveStep (S : List Bytes) : Op2 → List Bytes
  | .put k _ => k :: S
  | .hoa k _ => k :: S
  | .rm k => S.filter (· != k)
  | _ => S

/-- keys inserted by a `put` or a `hoa` and not removed by a later `rm` (see `mem_liveKeys_iff`) -/
def liveKeys (ops : List Op2) : List Bytes := ops.foldl liveStep []

theorem mem_liveStep (k : Bytes) (S : List Bytes) (o : Op2) :
    k ∈ liveStep S o ↔ (k ∈ S ∧ o ≠ .rm k) ∨ o.inserts k = true := by
  cases o with
  | put k' s | hoa k' s =>
    simp only [liveStep, Op2.inserts, List.mem_cons, beq_iff_eq, ne_eq, reduceCtorEq, not_false_eq_true, and_true]
    exact or_comm.trans (or_congr_right eq_comm)
  | rm k' =>
    simp only [liveStep, Op2.inserts, List.mem_filter, bne_iff_ne, ne_eq, Op2.rm.injEq, Bool.false_eq_true, or_false]
    exact and_congr_right fun _ => not_congr eq_comm
  | get _ | has _ | peek _ => simp [liveStep, Op2.inserts]

theorem mem_liveFold_iff (k : Bytes) (ops : List Op2) : ∀ S : List Bytes,
    k ∈ ops.foldl liveStep S ↔
      (k ∈ S ∧ Op2.rm k ∉ ops) ∨
      ∃ pre op post, ops = pre ++ op :: post ∧ op.inserts k = true ∧ Op2.rm k ∉ post := by
  induction ops with
  | nil =>
    intro S
    simp
  | cons o r ih =>
    intro S
    rw [List.foldl_cons, ih (liveStep S o), mem_liveStep]
    constructor
    · rintro (⟨⟨hS, hne⟩ | hins, hr⟩ | ⟨pre, op, post, rfl, hins, hpost⟩)
      · exact Or.inl ⟨hS, fun hm => (List.mem_cons.mp hm).elim (fun e => hne e.symm) hr⟩
      · exact Or.inr ⟨[], o, r, rfl, hins, hr⟩
      · exact Or.inr ⟨o :: pre, op, post, rfl, hins, hpost⟩
    · rintro (⟨hS, hnm⟩ | ⟨pre, op, post, heq, hins, hpost⟩)
      · exact Or.inl ⟨Or.inl ⟨hS, fun e => hnm (e ▸ List.mem_cons_self)⟩, fun h => hnm (List.mem_cons_of_mem _ h)⟩
      · cases pre with
        | nil =>
          obtain ⟨rfl, rfl⟩ := List.cons.inj heq
          exact Or.inl ⟨Or.inr hins, hpost⟩
        | cons p pre' =>
          obtain ⟨rfl, rfl⟩ := List.cons.inj heq
          exact Or.inr ⟨pre', op, post, rfl, hins, hpost⟩

theorem mem_liveKeys_iff (k : Bytes) (ops : List Op2) :
    k ∈ liveKeys ops ↔ ∃ pre op post, ops = pre ++ op :: post ∧ op.inserts k = true ∧ Op2.rm k ∉ post := by
  unfold liveKeys
  rw [mem_liveFold_iff]
  simp

theorem AInv.step2 (V : Bytes → Bytes) (hv : ∀ x, V x ≠ []) (S : List Bytes) (a : A) (op : Op2)
    (h : AInv V S a) (hs : op.sizeOk) : AInv V (liveStep S op) (a.step2 V op) := by
  cases op with
  | put k size => exact AInv.put V S a k size h hs hv
  | hoa k size => exact AInv.hasOrAdd V S a k size h hs hv
  | get k => exact AInv.get V S a k h
  | has k => exact h
  | peek k => exact h
  | rm k => exact AInv.remove V S a k h

theorem run_inv2 (V : Bytes → Bytes) (hv : ∀ x, V x ≠ []) (ops : List Op2) (S : List Bytes) (a : A) (h : AInv V S a)
    (hs : ∀ op ∈ ops, op.sizeOk) : AInv V (ops.foldl liveStep S) (ops.foldl (A.step2 V) a) :=
  List.foldl_rel (r := AInv V) h fun op hop S a h => AInv.step2 V hv S a op h (hs op hop)

/-- C17, all entry points: after any history of Put / HasOrAdd / Get / Has / Peek / Remove (valid sizes, every key
    bound to one non-empty value) every live key is reported by `Has` and returned by `Get` with its value -/
theorem run_never_loses2 (V : Bytes → Bytes) (hv : ∀ x, V x ≠ []) (cap : Nat) (maxBytes : Int) (ops : List Op2)
    (hs : ∀ op ∈ ops, op.sizeOk) (k : Bytes) (hk : k ∈ liveKeys ops) :
    let a := ops.foldl (A.step2 V) ⟨LRU.Cap.init cap maxBytes, []⟩
    a.has k = true ∧ (a.get k).2 = some (V k) := by
  intro a
  exact retrievable V (liveKeys ops) a k (run_inv2 V hv ops [] _ (AInv.init V cap maxBytes) hs) hk

theorem run_never_loses2' (V : Bytes → Bytes) (hv : ∀ x, V x ≠ []) (cap : Nat) (maxBytes : Int)
    (pre post : List Op2) (op : Op2) (k : Bytes) (hs : ∀ o ∈ pre ++ op :: post, o.sizeOk)
    (hins : op.inserts k = true) (hrm : Op2.rm k ∉ post) :
    let a := (pre ++ op :: post).foldl (A.step2 V) ⟨LRU.Cap.init cap maxBytes, []⟩
    a.has k = true ∧ (a.get k).2 = some (V k) :=
  run_never_loses2 V hv cap maxBytes _ hs k ((mem_liveKeys_iff k _).mpr ⟨pre, op, post, rfl, hins, hrm⟩)

theorem hasOrAdd_spec (vr : Variant) (a : A) (k v : Bytes) (size : Int) :
    (a.hasOrAdd vr k v size).2.1 = a.has k ∧
    (a.has k = true → a.hasOrAdd vr k v size = (a, true, false)) ∧
    (a.has k = false → a.hasOrAdd vr k v size = ((a.put vr k v size).1, false, (a.put vr k v size).2)) := by
  unfold A.hasOrAdd
  cases hk : a.has k <;> simp

theorem hasOrAdd_spills (V : Bytes → Bytes) (S : List Bytes) (a : A) (k : Bytes) (size : Int) (h : AInv V S a)
    (hv : ∀ x, V x ≠ []) :
    let r := a.hasOrAdd LRU.Variant.current k (V k) size
    (∀ e ∈ a.mem.entries, e.key ≠ k → r.1.mem.has e.key = false → alookup e.key r.1.db = some e.val) ∧
    (r.2.2 = true ↔ ∃ e ∈ a.mem.entries, e.key ≠ k ∧ r.1.mem.has e.key = false) := by
  obtain ⟨_, ht, hf⟩ := hasOrAdd_spec LRU.Variant.current a k (V k) size
  cases hk : a.has k with
  | true =>
    -- nothing was written: every resident entry is still resident
    rw [ht hk]
    have hres : ∀ e ∈ a.mem.entries, a.mem.has e.key ≠ false := fun e he => by simp [has_iff.mpr ⟨e, he, rfl⟩]
    exact ⟨fun e he _ hnr => absurd hnr (hres e he),
      fun h0 => Bool.noConfusion h0, fun ⟨e, he, _, hnr⟩ => absurd hnr (hres e he)⟩
  | false =>
    rw [hf hk]
    have hp := put_spills V S a k size h hv
    exact hp

/-- what `Has k` says right after `Remove k`: true exactly when the key was resident in memory AND an older spilled
    copy sits in the persister (the coded quirk); in particular a key that was not resident is gone -/
theorem remove_has (a : A) (k : Bytes) :
    (a.remove k).has k = (a.mem.has k && (alookup k a.db).isSome) := by
  rw [remove_eq]
  unfold A.has
  show ((a.mem.remove k).1.has k || (alookup k (if a.mem.has k then a.db else aerase k a.db)).isSome) = _
  rw [has_remove_self]
  cases hk : a.mem.has k with
  | true => simp
  | false => simp [alookup_aerase_self]

theorem remove_has_ne (a : A) (k x : Bytes) (hx : x ≠ k) : (a.remove k).has x = a.has x := by
  rw [remove_eq]
  unfold A.has
  show ((a.mem.remove k).1.has x || (alookup x (if a.mem.has k then a.db else aerase k a.db)).isSome) = _
  rw [has_remove_ne _ _ _ hx]
  split
  · rfl
  · rw [alookup_aerase_ne _ hx]

/-- the quirk is reachable (cap = 1): put a, put b (a spilled), put a (b spilled; a resident AND spilled), rm a:
    `Has a` is still true and `Get a` still returns the old value -/
theorem remove_quirk :
    let V : Bytes → Bytes := fun k => 7 :: k
    let a := [Op2.put [1] 1, .put [2] 1, .put [1] 1, .rm [1]].foldl (A.step2 V) ⟨LRU.Cap.init 1 100, []⟩
    a.has [1] = true ∧ (a.get [1]).2 = some (V [1]) ∧ [1] ∉ liveKeys [Op2.put [1] 1, .put [2] 1, .put [1] 1, .rm [1]] := by
  decide

/-- `Clear` purges the memory tier only: every key whose value is in the persister is still reported by `Has` and
    returned by `Get` (no invariant needed) -/
theorem clear_keeps_spilled (a : A) (k v : Bytes) (h : alookup k a.db = some v) :
    a.clear.has k = true ∧ (a.clear.get k).2 = some v ∧ a.clear.db = a.db ∧ a.clear.mem.entries = [] := by
  refine ⟨?_, ?_, rfl, rfl⟩
  · show (a.mem.purge.has k || (alookup k a.db).isSome) = true
    rw [h]; simp
  · show (match a.mem.purge.get k with
      | (m, some v) => (({ a.clear with mem := m } : A), some v)
      | (_, none) => (a.clear, alookup k a.clear.db)).2 = some v
    have : a.mem.purge.get k = (a.mem.purge, none) := rfl
    rw [this]
    exact h

theorem clear_has (a : A) (k : Bytes) : a.clear.has k = (alookup k a.db).isSome := by
  show (a.mem.purge.has k || (alookup k a.db).isSome) = _
  rw [has_purge]; simp

theorem clear_keeps_tracked (V : Bytes → Bytes) (S : List Bytes) (a : A) (h : AInv V S a) (k : Bytes) (hk : k ∈ S)
    (hd : (alookup k a.db).isSome = true) : a.clear.has k = true ∧ (a.clear.get k).2 = some (V k) :=
  retrievable V _ a.clear k (AInv.clear V S a h) (List.mem_filter.mpr ⟨hk, hd⟩)

/-- `Clear` does drop a key that is resident only (cap = 2: put a; clear) -/
theorem clear_drops_resident :
    let V : Bytes → Bytes := fun k => 7 :: k
    let a := ([Op2.put [1] 1].foldl (A.step2 V) ⟨LRU.Cap.init 2 100, []⟩)
    a.has [1] = true ∧ a.clear.has [1] = false := by
  decide

theorem core_length (c : Cap) (k v : Bytes) (size : Int) (h : CapInv c) (hs : ¬ size < 0) :
    (c.addSizedCore Variant.current k v size).entries.length =
      if c.has k = true then c.entries.length else c.entries.length + 1 := by
  unfold Cap.addSizedCore
  rw [if_neg hs]
  cases hk : c.has k with
  | true =>
    obtain ⟨old, hfind, _, _⟩ := has_find c k hk
    rw [if_pos rfl, if_pos rfl, Cap.update, hfind]
    exact (filter_find_facts k c.entries old h.keysNodup hfind).1
  | false =>
    rw [if_neg Bool.false_ne_true, if_neg Bool.false_ne_true]
    rfl

theorem put_resident_count (c : Cap) (k v : Bytes) (size : Int) (h : CapInv c) :
    ((c.addSizedAndReturnEvicted Variant.current k v size).1.entries.length : Int) +
        (c.addSizedAndReturnEvicted Variant.current k v size).2.length =
      c.entries.length + (if size < 0 ∨ c.has k = true then 0 else 1) := by
  unfold Cap.addSizedAndReturnEvicted
  by_cases hs : size < 0
  · rw [addSizedCore_negative c k v size hs, evictIfNeeded_noop c h.bytes h.fits, if_pos (Or.inl hs)]
    rfl
  · obtain ⟨_, _, _, _, h4, _, _⟩ := addSizedCore_shape c k v size h (by omega)
    -- eviction only moves entries from the cache to the list of victims
    have hsplit := congrArg List.length (evictIfNeeded_split _ h4).1
    rw [List.length_append, List.length_reverse, core_length c k v size h hs] at hsplit
    generalize (c.addSizedCore Variant.current k v size).evictIfNeeded = r at hsplit ⊢
    by_cases hk : c.has k = true
    · rw [if_pos hk] at hsplit; rw [if_pos (Or.inr hk)]; omega
    · rw [if_neg hk] at hsplit; rw [if_neg (not_or.mpr ⟨hs, hk⟩)]; omega

/-- the exact `Len` equation for `Put`: +1 when the key was not resident (and the size is valid), −1 per victim,
    +1 per victim actually written to the persister.  Nothing in it looks at what the persister already holds: the
    counter counts persister WRITES, not distinct spilled keys. -/
theorem AL.put_len (x : AL) (k v : Bytes) (size : Int) (h : CapInv x.a.mem) :
    let victims := (x.a.mem.addSizedAndReturnEvicted Variant.current k v size).2
    (x.put Variant.current k v size).1.len =
      x.len + (if size < 0 ∨ x.a.mem.has k = true then 0 else 1) - victims.length
        + (victims.filter (fun e => !e.val.isEmpty)).length := by
  have hc := put_resident_count x.a.mem k v size h
  unfold AL.put AL.len
  rw [put_eq]
  generalize x.a.mem.addSizedAndReturnEvicted Variant.current k v size = r at hc ⊢
  dsimp only
  omega

/-- in the domain of C17 (bound non-empty values, valid size) every victim is written, so `Len` grows by one exactly
    when the key was not RESIDENT — also when the key already has a spilled copy, and also when a victim overwrites
    its older spilled copy -/
theorem AL.put_len_domain (V : Bytes → Bytes) (hv : ∀ x, V x ≠ []) (S : List Bytes) (x : AL) (k : Bytes) (size : Int)
    (h : AInv V S x.a) (hs : 0 ≤ size) :
    (x.put Variant.current k (V k) size).1.len = x.len + (if x.a.mem.has k = true then 0 else 1) := by
  have hl := AL.put_len x k (V k) size h.cap
  simp only at hl
  rw [hl]
  have hvv := victims_vals V S x.a k size h
  have hfil : ((x.a.mem.addSizedAndReturnEvicted Variant.current k (V k) size).2.filter (fun e => !e.val.isEmpty)) =
      (x.a.mem.addSizedAndReturnEvicted Variant.current k (V k) size).2 := by
    rw [List.filter_eq_self]
    intro e he
    rw [hvv e he]
    cases hV : V e.key with
    | nil => exact absurd hV (hv _)
    | cons _ _ => rfl
  rw [hfil]
  have hns : ¬ size < 0 := by omega
  simp only [hns, false_or]
  omega

theorem AL.hasOrAdd_len (x : AL) (k v : Bytes) (size : Int) :
    (x.hasOrAdd Variant.current k v size).1.len =
      if x.a.has k = true then x.len else (x.put Variant.current k v size).1.len := by
  unfold AL.hasOrAdd
  cases hk : x.a.has k <;> simp

/-- `Remove` always lowers `Len` by one — when the key was resident (one entry less), when it was spilled (counter
    decremented) and ALSO when the key was nowhere (counter decremented all the same) -/
theorem AL.remove_len (x : AL) (k : Bytes) (h : CapInv x.a.mem) : (x.remove k).len = x.len - 1 := by
  unfold AL.remove AL.len
  show (((x.a.remove k).mem.entries.length : Int) + (if x.a.mem.has k = true then x.stored else x.stored - 1)) = _
  rw [remove_eq]
  show ((((x.a.mem.remove k).1.entries.length : Int)) + _) = _
  cases hk : x.a.mem.has k with
  | true =>
    obtain ⟨e, hfind, _, _⟩ := has_find x.a.mem k hk
    obtain ⟨hl, _⟩ := filter_find_facts k x.a.mem.entries e h.keysNodup hfind
    rw [Cap.remove_entries]
    simp only [if_true]
    omega
  | false =>
    obtain ⟨hfind, _⟩ := has_false x.a.mem k hk
    have : (x.a.mem.remove k).1 = x.a.mem := by unfold Cap.remove; rw [hfind]
    rw [this]
    simp only [Bool.false_eq_true, if_false]
    omega

/-- the drift (cap = 1): put a, put b, put a → two distinct keys are held (a resident, a and b spilled) but `Len` = 3;
    each further a/b alternation adds one -/
theorem len_drift :
    let V : Bytes → Bytes := fun k => 7 :: k
    let put := fun (x : AL) (k : Bytes) => (x.put Variant.current k (V k) 1).1
    let x0 : AL := ⟨⟨LRU.Cap.init 1 100, []⟩, 0⟩
    let x3 := put (put (put x0 [1]) [2]) [1]
    let x5 := put (put x3 [2]) [1]
    x3.len = 3 ∧ x3.a.keys = [[1], [1], [2]] ∧ x5.len = 5 ∧ x5.a.keys = [[1], [1], [2]] := by
  decide

/-- …and `Len` can go negative: removing an absent key from the empty adapter -/
theorem len_negative : ((⟨⟨LRU.Cap.init 1 100, []⟩, 0⟩ : AL).remove [1]).len = -1 := by
  decide

/-- the hypotheses of `run_never_loses2` are satisfiable by a history that exercises every entry point -/
example :
    let ops := [Op2.put [1] 1, .put [2] 1, .hoa [3] 1, .has [1], .peek [2], .get [1], .rm [2], .hoa [1] 1]
    (∀ op ∈ ops, op.sizeOk) ∧ liveKeys ops = [[1], [3], [1]] := by
  refine ⟨?_, by decide⟩
  intro op hop
  simp only [List.mem_cons, List.not_mem_nil, or_false] at hop
  rcases hop with rfl | rfl | rfl | rfl | rfl | rfl | rfl | rfl <;> simp [Op2.sizeOk]

example : ∀ x : Bytes, (fun k : Bytes => (7 : UInt8) :: k) x ≠ [] := by intro x; simp

/-- cap = 2: a `hoa` on a full tier spills the LRU victim `[1]`, reports `spilled = true`, and `[1]` stays retrievable
    from the persister (it is no longer resident); the later `rm [2]` removes `[2]` for good -/
theorem hoa_spill_example :
    let V : Bytes → Bytes := fun k => 7 :: k
    let a0 : A := ⟨LRU.Cap.init 2 100, []⟩
    let a2 := [Op2.put [1] 1, .put [2] 1].foldl (A.step2 V) a0
    let r := a2.hasOrAdd Variant.current [3] (V [3]) 1
    let a4 := [Op2.rm [2]].foldl (A.step2 V) r.1
    r.2.1 = false ∧ r.2.2 = true ∧ r.1.mem.has [1] = false ∧ r.1.peek [1] = none ∧
    r.1.has [1] = true ∧ (r.1.get [1]).2 = some (V [1]) ∧ r.1.has [3] = true ∧
    a4.has [2] = false ∧ a4.has [1] = true ∧ (a4.get [3]).2 = some (V [3]) ∧
    (a2.hasOrAdd Variant.current [1] (V [1]) 1).2 = (true, false) ∧
    (a2.hasOrAdd Variant.current [1] (V [1]) 1).1.mem.entries = a2.mem.entries ∧
    (a2.hasOrAdd Variant.current [1] (V [1]) 1).1.db = a2.db := by
  decide

/-- instance of `AInv.remove`/`AInv.hasOrAdd` hypotheses: the initial state satisfies the invariant -/
example : AInv (fun k => 7 :: k) [] ⟨LRU.Cap.init 2 100, []⟩ := AInv.init _ 2 100

end SV.Adapter
