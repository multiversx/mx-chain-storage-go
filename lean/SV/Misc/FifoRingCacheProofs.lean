/-
  SV.Misc.FifoRingCacheProofs — the sharded FIFO cache over ring shards (`SV.Misc.FifoRingCache`) refines the
  age-ordered cache model `SV.Fifo.Cache` (property C20).

    invariant      `RCacheInv`: `RCacheInv.init` needs only `1 ≤ n`; kept by every operation
    commutation    `toCache_put`, `toCache_hasOrAdd`, `toCache_get`, `toCache_remove`, `toCache_len`,
                   `toCache_keysPerShard`, `toCache_clear`   (all literal equalities)
    Clear          `clearWith_shards` / `clear_state`: the Go `Clear` (Remove key by key) leaves every slot blank, `items`
                   empty and `idxAdd` WHERE IT WAS; its abstraction is literally `Cache.clear`
    sequences      `crun_refines`, `crun_init`
    transfer       `RCacheInv.toCacheInv`, `rcache_bound`, `rcache_put_resident`
-/
import SV.Misc.FifoRingCache
import SV.Misc.FifoRingProofs

namespace SV.Fifo
open SV

/-! ### ring level: `items` only grows by the key written -/

theorem advance_items_sub (r : Ring) (x : Bytes) : x ∈ r.advance.items.map (·.1) → x ∈ r.items.map (·.1) := by
  unfold Ring.advance
  split
  · exact mem_keys_aerase
  · exact id

theorem Ring.set_items_sub (r : Ring) (k v x : Bytes) :
    x ∈ (r.set k v).items.map (·.1) → x = k ∨ x ∈ r.items.map (·.1) := by
  rw [set_eq, appendKey_eq]
  intro h
  exact mem_keys_aset (advance_items_sub _ x h)

theorem Ring.setIfAbsent_items_sub (r : Ring) (k v x : Bytes) :
    x ∈ (r.setIfAbsent k v).1.items.map (·.1) → x = k ∨ x ∈ r.items.map (·.1) := by
  cases hp : (alookup k r.items).isSome with
  | true => rw [Ring.setIfAbsent_present r k v hp]; exact Or.inr
  | false => rw [Ring.setIfAbsent_absent r k v hp]; exact Ring.set_items_sub r k v x

theorem Ring.remove_items_sub (r : Ring) (k x : Bytes) :
    x ∈ (r.remove k).items.map (·.1) → x ∈ r.items.map (·.1) := by
  unfold Ring.remove
  split
  · exact mem_keys_aerase
  · exact id

/-! ### removing a list of keys from one shard -/

theorem foldl_blank_all (ks : List Bytes) : ∀ (v : List (Option Bytes)), (∀ x, some x ∈ v → x ∈ ks) →
    ks.foldl (fun v k => blank k v) v = v.map (fun _ => none) := by
  induction ks with
  | nil =>
    intro v h
    refine (List.map_id v).symm.trans (List.map_congr_left fun a ha => ?_)
    cases a with
    | none => rfl
    | some x => exact absurd (h x ha) List.not_mem_nil
  | cons k ks ih =>
    intro v h
    simp only [List.foldl_cons]
    rw [ih (blank k v)]
    · simp [blank]
    · intro x hx
      obtain ⟨h1, h2⟩ := (mem_blank k x v).mp hx
      exact (List.mem_cons.mp (h x h2)).resolve_left h1

theorem ring_remove_eq (r : Ring) (k : Bytes) (h : RingInv r) :
    r.remove k = ⟨r.m, r.idxAdd, blank k r.slots, aerase k r.items⟩ := by
  cases hp : (alookup k r.items).isSome with
  | true => exact Ring.remove_present r k h.toSlotsInv hp
  | false =>
    have hk : k ∉ r.items.map (·.1) := fun hm => by rw [alookup_isSome_iff.mpr hm] at hp; cases hp
    rw [Ring.remove_absent r k hp, aerase_of_not_mem hk, blank_eq_self k r.slots]
    intro hm
    obtain ⟨i, hi⟩ := List.mem_iff_getElem?.mp hm
    exact hk (alookup_isSome_iff.mp (h.slotItem i k hi))

theorem ring_foldl_remove (ks : List Bytes) : ∀ (r : Ring), RingInv r →
    ks.foldl Ring.remove r
      = ⟨r.m, r.idxAdd, ks.foldl (fun v k => blank k v) r.slots, ks.foldl (fun l k => aerase k l) r.items⟩ := by
  induction ks with
  | nil => intro r _; rfl
  | cons k ks ih =>
    intro r h
    simp only [List.foldl_cons]
    rw [ih _ (RingInv.remove r k h), ring_remove_eq r k h]

theorem ring_clear_state (r : Ring) (ks : List Bytes) (h : RingInv r) (hks : ∀ x ∈ r.keys, x ∈ ks) :
    ks.foldl Ring.remove r = ⟨r.m, r.idxAdd, List.replicate r.m none, []⟩ := by
  rw [ring_foldl_remove ks r h]
  have hres : ∀ x, x ∈ r.items.map (·.1) → x ∈ ks := by
    intro x hx
    apply hks
    rw [keys_resident r h]
    unfold Ring.get
    rw [Option.isSome_map, alookup_isSome_iff]; exact hx
  congr 1
  · rw [foldl_blank_all]
    · rw [← h.len]
      exact List.map_const' ..
    · intro x hx
      obtain ⟨i, hi⟩ := List.mem_iff_getElem?.mp hx
      exact hres x (alookup_isSome_iff.mp (h.slotItem i x hi))
  · apply foldl_aerase_nil
    intro p hp
    exact hres p.1 (List.mem_map_of_mem hp)

/-- the cleared ring abstracts to the reset shard: a view does not show `idxAdd` -/
theorem toShard_cleared (r : Ring) :
    (⟨r.m, r.idxAdd, List.replicate r.m none, []⟩ : Ring).toShard = ⟨r.toShard.view.map (fun _ => none), []⟩ := by
  refine Shard.ext' (view_ext _ _ ((List.length_map _).trans (toShard_view_length r)) fun j hj => ?_) rfl
  rw [List.getElem?_map, toShard_view_getElem? r j hj]
  show some none = some (((List.replicate r.m none)[_]?).getD none)
  rw [List.getElem?_replicate]
  split <;> rfl

/-! ### the cache invariant -/

theorem shardSize_pos (size n : Nat) : 1 ≤ shardSize size n := by
  have h : 1 ≤ (if size / n = 0 then 1 else size / n) := by
    split
    · exact Nat.le_refl 1
    · next hq => exact Nat.one_le_iff_ne_zero.mpr hq
  unfold shardSize
  by_cases hr : size % n ≠ 0
  · rw [if_pos hr]; exact Nat.le_succ_of_le h
  · rw [if_neg hr]; exact h

/-- representation invariant of the whole cache; `size` is the constructor argument (it fixes `maxSize` of the shards) -/
structure RCacheInv (size : Nat) (c : RCache) : Prop where
  len : c.shards.length = c.n
  pos : 1 ≤ c.n
  ring : ∀ r ∈ c.shards, RingInv r
  msize : ∀ r ∈ c.shards, r.m = shardSize size c.n
  /-- every key lives in the shard `GetShard` sends it to -/
  route : ∀ (i : Nat) (r : Ring), c.shards[i]? = some r → ∀ x ∈ r.items.map (·.1), fnv32 x % c.n = i

/-- the invariant holds after `NewShardedCache(size, n)` for every `size` and every `n ≥ 1` (no relation between
    `size` and `n` is needed: `cmap.New` rounds the shard size up to at least 1) -/
theorem RCacheInv.init (size n : Nat) (hn : 1 ≤ n) : RCacheInv size (RCache.init size n) where
  len := by simp [RCache.init]
  pos := hn
  ring := by
    intro r hr
    simp only [RCache.init] at hr
    rw [List.eq_of_mem_replicate hr]
    exact RingInv.init _ (shardSize_pos size n)
  msize := by
    intro r hr
    simp only [RCache.init] at hr
    rw [List.eq_of_mem_replicate hr]; rfl
  route := by
    intro i r hr x hx
    have := List.mem_of_getElem? hr
    simp only [RCache.init] at this
    rw [List.eq_of_mem_replicate this] at hx
    simp [Ring.init] at hx

theorem RCacheInv.idx_lt {size : Nat} {c : RCache} (h : RCacheInv size c) (k : Bytes) : c.idx k < c.shards.length := by
  rw [h.len]; exact Nat.mod_lt _ (by have := h.pos; omega)

theorem RCacheInv.shard_get {size : Nat} {c : RCache} (h : RCacheInv size c) (k : Bytes) :
    c.shards[c.idx k]? = some (c.shard k) := by
  unfold RCache.shard
  rw [List.getElem?_eq_getElem (h.idx_lt k)]; rfl

theorem RCacheInv.shard_mem {size : Nat} {c : RCache} (h : RCacheInv size c) (k : Bytes) : c.shard k ∈ c.shards :=
  List.mem_of_getElem? (h.shard_get k)

theorem RCacheInv.setShard {size : Nat} {c : RCache} (h : RCacheInv size c) (k : Bytes) (r : Ring)
    (hr : RingInv r) (hm : r.m = (c.shard k).m)
    (hsub : ∀ x ∈ r.items.map (·.1), x = k ∨ x ∈ (c.shard k).items.map (·.1)) :
    RCacheInv size (c.setShard k r) where
  len := by simp only [RCache.setShard, List.length_set]; exact h.len
  pos := h.pos
  ring := by
    intro t ht
    rcases List.mem_or_eq_of_mem_set ht with ht | ht
    · exact h.ring t ht
    · rw [ht]; exact hr
  msize := by
    intro t ht
    rcases List.mem_or_eq_of_mem_set ht with ht | ht
    · exact h.msize t ht
    · rw [ht, hm]; exact h.msize _ (h.shard_mem k)
  route := by
    intro i t ht x hx
    simp only [RCache.setShard] at ht
    by_cases hi : c.idx k = i
    · subst hi
      rw [List.getElem?_set_self (h.idx_lt k)] at ht
      cases ht
      rcases hsub x hx with rfl | hxo
      · rfl
      · exact h.route _ _ (h.shard_get k) x hxo
    · rw [List.getElem?_set_ne hi] at ht
      exact h.route i t ht x hx

theorem RCacheInv.put {size : Nat} {c : RCache} (h : RCacheInv size c) (k v : Bytes) : RCacheInv size (c.put k v).1 :=
  h.setShard k _ (RingInv.set _ k v (h.ring _ (h.shard_mem k))) (Ring.set_m _ k v) (Ring.set_items_sub _ k v)

theorem RCacheInv.hasOrAdd {size : Nat} {c : RCache} (h : RCacheInv size c) (k v : Bytes) :
    RCacheInv size (c.hasOrAdd k v).1 :=
  h.setShard k _ (RingInv.setIfAbsent _ k v (h.ring _ (h.shard_mem k))) (Ring.setIfAbsent_m _ k v)
    (Ring.setIfAbsent_items_sub _ k v)

theorem RCacheInv.remove {size : Nat} {c : RCache} (h : RCacheInv size c) (k : Bytes) : RCacheInv size (c.remove k) :=
  h.setShard k _ (RingInv.remove _ k (h.ring _ (h.shard_mem k))) (Ring.remove_m _ k)
    (fun x hx => Or.inr (Ring.remove_items_sub _ k x hx))

theorem RCacheInv.clearWith {size : Nat} (ks : List Bytes) {c : RCache} (h : RCacheInv size c) :
    RCacheInv size (c.clearWith ks) :=
  List.foldlRecOn (motive := RCacheInv size) ks RCache.remove h fun _ h k _ => h.remove k

theorem RCacheInv.clear {size : Nat} {c : RCache} (h : RCacheInv size c) : RCacheInv size c.clear :=
  RCacheInv.clearWith c.keys h

/-! ### commutation with the abstraction -/

theorem toCache_init (size n : Nat) : (RCache.init size n).toCache = Cache.init size n := by
  simp only [RCache.init, RCache.toCache, Cache.init, List.map_replicate, toShard_init]

theorem toCache_shard (c : RCache) (k : Bytes) : (c.shard k).toShard = c.toCache.shard k := by
  simp only [RCache.shard, Cache.shard, RCache.toCache, Cache.idx, RCache.idx, List.getElem?_map]
  cases c.shards[fnv32 k % c.n]? with
  | none => rfl
  | some r => rfl

theorem toCache_setShard (c : RCache) (k : Bytes) (r : Ring) :
    (c.setShard k r).toCache = c.toCache.setShard k r.toShard := by
  simp only [RCache.setShard, Cache.setShard, RCache.toCache, Cache.idx, RCache.idx, List.map_set]

theorem toCache_put {size : Nat} (c : RCache) (k v : Bytes) (h : RCacheInv size c) :
    (c.put k v).1.toCache = (c.toCache.put k v).1 ∧ (c.put k v).2 = (c.toCache.put k v).2 := by
  refine ⟨?_, rfl⟩
  simp only [RCache.put, Cache.put]
  rw [toCache_setShard, toShard_set _ k v (h.ring _ (h.shard_mem k)), toCache_shard]

theorem toCache_hasOrAdd {size : Nat} (c : RCache) (k v : Bytes) (h : RCacheInv size c) :
    ((c.hasOrAdd k v).1.toCache, (c.hasOrAdd k v).2) = c.toCache.hasOrAdd k v := by
  have hp := toShard_setIfAbsent (c.shard k) k v (h.ring _ (h.shard_mem k))
  rw [toCache_shard] at hp
  have h1 := congrArg Prod.fst hp
  have h2 := congrArg Prod.snd hp
  simp only at h1 h2
  simp only [RCache.hasOrAdd, Cache.hasOrAdd]
  rw [toCache_setShard, h1, h2]
  rfl

theorem toCache_get (c : RCache) (k : Bytes) : c.get k = c.toCache.get k := by
  unfold RCache.get Cache.get
  rw [toShard_get, toCache_shard]

theorem toCache_remove {size : Nat} (c : RCache) (k : Bytes) (h : RCacheInv size c) :
    (c.remove k).toCache = c.toCache.remove k := by
  simp only [RCache.remove, Cache.remove]
  rw [toCache_setShard, toShard_remove _ k (h.ring _ (h.shard_mem k)), toCache_shard]

theorem toCache_len (c : RCache) : c.len = c.toCache.len := by
  simp [RCache.len, Cache.len, RCache.toCache, Ring.toShard, List.map_map, Function.comp_def]

theorem toCache_keysPerShard {size : Nat} (c : RCache) (h : RCacheInv size c) :
    c.keysPerShard = c.toCache.keysPerShard := by
  simp only [RCache.keysPerShard, Cache.keysPerShard, RCache.toCache, List.map_map]
  apply List.map_congr_left
  intro r hr
  exact keys_eq r (h.ring r hr).idx

/-! ### `Clear` -/

/-- `Remove` over any list of keys acts on shard `i` as the removal of the keys routed to `i`, in order -/
theorem foldl_remove_shards (ks : List Bytes) : ∀ (c : RCache),
    (ks.foldl RCache.remove c).n = c.n ∧ (ks.foldl RCache.remove c).handlers = c.handlers ∧
    ∀ i, (ks.foldl RCache.remove c).shards[i]?
      = (c.shards[i]?).map (fun r => (ks.filter (fun k => fnv32 k % c.n == i)).foldl Ring.remove r) := by
  induction ks with
  | nil =>
    intro c
    refine ⟨rfl, rfl, ?_⟩
    intro i
    simp only [List.foldl_nil, List.filter_nil]
    cases c.shards[i]? <;> rfl
  | cons k ks ih =>
    intro c
    obtain ⟨h1, h2, h3⟩ := ih (c.remove k)
    simp only [List.foldl_cons]
    refine ⟨h1, h2, ?_⟩
    intro i
    rw [h3 i]
    have hn : (c.remove k).n = c.n := rfl
    rw [hn]
    simp only [RCache.remove, RCache.setShard, List.getElem?_set, RCache.shard, List.filter_cons]
    by_cases hi : c.idx k = i
    · have hb : (fnv32 k % c.n == i) = true := beq_iff_eq.mpr hi
      rw [if_pos hi, if_pos hb]
      subst hi
      by_cases hl : c.idx k < c.shards.length
      · rw [if_pos hl, List.getElem?_eq_getElem hl]; rfl
      · rw [if_neg hl, List.getElem?_eq_none (Nat.le_of_not_lt hl)]; rfl
    · have hb : ¬ (fnv32 k % c.n == i) = true := fun e => hi (beq_iff_eq.mp e)
      rw [if_neg hi, if_neg hb]

theorem mem_keys_of_shard {c : RCache} {i : Nat} {r : Ring} (hr : c.shards[i]? = some r) {x : Bytes}
    (hx : x ∈ r.keys) : x ∈ c.keys := by
  unfold RCache.keys RCache.keysPerShard
  rw [List.mem_flatten]
  exact ⟨r.keys, List.mem_map_of_mem (List.mem_of_getElem? hr), hx⟩

theorem keys_routed {size : Nat} {c : RCache} (h : RCacheInv size c) (ks : List Bytes) (hks : ∀ x ∈ c.keys, x ∈ ks)
    {i : Nat} {r : Ring} (hr : c.shards[i]? = some r) :
    ∀ x ∈ r.keys, x ∈ ks.filter (fun k => fnv32 k % c.n == i) := by
  intro x hx
  rw [List.mem_filter]
  refine ⟨hks x (mem_keys_of_shard hr hx), ?_⟩
  have hres := (keys_resident r (h.ring r (List.mem_of_getElem? hr)) x).mp hx
  unfold Ring.get at hres
  rw [Option.isSome_map, alookup_isSome_iff] at hres
  simpa using h.route i r hr x hres

/-- the concrete state after the loop of `Clear`, run over ANY list `ks` that contains all resident keys (any
    interleaving `Keys()` may return, even a stale one with extra keys): every shard has all slots blank, no items,
    and its `idxAdd` where it was -/
theorem clearWith_shards {size : Nat} (c : RCache) (ks : List Bytes) (h : RCacheInv size c)
    (hks : ∀ x ∈ c.keys, x ∈ ks) :
    c.clearWith ks = ⟨c.n, c.shards.map (fun r => ⟨r.m, r.idxAdd, List.replicate r.m none, []⟩), c.handlers⟩ := by
  obtain ⟨h1, h2, h3⟩ := foldl_remove_shards ks c
  have hs : (c.clearWith ks).shards = c.shards.map (fun r => ⟨r.m, r.idxAdd, List.replicate r.m none, []⟩) := by
    apply List.ext_getElem?
    intro i
    unfold RCache.clearWith
    rw [h3 i, List.getElem?_map]
    cases hr : c.shards[i]? with
    | none => rfl
    | some r =>
      simp only [Option.map_some]
      rw [ring_clear_state r _ (h.ring r (List.mem_of_getElem? hr)) (keys_routed h ks hks hr)]
  unfold RCache.clearWith at hs ⊢
  generalize ks.foldl RCache.remove c = c' at hs h1 h2 ⊢
  obtain ⟨n, sh, hd⟩ := c'
  dsimp only at h1 h2 hs
  rw [h1, h2, hs]

/-- `Clear` commutes with the abstraction LITERALLY (`Cache.clear` sets every view to holes and
    `vals := []`, and a view does not show `idxAdd`), for any order of the keys -/
theorem toCache_clearWith {size : Nat} (c : RCache) (ks : List Bytes) (h : RCacheInv size c)
    (hks : ∀ x ∈ c.keys, x ∈ ks) : (c.clearWith ks).toCache = c.toCache.clear := by
  rw [clearWith_shards c ks h hks]
  simp only [RCache.toCache, Cache.clear, List.map_map]
  congr 1
  exact List.map_congr_left fun r _ => toShard_cleared r

theorem toCache_clear {size : Nat} (c : RCache) (h : RCacheInv size c) : c.clear.toCache = c.toCache.clear :=
  toCache_clearWith c c.keys h (fun _ hx => hx)

theorem clear_state {size : Nat} (c : RCache) (h : RCacheInv size c) :
    c.clear = ⟨c.n, c.shards.map (fun r => ⟨r.m, r.idxAdd, List.replicate r.m none, []⟩), c.handlers⟩ :=
  clearWith_shards c c.keys h (fun _ hx => hx)

/-! ### operation sequences -/

theorem cstep_refines {size : Nat} (c : RCache) (op : COp) (h : RCacheInv size c) :
    RCacheInv size (c.step op).1 ∧ (c.step op).1.toCache = (c.toCache.step op).1 ∧
      (c.step op).2 = (c.toCache.step op).2 := by
  -- the steps are named before the results are compared, so that no comparison looks into an operation
  cases op <;> dsimp only [RCache.step, Cache.step]
  case put k v => exact ⟨h.put k v, (toCache_put c k v h).1, congrArg COut.put (toCache_put c k v h).2⟩
  case hasOrAdd k v =>
    have hp := toCache_hasOrAdd c k v h
    exact ⟨h.hasOrAdd k v, congrArg Prod.fst hp,
      congrArg (fun r : Cache × Bool × Bool × List (String × Bytes × Bytes) => COut.hasOrAdd r.2.1 r.2.2.1 r.2.2.2) hp⟩
  case get k => exact ⟨h, rfl, congrArg COut.get (toCache_get c k)⟩
  case remove k => exact ⟨h.remove k, toCache_remove c k h, rfl⟩
  case clear => exact ⟨h.clear, toCache_clear c h, rfl⟩
  case len => exact ⟨h, rfl, congrArg COut.len (toCache_len c)⟩
  case keys => exact ⟨h, rfl, congrArg COut.keys (toCache_keysPerShard c h)⟩
  case reg id => exact ⟨⟨h.len, h.pos, h.ring, h.msize, h.route⟩, rfl, rfl⟩
  case unreg id => exact ⟨⟨h.len, h.pos, h.ring, h.msize, h.route⟩, rfl, rfl⟩

theorem crun_refines {size : Nat} (ops : List COp) : ∀ (c : RCache), RCacheInv size c →
    RCacheInv size (c.run ops).1 ∧ (c.run ops).1.toCache = (c.toCache.run ops).1 ∧
      (c.run ops).2 = (c.toCache.run ops).2 := by
  induction ops with
  | nil => intro c h; exact ⟨h, rfl, rfl⟩
  | cons op ops ih =>
    intro c h
    obtain ⟨h1, h2, h3⟩ := cstep_refines c op h
    obtain ⟨h4, h5, h6⟩ := ih (c.step op).1 h1
    simp only [RCache.run, Cache.run]
    rw [← h2, ← h3]
    exact ⟨h4, h5, by rw [h6]⟩

theorem crun_init (size n : Nat) (hn : 1 ≤ n) (ops : List COp) :
    RCacheInv size ((RCache.init size n).run ops).1 ∧
    ((RCache.init size n).run ops).1.toCache = ((Cache.init size n).run ops).1 ∧
    ((RCache.init size n).run ops).2 = ((Cache.init size n).run ops).2 := by
  have := crun_refines ops (RCache.init size n) (RCacheInv.init size n hn)
  rw [toCache_init] at this
  exact this

/-! ### transfer of the cache-level C20 theorems -/

theorem RCacheInv.toCacheInv {size : Nat} {c : RCache} (h : RCacheInv size c) : CacheInv size c.toCache := by
  refine ⟨h.pos, by simp only [RCache.toCache, List.length_map]; exact h.len, ?_⟩
  intro s hs
  simp only [RCache.toCache, List.mem_map] at hs
  obtain ⟨r, hr, rfl⟩ := hs
  show ShardInv (shardSize size c.n) r.toShard
  rw [← h.msize r hr]
  exact (h.ring r hr).toShardInv

/-- C20: the ring cache never holds more than `size` entries (`size ≥ 2n`) -/
theorem rcache_bound {size : Nat} (c : RCache) (h : RCacheInv size c) (hs : 2 * c.n ≤ size) : c.len ≤ size := by
  rw [toCache_len]; exact cache_bound size c.toCache h.toCacheInv hs

/-- C20: `Put` then `Get` -/
theorem rcache_put_resident {size : Nat} (c : RCache) (k v : Bytes) (h : RCacheInv size c) (hs : 2 * c.n ≤ size) :
    (c.put k v).1.get k = some v := by
  rw [toCache_get, (toCache_put c k v h).1]
  exact put_resident size c.toCache k v h.toCacheInv hs

/-! ### non-vacuity: `NewShardedCache(5, 2)` — two shards of `shardSize 5 2 = 3` slots; keys `[1] [3] [5] [7]` are routed
    to shard 0, keys `[2] [4] [6]` to shard 1 -/

def cdemo : List COp :=
  [.reg "h", .put [1] [10], .put [2] [20], .put [3] [30], .put [1] [11], .hasOrAdd [2] [21], .hasOrAdd [4] [40],
   .put [5] [50], .remove [3], .get [1], .get [5], .len, .keys, .clear, .len, .put [6] [60], .put [7] [70], .keys]

example : shardSize 5 2 = 3 := by rfl
example : [[1], [2], [3], [4], [5], [6], [7]].map (fun k => fnv32 k % 2) = [0, 1, 0, 1, 0, 1, 0] := by rfl
-- state before `Clear` (13 operations) …
example : ((RCache.init 5 2).run (cdemo.take 13)).1 =
    ⟨2, [⟨3, 1, [some [5], none, some [1]], [([1], [11], 2), ([5], [50], 0)]⟩,
         ⟨3, 2, [some [2], some [4], none], [([2], [20], 0), ([4], [40], 1)]⟩], ["h"]⟩ := by rfl
-- … and right after it: every slot blank, no items, `idxAdd` still 1 resp. 2 (NOT reset to 0)
example : ((RCache.init 5 2).run (cdemo.take 14)).1 =
    ⟨2, [⟨3, 1, [none, none, none], []⟩, ⟨3, 2, [none, none, none], []⟩], ["h"]⟩ := by rfl
-- final state and all outputs
example : ((RCache.init 5 2).run cdemo).1 =
    ⟨2, [⟨3, 2, [none, some [7], none], [([7], [70], 1)]⟩, ⟨3, 0, [none, none, some [6]], [([6], [60], 2)]⟩], ["h"]⟩ := by
  rfl
example : ((RCache.init 5 2).run cdemo).2 =
    [.unit, .put [("h", [1], [10])], .put [("h", [2], [20])], .put [("h", [3], [30])], .put [("h", [1], [11])],
     .hasOrAdd true false [], .hasOrAdd false true [("h", [4], [40])], .put [("h", [5], [50])], .unit,
     .get (some [11]), .get (some [50]), .len 4, .keys [[[1], [5]], [[2], [4]]], .unit, .len 0,
     .put [("h", [6], [60])], .put [("h", [7], [70])], .keys [[[7]], [[6]]]] := by rfl
-- the ring cache and the age-ordered cache agree on this run (instance of `crun_init`)
example : ((RCache.init 5 2).run cdemo).1.toCache = ((Cache.init 5 2).run cdemo).1 := by rfl
example : ((RCache.init 5 2).run cdemo).2 = ((Cache.init 5 2).run cdemo).2 := by rfl
-- the hypotheses of the theorems are met on this run, including `size ≥ 2n` of the transferred C20 theorems
example : RCacheInv 5 ((RCache.init 5 2).run cdemo).1 := (crun_init 5 2 (by decide) cdemo).1
example : 2 * ((RCache.init 5 2).run cdemo).1.n ≤ 5 := by decide +kernel
-- `Clear` with the keys in another order (the interleaving [2],[1],[4],[5]) gives the same state
example : (⟨2, [⟨3, 1, [some [5], none, some [1]], [([1], [11], 2), ([5], [50], 0)]⟩,
                ⟨3, 2, [some [2], some [4], none], [([2], [20], 0), ([4], [40], 1)]⟩], ["h"]⟩ : RCache).clearWith
      [[2], [1], [4], [5]]
    = ⟨2, [⟨3, 1, [none, none, none], []⟩, ⟨3, 2, [none, none, none], []⟩], ["h"]⟩ := by decide +kernel
-- `1 ≤ n` is needed
example : ¬ RCacheInv 5 (RCache.init 5 0) := fun h => Nat.not_succ_le_zero 0 h.pos

end SV.Fifo
