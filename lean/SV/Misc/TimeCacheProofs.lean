/-
  SV.Misc.TimeCacheProofs — proofs about the time-cache model (C18) and the interval (`must`/`may`) bracketing.
  Every operation acts on one key at a time: its effect is stated once as an equation about `alookup`, and both the
  history theorems and interval soundness are read off those equations.
-/
import SV.Misc.TimeCache
import SV.AssocList
namespace SV.TimeCache
open SV

/-! ### single operations -/

def KeysNodup (tc : TC) : Prop := (tc.map (·.1)).Nodup

theorem has_eq_true_iff (tc : TC) (k : Bytes) : has tc k = true ↔ ∃ e, alookup k tc = some e :=
  Option.isSome_iff_exists

theorem has_eq_false_iff (tc : TC) (k : Bytes) : has tc k = false ↔ alookup k tc = none := by
  unfold TimeCache.has
  cases alookup k tc <;> simp

theorem KeysNodup.add (tc : TC) (k v : Bytes) (span now : Nat) (h : KeysNodup tc) :
    KeysNodup (add tc k v span now) := nodup_keys_aset k _ h

theorem add_lookup (tc : TC) (k v : Bytes) (span now : Nat) :
    alookup k (add tc k v span now) = some ⟨now, span, v⟩ := alookup_aset_self k _ tc

theorem lookup_add_ne (tc : TC) {k k' : Bytes} (v : Bytes) (span now : Nat) (hk : k' ≠ k) :
    alookup k' (add tc k v span now) = alookup k' tc := alookup_aset_ne _ tc hk

/-- the entry an Upsert writes over the old lookup `o` of its key -/
def upsertEntry (o : Option Entry) (v : Bytes) (span now : Nat) : Entry :=
  match o with
  | some e => ⟨now, max e.span span, e.value⟩
  | none => ⟨now, span, v⟩

theorem upsertEntry_timestamp (o : Option Entry) (v : Bytes) (span now : Nat) :
    (upsertEntry o v span now).timestamp = now := by
  cases o <;> rfl

theorem upsert_eq (tc : TC) (k v : Bytes) (span now : Nat) :
    upsert tc k v span now = aset k (upsertEntry (alookup k tc) v span now) tc := by
  unfold TimeCache.upsert upsertEntry
  cases alookup k tc <;> rfl

theorem KeysNodup.upsert (tc : TC) (k v : Bytes) (span now : Nat) (h : KeysNodup tc) :
    KeysNodup (upsert tc k v span now) := by
  rw [upsert_eq]
  exact nodup_keys_aset k _ h

theorem upsert_lookup (tc : TC) (k v : Bytes) (span now : Nat) :
    alookup k (upsert tc k v span now) =
      some (match alookup k tc with | some e => ⟨now, max e.span span, e.value⟩ | none => ⟨now, span, v⟩) := by
  rw [upsert_eq, alookup_aset_self]
  rfl

theorem lookup_upsert_ne (tc : TC) {k k' : Bytes} (v : Bytes) (span now : Nat) (hk : k' ≠ k) :
    alookup k' (upsert tc k v span now) = alookup k' tc := by
  rw [upsert_eq]
  exact alookup_aset_ne _ tc hk

theorem hoa_present (tc : TC) (k v : Bytes) (span now : Nat) (e : Entry) (he : alookup k tc = some e) :
    hasOrAdd tc k v span now = (tc, true, false) := by
  unfold TimeCache.hasOrAdd
  rw [he]

theorem hoa_absent (tc : TC) (k v : Bytes) (span now : Nat) (he : alookup k tc = none) :
    hasOrAdd tc k v span now = (add tc k v span now, false, true) := by
  unfold TimeCache.hasOrAdd
  rw [he]
  rfl

theorem hasOrAdd_flags (tc : TC) (k v : Bytes) (span now : Nat) :
    (hasOrAdd tc k v span now).2.1 = has tc k ∧ (hasOrAdd tc k v span now).2.2 = !has tc k ∧
    (has tc k = true → (hasOrAdd tc k v span now).1 = tc) := by
  unfold TimeCache.has
  cases he : alookup k tc with
  | some e => rw [hoa_present tc k v span now e he]; exact ⟨rfl, rfl, fun _ => rfl⟩
  | none => rw [hoa_absent tc k v span now he]; exact ⟨rfl, rfl, fun hc => nomatch hc⟩

theorem KeysNodup.hasOrAdd (tc : TC) (k v : Bytes) (span now : Nat) (h : KeysNodup tc) :
    KeysNodup (hasOrAdd tc k v span now).1 := by
  cases he : alookup k tc with
  | some e => rw [hoa_present tc k v span now e he]; exact h
  | none => rw [hoa_absent tc k v span now he]; exact h.add tc k v span now

theorem lookup_hoa_ne (tc : TC) {k k' : Bytes} (v : Bytes) (span now : Nat) (hk : k' ≠ k) :
    alookup k' (hasOrAdd tc k v span now).1 = alookup k' tc := by
  cases he : alookup k tc with
  | some e => rw [hoa_present tc k v span now e he]
  | none => rw [hoa_absent tc k v span now he]; exact lookup_add_ne tc v span now hk

theorem hoa_keeps (tc : TC) (k k' v : Bytes) (span now : Nat) (e : Entry) (he : alookup k' tc = some e) :
    alookup k' (hasOrAdd tc k v span now).1 = some e := by
  cases hk : alookup k tc with
  | some e' => rw [hoa_present tc k v span now e' hk]; exact he
  | none =>
    have hne : k' ≠ k := fun hc => by rw [hc, hk] at he; cases he
    rw [lookup_hoa_ne tc v span now hne]; exact he

theorem KeysNodup.remove (tc : TC) (k : Bytes) (h : KeysNodup tc) : KeysNodup (remove tc k) :=
  nodup_keys_aerase k h

theorem lookup_remove_self (tc : TC) (k : Bytes) : alookup k (remove tc k) = none := alookup_aerase_self k tc

theorem lookup_remove_ne (tc : TC) {k k' : Bytes} (hk : k' ≠ k) :
    alookup k' (remove tc k) = alookup k' tc := alookup_aerase_ne tc hk

theorem KeysNodup.sweep (tc : TC) (now : Nat) (h : KeysNodup tc) : KeysNodup (sweep tc now) :=
  h.sublist (List.filter_sublist.map _)

theorem sweep_lookup (tc : TC) (now : Nat) (k : Bytes) (h : KeysNodup tc) :
    alookup k (sweep tc now) = (alookup k tc).filter fun e => decide (now ≤ e.timestamp + e.span) := by
  unfold TimeCache.sweep
  rw [alookup_filter _ k h]
  congr 1
  funext e
  show (!decide (now - e.timestamp > e.span)) = _
  rw [← decide_not]
  exact decide_eq_decide.mpr (Nat.not_lt.trans Nat.sub_le_iff_le_add')

/-- no uniqueness of keys is needed for an absent key -/
theorem lookup_sweep_none (tc : TC) (now : Nat) (k : Bytes) (he : alookup k tc = none) :
    alookup k (sweep tc now) = none := alookup_filter_of_none _ he

/-- C18 retention: a sweep reading a time within the span keeps the key -/
theorem sweep_keeps (tc : TC) (now : Nat) (k : Bytes) (e : Entry) (h : KeysNodup tc)
    (he : alookup k tc = some e) (ht : now ≤ e.timestamp + e.span) :
    alookup k (sweep tc now) = some e := by
  rw [sweep_lookup tc now k h, he, Option.filter_some, if_pos (decide_eq_true ht)]

/-- C18 expiry: a sweep reading a time after the span has elapsed removes it -/
theorem sweep_drops (tc : TC) (now : Nat) (k : Bytes) (e : Entry) (h : KeysNodup tc)
    (he : alookup k tc = some e) (ht : e.timestamp + e.span < now) : has (sweep tc now) k = false := by
  rw [has_eq_false_iff, sweep_lookup tc now k h, he, Option.filter_some, if_neg]
  rw [decide_eq_true_iff]
  omega

theorem sweep_lookup_cases (tc : TC) (now : Nat) (k : Bytes) (h : KeysNodup tc) :
    alookup k (sweep tc now) = none ∨ alookup k (sweep tc now) = alookup k tc := by
  rw [sweep_lookup tc now k h]
  cases alookup k tc with
  | none => exact Or.inl rfl
  | some e =>
    rw [Option.filter_some]
    split
    · exact Or.inr rfl
    · exact Or.inl rfl

/-! ### histories -/

/-- operations of a history; `step` takes each paired with the clock reading it observed -/
inductive Op where
  | add (k v : Bytes) (span : Nat) | upsert (k v : Bytes) (span : Nat) | hoa (k v : Bytes) (span : Nat) | sweep | rm (k : Bytes)

def step (tc : TC) (o : Op × Nat) : TC :=
  match o.1 with
  | .add k v s => add tc k v s o.2
  | .upsert k v s => upsert tc k v s o.2
  | .hoa k v s => (hasOrAdd tc k v s o.2).1
  | .sweep => sweep tc o.2
  | .rm k => remove tc k

def touches (k : Bytes) : Op → Bool
  | .add k' _ _ => k' == k | .upsert k' _ _ => k' == k | .rm k' => k' == k | .hoa _ _ _ => false | .sweep => false

def isSweep : Op → Bool
  | .sweep => true | _ => false

theorem KeysNodup.step (tc : TC) (o : Op × Nat) (h : KeysNodup tc) : KeysNodup (step tc o) := by
  obtain ⟨op, t⟩ := o
  cases op with
  | add k v s => exact h.add tc k v s t
  | upsert k v s => exact h.upsert tc k v s t
  | hoa k v s => exact h.hasOrAdd tc k v s t
  | sweep => exact h.sweep tc t
  | rm k => exact h.remove tc k

theorem KeysNodup.run (ops : List (Op × Nat)) (tc : TC) (h : KeysNodup tc) : KeysNodup (ops.foldl TimeCache.step tc) :=
  List.foldlRecOn (motive := KeysNodup) ops TimeCache.step h fun tc h o _ => h.step tc o

/-- one step keeps an entry: the operation is not Add/Upsert/Remove of `k` (HasOrAdd of `k` IS allowed) and, if it is a sweep,
    it reads a time `≤ timestamp + span`.  Readings of non-sweep operations are irrelevant. -/
theorem step_keeps (tc : TC) (k : Bytes) (e : Entry) (o : Op × Nat) (h : KeysNodup tc)
    (he : alookup k tc = some e) (hno : touches k o.1 = false)
    (ht : o.1 = .sweep → o.2 ≤ e.timestamp + e.span) : alookup k (step tc o) = some e := by
  obtain ⟨op, t⟩ := o
  cases op with
  | add k1 v s => exact (lookup_add_ne tc v s t (ne_of_beq_false hno).symm).trans he
  | upsert k1 v s => exact (lookup_upsert_ne tc v s t (ne_of_beq_false hno).symm).trans he
  | hoa k1 v s => exact hoa_keeps tc k1 k v s t e he
  | sweep => exact sweep_keeps tc t k e h he (ht rfl)
  | rm k1 => exact (lookup_remove_ne tc (ne_of_beq_false hno).symm).trans he

theorem retained_sweeps (tc : TC) (k : Bytes) (e : Entry) (ops : List (Op × Nat)) (h : KeysNodup tc)
    (he : alookup k tc = some e) (hno : ∀ o ∈ ops, touches k o.1 = false)
    (ht : ∀ o ∈ ops, isSweep o.1 = true → o.2 ≤ e.timestamp + e.span) :
    alookup k (ops.foldl step tc) = some e :=
  (List.foldlRecOn (motive := fun tc => KeysNodup tc ∧ alookup k tc = some e) ops step ⟨h, he⟩
    fun tc h o ho => ⟨h.1.step tc o,
      step_keeps tc k e o h.1 h.2 (hno o ho) fun hs => ht o ho (congrArg isSweep hs)⟩).2

/-- C18: a key present with (timestamp t0, span d) is reported present by every query until d has elapsed, no matter
    how many sweeps (or operations on other keys, or HasOrAdd on any key) run in between -/
theorem retained (tc : TC) (k : Bytes) (e : Entry) (ops : List (Op × Nat)) (h : KeysNodup tc)
    (he : alookup k tc = some e)
    (hno : ∀ o ∈ ops, touches k o.1 = false) (ht : ∀ o ∈ ops, o.2 ≤ e.timestamp + e.span) :
    alookup k (ops.foldl step tc) = some e :=
  retained_sweeps tc k e ops h he hno fun o ho _ => ht o ho

/-! ### interval soundness -/

/-- The order in which `Sandwich` compares the three caches key by key: if `o₁` holds an entry, `o₂` holds one that
    expires no earlier and has no smaller span. -/
def Below (o₁ o₂ : Option Entry) : Prop :=
  ∀ e₁, o₁ = some e₁ → ∃ e₂, o₂ = some e₂ ∧ e₁.timestamp + e₁.span ≤ e₂.timestamp + e₂.span ∧ e₁.span ≤ e₂.span

theorem below_none (o : Option Entry) : Below none o := fun _ h => nomatch h

theorem below_some {e₁ e₂ : Entry} :
    Below (some e₁) (some e₂) ↔ e₁.timestamp + e₁.span ≤ e₂.timestamp + e₂.span ∧ e₁.span ≤ e₂.span :=
  ⟨fun h => by obtain ⟨_, he, h'⟩ := h e₁ rfl; cases he; exact h', fun h _ he => ⟨e₂, rfl, Option.some.inj he ▸ h⟩⟩

theorem Below.isSome {o₁ o₂ : Option Entry} (h : Below o₁ o₂) (h₁ : o₁.isSome = true) : o₂.isSome = true := by
  obtain ⟨e₁, rfl⟩ := Option.isSome_iff_exists.mp h₁
  obtain ⟨e₂, rfl, -⟩ := h e₁ rfl
  rfl

theorem Below.eq_none {o₁ o₂ : Option Entry} (h : Below o₁ o₂) (h₂ : o₂ = none) : o₁ = none := by
  cases o₁ with
  | none => rfl
  | some e₁ =>
    obtain ⟨e₂, he₂, -⟩ := h e₁ rfl
    cases h₂.symm.trans he₂

theorem Below.upsert {o₁ o₂ : Option Entry} (h : Below o₁ o₂) (v : Bytes) (span : Nat) {lo t : Nat} (hlt : lo ≤ t) :
    Below (some (upsertEntry o₁ v span lo)) (some (upsertEntry o₂ v span t)) := by
  have hs : (upsertEntry o₁ v span lo).span ≤ (upsertEntry o₂ v span t).span := by
    cases o₁ with
    | none => cases o₂ with
      | none => exact Nat.le_refl span
      | some e₂ => exact Nat.le_max_right ..
    | some e₁ =>
      obtain ⟨e₂, rfl, -, h2⟩ := h e₁ rfl
      exact Nat.max_le.mpr ⟨Nat.le_trans h2 (Nat.le_max_left ..), Nat.le_max_right ..⟩
  refine below_some.mpr ⟨?_, hs⟩
  rw [upsertEntry_timestamp, upsertEntry_timestamp]
  exact Nat.add_le_add hlt hs

theorem Below.sweep {o₁ o₂ : Option Entry} (h : Below o₁ o₂) {t hi : Nat} (hle : t ≤ hi) :
    Below (o₁.filter fun e => decide (hi ≤ e.timestamp + e.span)) (o₂.filter fun e => decide (t ≤ e.timestamp + e.span)) := by
  intro e₁ he₁
  obtain ⟨rfl, hp⟩ := Option.filter_eq_some_iff.mp he₁
  obtain ⟨e₂, rfl, h1, h2⟩ := h e₁ rfl
  have ht : t ≤ e₂.timestamp + e₂.span := Nat.le_trans hle (Nat.le_trans (of_decide_eq_true hp) h1)
  exact ⟨e₂, by rw [Option.filter_some, if_pos (decide_eq_true ht)], h1, h2⟩

/-- interval soundness: if every operation's true reading lies inside its bracket, then `must ⊆ exact ⊆ may`,
    and entries of `must` expire no later / entries of `may` no earlier than the exact ones -/
structure Sandwich (i : I) (tc : TC) : Prop where
  nd : KeysNodup i.must ∧ KeysNodup tc ∧ KeysNodup i.may
  lower : ∀ k em, alookup k i.must = some em → ∃ e, alookup k tc = some e ∧ em.timestamp + em.span ≤ e.timestamp + e.span ∧ em.span ≤ e.span
  upper : ∀ k e, alookup k tc = some e → ∃ eM, alookup k i.may = some eM ∧ e.timestamp + e.span ≤ eM.timestamp + eM.span ∧ e.span ≤ eM.span

/-- the fields `lower` and `upper` are `Below` written out: they are read as `Below` through these two, and a `Below` is
    accepted where a `Sandwich` is built -/
theorem Sandwich.below_lower {i : I} {tc : TC} (h : Sandwich i tc) (k : Bytes) :
    Below (alookup k i.must) (alookup k tc) := h.lower k

theorem Sandwich.below_upper {i : I} {tc : TC} (h : Sandwich i tc) (k : Bytes) :
    Below (alookup k tc) (alookup k i.may) := h.upper k

theorem Sandwich.update {i i' : I} {tc tc' : TC} (h : Sandwich i tc) (k : Bytes)
    (nd : KeysNodup i'.must ∧ KeysNodup tc' ∧ KeysNodup i'.may)
    (hm : ∀ k', k' ≠ k → alookup k' i'.must = alookup k' i.must)
    (ht : ∀ k', k' ≠ k → alookup k' tc' = alookup k' tc)
    (hM : ∀ k', k' ≠ k → alookup k' i'.may = alookup k' i.may)
    (hl : Below (alookup k i'.must) (alookup k tc')) (hu : Below (alookup k tc') (alookup k i'.may)) :
    Sandwich i' tc' where
  nd := nd
  lower := fun k' => by
    by_cases hk : k' = k
    · exact hk ▸ hl
    · rw [hm k' hk, ht k' hk]; exact h.lower k'
  upper := fun k' => by
    by_cases hk : k' = k
    · exact hk ▸ hu
    · rw [ht k' hk, hM k' hk]; exact h.upper k'

theorem Sandwich.empty : Sandwich ⟨[], []⟩ [] where
  nd := ⟨List.nodup_nil, List.nodup_nil, List.nodup_nil⟩
  lower := fun _ => below_none _
  upper := fun _ => below_none _

theorem Sandwich.add (i : I) (tc : TC) (k v : Bytes) (span lo t hi : Nat) (h : Sandwich i tc)
    (h1 : lo ≤ t) (h2 : t ≤ hi) : Sandwich (i.add k v span lo hi) (add tc k v span t) := by
  refine h.update k ⟨h.nd.1.add _ k v span lo, h.nd.2.1.add _ k v span t, h.nd.2.2.add _ k v span hi⟩
    (fun _ hk => lookup_add_ne _ v span lo hk) (fun _ hk => lookup_add_ne _ v span t hk)
    (fun _ hk => lookup_add_ne _ v span hi hk) ?_ ?_
  · show Below (alookup k (TimeCache.add i.must k v span lo)) _
    rw [add_lookup, add_lookup]
    exact below_some.mpr ⟨Nat.add_le_add_right h1 span, Nat.le_refl span⟩
  · show Below _ (alookup k (TimeCache.add i.may k v span hi))
    rw [add_lookup, add_lookup]
    exact below_some.mpr ⟨Nat.add_le_add_right h2 span, Nat.le_refl span⟩

theorem Sandwich.upsert (i : I) (tc : TC) (k v : Bytes) (span lo t hi : Nat) (h : Sandwich i tc)
    (h1 : lo ≤ t) (h2 : t ≤ hi) : Sandwich (i.upsert k v span lo hi) (upsert tc k v span t) := by
  refine h.update k ⟨h.nd.1.upsert _ k v span lo, h.nd.2.1.upsert _ k v span t, h.nd.2.2.upsert _ k v span hi⟩
    (fun _ hk => lookup_upsert_ne _ v span lo hk) (fun _ hk => lookup_upsert_ne _ v span t hk)
    (fun _ hk => lookup_upsert_ne _ v span hi hk) ?_ ?_
  · show Below (alookup k (TimeCache.upsert i.must k v span lo)) _
    rw [upsert_lookup, upsert_lookup]
    exact Below.upsert (h.below_lower k) v span h1
  · show Below _ (alookup k (TimeCache.upsert i.may k v span hi))
    rw [upsert_lookup, upsert_lookup]
    exact Below.upsert (h.below_upper k) v span h2

theorem Sandwich.sweep (i : I) (tc : TC) (lo t hi : Nat) (h : Sandwich i tc) (h1 : lo ≤ t) (h2 : t ≤ hi) :
    Sandwich (i.sweep lo hi) (sweep tc t) where
  nd := ⟨h.nd.1.sweep _ hi, h.nd.2.1.sweep _ t, h.nd.2.2.sweep _ lo⟩
  lower := fun k => by
    show Below (alookup k (TimeCache.sweep i.must hi)) _
    rw [sweep_lookup _ hi k h.nd.1, sweep_lookup _ t k h.nd.2.1]
    exact Below.sweep (h.below_lower k) h2
  upper := fun k => by
    show Below _ (alookup k (TimeCache.sweep i.may lo))
    rw [sweep_lookup _ t k h.nd.2.1, sweep_lookup _ lo k h.nd.2.2]
    exact Below.sweep (h.below_upper k) h1

theorem Sandwich.remove (i : I) (tc : TC) (k : Bytes) (h : Sandwich i tc) :
    Sandwich (i.remove k) (remove tc k) := by
  refine h.update k ⟨h.nd.1.remove _ k, h.nd.2.1.remove _ k, h.nd.2.2.remove _ k⟩
    (fun _ hk => lookup_remove_ne _ hk) (fun _ hk => lookup_remove_ne _ hk) (fun _ hk => lookup_remove_ne _ hk) ?_ ?_
  · show Below (alookup k (TimeCache.remove i.must k)) _
    rw [lookup_remove_self]
    exact below_none _
  · rw [lookup_remove_self]
    exact below_none _

/-- the three-valued verdict is sound: certainly-present ⇒ present ⇒ possibly-present -/
theorem Sandwich.verdict (i : I) (tc : TC) (k : Bytes) (h : Sandwich i tc) :
    (has i.must k = true → has tc k = true) ∧ (has tc k = true → has i.may k = true) :=
  ⟨(h.below_lower k).isSome, (h.below_upper k).isSome⟩

end SV.TimeCache
