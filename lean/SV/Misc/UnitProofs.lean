/-
  SV.Misc.UnitProofs — the storage unit (arbitrary cacher in front of a fault-injecting persister) answers like
  the map of acknowledged writes (C16).
-/
import SV.Misc.Unit
import SV.AssocList
namespace SV.Unit
open SV

theorem alookup_restrict (keep : List Bytes) (k : Bytes) (c : List (Bytes × Bytes)) :
    alookup k (restrict keep c) = if keep.contains k then alookup k c else none :=
  alookup_filter_key keep.contains k c

theorem alookup_restrict_some (keep : List Bytes) {c : List (Bytes × Bytes)} (k v : Bytes)
    (h : alookup k (restrict keep c) = some v) : alookup k c = some v := by
  rw [alookup_restrict] at h
  split at h
  · exact h
  · cases h

/-- the cache never serves a value different from what the persister logically holds -/
def Coherent (u : U) : Prop := ∀ k v, alookup k u.cache = some v → alookup k u.db = some v

theorem Coherent.init : Coherent U.init := fun _ _ h => nomatch h

theorem Coherent.shrink {c c' d : List (Bytes × Bytes)} (h : Coherent ⟨c, d⟩)
    (hs : ∀ x w, alookup x c' = some w → alookup x c = some w) : Coherent ⟨c', d⟩ :=
  fun x w hx => h x w (hs x w hx)

theorem Coherent.write {c d : List (Bytes × Bytes)} (h : Coherent ⟨c, d⟩) (k v : Bytes) :
    Coherent ⟨aset k v c, aset k v d⟩ := by
  intro x w
  show alookup x (aset k v c) = some w → alookup x (aset k v d) = some w
  rw [alookup_aset, alookup_aset]
  split
  · exact id
  · exact h x w

theorem Coherent.erase {c d : List (Bytes × Bytes)} (h : Coherent ⟨c, d⟩) (k : Bytes) :
    Coherent ⟨aerase k c, aerase k d⟩ := by
  intro x w
  show alookup x (aerase k c) = some w → alookup x (aerase k d) = some w
  rw [alookup_aerase, alookup_aerase]
  split
  · exact id
  · exact h x w

theorem Coherent.put (u : U) (k v : Bytes) (fail : Bool) (keep : List Bytes) (h : Coherent u) :
    Coherent (u.put k v fail keep).1 := by
  cases fail with
  | true =>
    -- the rejected key is erased again, the other keys are old ones
    refine Coherent.shrink (c := u.cache) h fun x w hx => ?_
    obtain ⟨hxk, hx⟩ := alookup_aerase_some hx
    exact (alookup_aset_ne v _ hxk).symm.trans (alookup_restrict_some keep x w hx)
  | false => exact (Coherent.write (c := u.cache) h k v).shrink (alookup_restrict_some keep)

theorem U.get_hit (a : U) (k : Bytes) (fail : Bool) (keep : List Bytes) (w : Bytes) (hg : alookup k a.cache = some w) :
    a.get k fail keep = (a, some w) := by
  simp only [U.get, hg]

theorem U.get_miss_fail (a : U) (k : Bytes) (keep : List Bytes) (hg : alookup k a.cache = none) :
    a.get k true keep = (a, none) := by
  simp only [U.get, hg, if_true]

theorem U.get_miss_none (a : U) (k : Bytes) (keep : List Bytes) (hg : alookup k a.cache = none)
    (hd : alookup k a.db = none) : a.get k false keep = (a, none) := by
  simp only [U.get, hg, hd, Bool.false_eq_true, if_false]

theorem U.get_miss_some (a : U) (k : Bytes) (keep : List Bytes) (w : Bytes) (hg : alookup k a.cache = none)
    (hd : alookup k a.db = some w) :
    a.get k false keep = ({ a with cache := restrict keep (aset k w a.cache) }, some w) := by
  simp only [U.get, hg, hd, Bool.false_eq_true, if_false]

theorem get_shape (u : U) (k : Bytes) (fail : Bool) (keep : List Bytes) :
    (u.get k fail keep).1 = u ∨
    (∃ v, alookup k u.cache = none ∧ alookup k u.db = some v ∧
      (u.get k fail keep).1 = { u with cache := restrict keep (aset k v u.cache) }) := by
  cases hc : alookup k u.cache with
  | some v => exact Or.inl (by rw [U.get_hit u k fail keep v hc])
  | none =>
    cases fail with
    | true => exact Or.inl (by rw [U.get_miss_fail u k keep hc])
    | false =>
      cases hd : alookup k u.db with
      | none => exact Or.inl (by rw [U.get_miss_none u k keep hc hd])
      | some v => exact Or.inr ⟨v, rfl, rfl, by rw [U.get_miss_some u k keep v hc hd]⟩

theorem Coherent.get (u : U) (k : Bytes) (fail : Bool) (keep : List Bytes) (h : Coherent u) :
    Coherent (u.get k fail keep).1 := by
  rcases get_shape u k fail keep with he | ⟨v, _, hd, he⟩
  · rw [he]; exact h
  · -- the refill writes what the persister holds
    rw [he]
    refine Coherent.shrink (c := aset k v u.cache) (fun x w hx => ?_) (alookup_restrict_some keep)
    rw [alookup_aset_eq] at hx
    split at hx
    · next hxk => cases hx; subst hxk; exact hd
    · exact h x w hx

theorem Coherent.remove (u : U) (k : Bytes) (fail : Bool) (h : Coherent u) : Coherent (u.remove k fail).1 := by
  cases fail with
  | true => exact Coherent.shrink (c := u.cache) h fun _ _ hx => (alookup_aerase_some hx).2
  | false => exact Coherent.erase (c := u.cache) h k

theorem Coherent.clearCache (u : U) : Coherent u.clearCache := fun _ _ hx => nomatch hx

theorem get_miss (u : U) (k : Bytes) (keep : List Bytes) (hc : alookup k u.cache = none) :
    (u.get k false keep).2 = alookup k u.db := by
  cases hd : alookup k u.db with
  | none => rw [U.get_miss_none u k keep hc hd]
  | some v => rw [U.get_miss_some u k keep v hc hd]

theorem get_spec (u : U) (k : Bytes) (keep : List Bytes) (h : Coherent u) :
    (u.get k false keep).2 = alookup k u.db := by
  cases hc : alookup k u.cache with
  | none => exact get_miss u k keep hc
  | some v => rw [U.get_hit u k false keep v hc, h k v hc]

theorem get_faulty (u : U) (k : Bytes) (keep : List Bytes) (h : Coherent u) :
    (u.get k true keep).2 = none ∨ (u.get k true keep).2 = alookup k u.db := by
  cases hc : alookup k u.cache with
  | none => exact Or.inl (by rw [U.get_miss_fail u k keep hc])
  | some v => exact Or.inr (by rw [U.get_hit u k true keep v hc, h k v hc])

theorem has_spec (u : U) (k : Bytes) (h : Coherent u) : u.has k = (alookup k u.db).isSome := by
  unfold U.has
  cases hc : alookup k u.cache with
  | none => simp
  | some v => rw [h k v hc]; rfl

theorem put_db (u : U) (k v : Bytes) (fail : Bool) (keep : List Bytes) :
    (u.put k v fail keep).2 = !fail ∧ (u.put k v fail keep).1.db = (if fail then u.db else aset k v u.db) := by
  cases fail <;> exact ⟨rfl, rfl⟩

theorem remove_db (u : U) (k : Bytes) (fail : Bool) :
    (u.remove k fail).2 = !fail ∧ (u.remove k fail).1.db = (if fail then u.db else aerase k u.db) := by
  cases fail <;> exact ⟨rfl, rfl⟩

theorem get_db (u : U) (k : Bytes) (fail : Bool) (keep : List Bytes) : (u.get k fail keep).1.db = u.db := by
  rcases get_shape u k fail keep with he | ⟨v, _, _, he⟩ <;> rw [he]

theorem rejected_put_not_served (u : U) (k v : Bytes) (keep keep' : List Bytes) :
    ((u.put k v true keep).1.get k false keep').2 = alookup k u.db := by
  have hc : alookup k (u.put k v true keep).1.cache = none := by
    show alookup k (aerase k (restrict keep (aset k v u.cache))) = none
    exact alookup_aerase_self _ _
  rw [get_miss _ k keep' hc]
  rfl

theorem remove_clears (u : U) (k : Bytes) :
    alookup k (u.remove k false).1.cache = none ∧ alookup k (u.remove k false).1.db = none :=
  ⟨alookup_aerase_self k u.cache, alookup_aerase_self k u.db⟩

inductive Op where
  | put (k v : Bytes) (fail : Bool) (keep : List Bytes)
  | get (k : Bytes) (fail : Bool) (keep : List Bytes)
  | rm (k : Bytes) (fail : Bool)
  | clearCache

def U.step (u : U) : Op → U
  | .put k v f keep => (u.put k v f keep).1
  | .get k f keep => (u.get k f keep).1
  | .rm k f => (u.remove k f).1
  | .clearCache => u.clearCache

/-- the map of acknowledged writes -/
def ackStep (m : Bytes → Option Bytes) : Op → (Bytes → Option Bytes)
  | .put k v false _ => fun x => if x = k then some v else m x
  | .rm k false => fun x => if x = k then none else m x
  | _ => m

def Tracks (u : U) (m : Bytes → Option Bytes) : Prop := Coherent u ∧ ∀ x, alookup x u.db = m x

theorem Tracks.step (u : U) (m : Bytes → Option Bytes) (op : Op) (h : Tracks u m) :
    Tracks (u.step op) (ackStep m op) := by
  obtain ⟨hc, hm⟩ := h
  cases op with
  | put k v f keep =>
    refine ⟨Coherent.put u k v f keep hc, ?_⟩
    intro x
    cases f with
    | true => exact hm x
    | false =>
      show alookup x (aset k v u.db) = if x = k then some v else m x
      rw [alookup_aset_eq, hm x]
  | get k f keep =>
    refine ⟨Coherent.get u k f keep hc, ?_⟩
    intro x
    show alookup x (u.get k f keep).1.db = m x
    rw [get_db]
    exact hm x
  | rm k f =>
    refine ⟨Coherent.remove u k f hc, ?_⟩
    intro x
    cases f with
    | true => exact hm x
    | false =>
      show alookup x (aerase k u.db) = if x = k then none else m x
      rw [alookup_aerase_eq, hm x]
  | clearCache => exact ⟨Coherent.clearCache u, hm⟩

theorem Tracks.run (ops : List Op) (u : U) (m : Bytes → Option Bytes) (h : Tracks u m) :
    Tracks (ops.foldl U.step u) (ops.foldl ackStep m) :=
  List.foldl_rel h fun op _ u m h => Tracks.step u m op h

/-- C16: after ANY history (any cache evictions, any persister faults) Get and Has answer exactly like the map of
    acknowledged writes, and the unit stays coherent -/
theorem run_spec (ops : List Op) (k : Bytes) (keep : List Bytes) :
    let u := ops.foldl U.step U.init
    Coherent u ∧ (u.get k false keep).2 = (ops.foldl ackStep (fun _ => none)) k ∧
      u.has k = ((ops.foldl ackStep (fun _ => none)) k).isSome := by
  intro u
  have h0 : Tracks U.init (fun _ => none) := ⟨Coherent.init, fun x => rfl⟩
  obtain ⟨hc, hm⟩ := Tracks.run ops U.init _ h0
  refine ⟨hc, ?_, ?_⟩
  · rw [get_spec u k keep hc]; exact hm k
  · rw [has_spec u k hc]
    show (alookup k u.db).isSome = _
    rw [hm k]

end SV.Unit
