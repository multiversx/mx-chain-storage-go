/-
  SV.Misc.FifoRingProofs — the slot-array model `SV.Misc.FifoRing` of a `ConcurrentMapShard` refines the age-ordered
  model `SV.Misc.Fifo` (property C20).

  Results (all for every `maxSize = m ≥ 1`; `1 ≤ m` is part of `RingInv` through `idxAdd < m`):
    1. `RingInv.init`, `RingInv.set`, `RingInv.setIfAbsent`, `RingInv.remove`      — representation invariant
    2. `toShard_set`, `toShard_setIfAbsent`, `toShard_remove`, `toShard_init`        — literal commutation with `toShard`
       `RingInv.toShardInv`                                                            — `RingInv r → ShardInv r.m r.toShard`
    3. `keys_eq`, `keys_fuel`, `keys_resident`, `keys_nodup`                          — `Keys()` of a shard, same ORDER
    4. `step_refines`, `run_refines`, `run_init`                                       — arbitrary operation sequences
       `ring_bound`, `ring_set_resident`, `ring_survives`, `ring_set_keys`             — C20 theorems transferred
  The degenerate shard `m = 1` is covered by 1–4 (nothing is ever resident: `m1_nothing_resident`); only the transferred
  C20 properties that are false for `m = 1` (`ring_set_resident`, `ring_survives`, `ring_set_keys`) assume `2 ≤ m`,
  which is what the C20 domain `S ≥ 2N` gives (`shardSize_ge_two`).
-/
import SV.Misc.FifoRing
import SV.Misc.FifoProofs

namespace SV.Fifo
open SV

/-! ### modular index arithmetic: slot ↔ age; at the end, what blanking or writing one slot does to the reads of a
    slot array -/

theorem add_mod_inj {c x y m : Nat} (hx : x < m) (hy : y < m) (h : (c + x) % m = (c + y) % m) : x = y := by
  have h1 := Nat.sub_mod_eq_zero_of_mod_eq h
  have h2 := Nat.sub_mod_eq_zero_of_mod_eq h.symm
  rw [Nat.add_sub_add_left, Nat.mod_eq_of_lt (Nat.lt_of_le_of_lt (Nat.sub_le _ _) hx)] at h1
  rw [Nat.add_sub_add_left, Nat.mod_eq_of_lt (Nat.lt_of_le_of_lt (Nat.sub_le _ _) hy)] at h2
  exact Nat.le_antisymm (Nat.le_of_sub_eq_zero h1) (Nat.le_of_sub_eq_zero h2)

theorem add_mod_ne {a d m : Nat} (ha : a < m) (h0 : 0 < d) (hd : d < m) : (a + d) % m ≠ a := fun h =>
  Nat.ne_of_gt h0 (add_mod_inj hd (Nat.lt_of_le_of_lt (Nat.zero_le _) ha) (h.trans (Nat.mod_eq_of_lt ha).symm))

/-- the slot of age `j` lies `j + 1` slots before `idxAdd` -/
theorem vi_add (a m j : Nat) (hj : j < m) : (j + 1 + (a + m - 1 - j) % m) % m = a % m := by
  rw [Nat.add_mod_mod, Nat.add_comm, Nat.sub_sub, Nat.add_comm 1 j,
    Nat.sub_add_cancel (Nat.le_trans hj (Nat.le_add_left m a)), Nat.add_mod_right]

/-- … so the same formula takes a slot back to its age: on `[0, m)` it is an involution -/
theorem vi_vi (a m j : Nat) (hj : j < m) : (a + m - 1 - (a + m - 1 - j) % m) % m = j := by
  have hm : 0 < m := Nat.lt_of_le_of_lt (Nat.zero_le j) hj
  have e := (vi_add a m ((a + m - 1 - j) % m) (Nat.mod_lt _ hm)).trans (vi_add a m j hj).symm
  rw [Nat.add_comm (j + 1), ← Nat.add_assoc, Nat.add_right_comm _ j 1] at e
  exact add_mod_inj (Nat.mod_lt _ hm) hj e

theorem vi_lt (a m j : Nat) (ha : a < m) : (a + m - 1 - j) % m < m := Nat.mod_lt _ (by omega)

theorem vi_inj (a m j j' : Nat) (hj : j < m) (hj' : j' < m)
    (h : (a + m - 1 - j) % m = (a + m - 1 - j') % m) : j = j' := by
  rw [← vi_vi a m j hj, h, vi_vi a m j' hj']

/-- the oldest age `m − 2` sits right after `idxAdd` -/
theorem vi_last (a m : Nat) (hm : 2 ≤ m) : (a + m - 1 - (m - 1 - 1)) % m = (a + 1) % m := by
  rw [Nat.add_sub_assoc (Nat.le_of_succ_le hm), Nat.add_sub_assoc (Nat.sub_le _ _),
    Nat.sub_sub_self (Nat.le_sub_one_of_lt hm)]

/-- age `m − 1` would be the slot at `idxAdd` itself -/
theorem vi_hole (a m : Nat) (ha : a < m) : (a + m - 1 - (m - 1)) % m = a := by
  rw [Nat.add_sub_assoc (Nat.lt_of_le_of_lt (Nat.zero_le a) ha), Nat.add_sub_cancel, Nat.mod_eq_of_lt ha]

theorem vi_ne (a m j : Nat) (ha : a < m) (hj : j < m - 1) : (a + m - 1 - j) % m ≠ a := fun h =>
  Nat.ne_of_lt hj (vi_inj a m j (m - 1) (Nat.lt_of_lt_of_le hj (Nat.sub_le _ _))
    (Nat.sub_lt (Nat.lt_of_le_of_lt (Nat.zero_le _) ha) Nat.one_pos) (h.trans (vi_hole a m ha).symm))

/-- every slot other than `idxAdd` has an age `j < m − 1` -/
theorem vi_surj (a m i : Nat) (ha : a < m) (hi : i < m) (hne : i ≠ a) :
    ∃ j, j < m - 1 ∧ (a + m - 1 - j) % m = i := by
  have hj : (a + m - 1 - i) % m < m := Nat.mod_lt _ (Nat.lt_of_le_of_lt (Nat.zero_le _) ha)
  refine ⟨(a + m - 1 - i) % m, Nat.lt_of_le_of_ne (Nat.le_sub_one_of_lt hj) fun e => hne ?_, vi_vi a m i hi⟩
  rw [← vi_vi a m i hi, e, vi_hole a m ha]

/-- after `idxAdd++ ; idxAdd %= maxSize` the youngest age is the old `idxAdd` -/
theorem vi_zero_succ (a m : Nat) (ha : a < m) : ((a + 1) % m + m - 1 - 0) % m = a := by
  have hm : 1 ≤ m := Nat.lt_of_le_of_lt (Nat.zero_le a) ha
  rw [Nat.sub_zero, Nat.add_sub_assoc hm, Nat.mod_add_mod, Nat.add_assoc, Nat.add_sub_cancel' hm, Nat.add_mod_right,
    Nat.mod_eq_of_lt ha]

/-- … and every other age grows by one: both sides are `(a + (m − 1 − j)) % m` -/
theorem vi_succ (a m j : Nat) (hj : j + 1 < m) :
    ((a + 1) % m + m - 1 - (j + 1)) % m = (a + m - 1 - j) % m := by
  have h1 : 1 ≤ m := Nat.le_of_lt (Nat.lt_of_le_of_lt (Nat.le_add_left 1 j) hj)
  have h2 : j + 1 ≤ m - 1 := Nat.le_sub_one_of_lt hj
  rw [Nat.add_sub_assoc h1, Nat.add_sub_assoc h2, Nat.mod_add_mod, Nat.add_sub_assoc h1,
    Nat.add_sub_assoc (Nat.le_of_succ_le h2), Nat.add_assoc, Nat.sub_add_eq,
    Nat.add_sub_cancel' (Nat.le_sub_of_add_le (Nat.add_comm j 1 ▸ h2))]

theorem getElem?_set_none {l : List (Option Bytes)} {i j : Nat} {x : Bytes} :
    (l.set i none)[j]? = some (some x) ↔ j ≠ i ∧ l[j]? = some (some x) := by
  rw [List.getElem?_set]
  by_cases h : i = j
  · subst h; rw [if_pos rfl]; split <;> simp
  · rw [if_neg h]; simp [Ne.symm h]

theorem getElem?_set_some {l : List (Option Bytes)} {i j : Nat} {k x : Bytes} (hi : i < l.length) :
    (l.set i (some k))[j]? = some (some x) ↔ (j = i ∧ x = k) ∨ (j ≠ i ∧ l[j]? = some (some x)) := by
  by_cases h : i = j
  · subst h
    rw [List.getElem?_set_self hi, Option.some.injEq, Option.some.injEq]
    exact ⟨fun e => Or.inl ⟨rfl, e.symm⟩, fun e => e.elim (fun e => e.2.symm) fun e => absurd rfl e.1⟩
  · rw [List.getElem?_set_ne h]
    exact ⟨fun e => Or.inr ⟨Ne.symm h, e⟩, fun e => e.elim (fun e => absurd e.1.symm h) And.right⟩

/-! ### 1. the representation invariant -/

/-- consistency of `mapKeys` and `items`, without the requirement that the slot at `idxAdd` is blank (this is what
    holds in the middle of `appendKeyToList`, between `mapKeys[idxAdd] = key` and the blanking of the next slot) -/
structure SlotsInv (r : Ring) : Prop where
  len : r.slots.length = r.m
  idx : r.idxAdd < r.m
  /-- every item's `arrayIdx` points at a slot holding its key -/
  itemSlot : ∀ (k v : Bytes) (i : Nat), alookup k r.items = some (v, i) → r.slots[i]? = some (some k)
  slotItem : ∀ (i : Nat) (k : Bytes), r.slots[i]? = some (some k) → (alookup k r.items).isSome = true
  slotsInj : ∀ (i j : Nat) (k : Bytes), r.slots[i]? = some (some k) → r.slots[j]? = some (some k) → i = j
  itemsNodup : (r.items.map (·.1)).Nodup

/-- the representation invariant of a shard between two operations -/
structure RingInv (r : Ring) : Prop extends SlotsInv r where
  hole : r.slots[r.idxAdd]? = some none

/-- second half of `appendKeyToList`: `idxAdd++ ; idxAdd %= maxSize ; keyToRemove := mapKeys[idxAdd] ;
    mapKeys[idxAdd] = "" ; delete(items, keyToRemove)` -/
def Ring.advance (r : Ring) : Ring :=
  match r.slot ((r.idxAdd + 1) % r.m) with
  | some old => ⟨r.m, (r.idxAdd + 1) % r.m, r.slots.set ((r.idxAdd + 1) % r.m) none, aerase old r.items⟩
  | none => ⟨r.m, (r.idxAdd + 1) % r.m, r.slots.set ((r.idxAdd + 1) % r.m) none, r.items⟩

theorem appendKey_eq (r : Ring) (k : Bytes) :
    r.appendKey k = ({ r with slots := r.slots.set r.idxAdd (some k) } : Ring).advance := by
  simp only [Ring.appendKey, Ring.advance, Ring.slot]
  cases (r.slots.set r.idxAdd (some k))[(r.idxAdd + 1) % r.m]?.getD none <;> rfl

theorem set_eq (r : Ring) (k v : Bytes) :
    r.set k v = (⟨r.m, r.idxAdd, r.blankSlots k, aset k (v, r.idxAdd) r.items⟩ : Ring).appendKey k := by
  unfold Ring.set Ring.blankSlots
  dsimp only
  split <;> rfl

theorem slot_eq_some {r : Ring} {i : Nat} {x : Bytes} : r.slot i = some x ↔ r.slots[i]? = some (some x) := by
  unfold Ring.slot
  cases h : r.slots[i]? with
  | none => simp
  | some y => simp

theorem init_slot_blank (m i : Nat) (k : Bytes) : (Ring.init m).slots[i]? ≠ some (some k) :=
  fun h => nomatch (List.mem_replicate.mp (List.mem_of_getElem? h)).2

theorem RingInv.init (m : Nat) (hm : 1 ≤ m) : RingInv (Ring.init m) where
  len := List.length_replicate
  idx := hm
  itemSlot := fun _ _ _ h => nomatch h
  slotItem := fun i k h => absurd h (init_slot_blank m i k)
  slotsInj := fun i _ k h => absurd h (init_slot_blank m i k)
  itemsNodup := List.nodup_nil
  hole := List.getElem?_replicate_of_lt hm

/-- under the invariant, blanking the one slot `v.arrayIdx` blanks every occurrence of the key -/
theorem blankSlots_eq (r : Ring) (k : Bytes) (h : SlotsInv r) : r.blankSlots k = blank k r.slots := by
  unfold Ring.blankSlots
  cases ha : alookup k r.items with
  | none =>
    refine (blank_eq_self k r.slots fun hm => ?_).symm
    obtain ⟨i, hi⟩ := List.mem_iff_getElem?.mp hm
    have := h.slotItem i k hi
    rw [ha] at this; cases this
  | some p =>
    obtain ⟨w, i0⟩ := p
    have h0 := h.itemSlot k w i0 ha
    apply List.ext_getElem?
    intro i
    dsimp only
    rw [getElem?_blank, List.getElem?_set]
    by_cases hi : i0 = i
    · subst hi
      rw [if_pos rfl, if_pos (List.getElem?_eq_some_iff.mp h0).1, h0]
      simp
    · rw [if_neg hi]
      cases hs : r.slots[i]? with
      | none => rfl
      | some y =>
        have hy : y ≠ some k := by
          rintro rfl
          exact hi (h.slotsInj i0 i k h0 hs)
        simp [hy]

/-- `mapKeys[idxAdd] = key` after the overwrite-blanking and `items[key] = …` re-establishes consistency -/
theorem RingInv.write (r : Ring) (k v : Bytes) (h : RingInv r) :
    SlotsInv ⟨r.m, r.idxAdd, (blank k r.slots).set r.idxAdd (some k), aset k (v, r.idxAdd) r.items⟩ := by
  have hlenB : (blank k r.slots).length = r.m := by rw [blank_length]; exact h.len
  have hget : ∀ i x, ((blank k r.slots).set r.idxAdd (some k))[i]? = some (some x) ↔
      (i = r.idxAdd ∧ x = k) ∨ (i ≠ r.idxAdd ∧ x ≠ k ∧ r.slots[i]? = some (some x)) := fun i x => by
    rw [getElem?_set_some (hlenB ▸ h.idx), getElem?_blank_some]
  refine ⟨?_, h.idx, ?_, ?_, ?_, ?_⟩
  · simp only [List.length_set]; exact hlenB
  · intro x w i hx
    dsimp only at hx ⊢
    rw [hget]
    by_cases hxk : x = k
    · subst hxk
      rw [alookup_aset_self] at hx
      have : r.idxAdd = i := by simpa using congrArg Prod.snd (Option.some.inj hx)
      exact Or.inl ⟨this.symm, rfl⟩
    · rw [alookup_aset_ne _ _ hxk] at hx
      have hs := h.itemSlot x w i hx
      refine Or.inr ⟨?_, hxk, hs⟩
      rintro rfl
      rw [h.hole] at hs; cases hs
  · intro i x hx
    dsimp only at hx ⊢
    rw [hget] at hx
    rcases hx with ⟨_, rfl⟩ | ⟨_, hxk, hs⟩
    · rw [alookup_aset_self]; rfl
    · rw [alookup_aset_ne _ _ hxk]; exact h.slotItem i x hs
  · intro i j x hi hj
    dsimp only at hi hj
    rw [hget] at hi hj
    rcases hi with ⟨hi1, hi2⟩ | ⟨_, hi2, hi3⟩ <;> rcases hj with ⟨hj1, hj2⟩ | ⟨_, hj2, hj3⟩
    · rw [hi1, hj1]
    · exact absurd hi2 hj2
    · exact absurd hj2 hi2
    · exact h.slotsInj i j x hi3 hj3
  · exact nodup_keys_aset k _ h.itemsNodup

theorem advance_eq (r : Ring) :
    ∃ its, r.advance = ⟨r.m, (r.idxAdd + 1) % r.m, r.slots.set ((r.idxAdd + 1) % r.m) none, its⟩ ∧
      (∀ x, alookup x its = if r.slots[(r.idxAdd + 1) % r.m]? = some (some x) then none else alookup x r.items) ∧
      ((r.items.map (·.1)).Nodup → (its.map (·.1)).Nodup) := by
  unfold Ring.advance
  cases hs : r.slot ((r.idxAdd + 1) % r.m) with
  | none =>
    refine ⟨_, rfl, fun x => ?_, id⟩
    rw [if_neg (fun e => by rw [slot_eq_some.mpr e] at hs; cases hs)]
  | some old =>
    refine ⟨_, rfl, fun x => ?_, nodup_keys_aerase old⟩
    rw [slot_eq_some.mp hs]
    by_cases e : x = old
    · subst e; rw [if_pos rfl, alookup_aerase_self]
    · rw [if_neg (fun e' => e (Option.some.inj (Option.some.inj e')).symm), alookup_aerase_ne _ e]

theorem SlotsInv.advance (r : Ring) (h : SlotsInv r) : RingInv r.advance := by
  have ha' : (r.idxAdd + 1) % r.m < r.m := Nat.mod_lt _ (by have := h.idx; omega)
  obtain ⟨its, hadv, hlook, hnd⟩ := advance_eq r
  rw [hadv]
  refine ⟨⟨?_, ha', ?_, ?_, ?_, hnd h.itemsNodup⟩, List.getElem?_set_self (by rw [h.len]; exact ha')⟩
  · rw [List.length_set]; exact h.len
  · intro x w i hx
    dsimp only at hx ⊢
    rw [hlook] at hx
    split at hx
    · cases hx
    · next hne =>
      have := h.itemSlot x w i hx
      exact getElem?_set_none.mpr ⟨by rintro rfl; exact hne this, this⟩
  · intro i x hx
    obtain ⟨hi, hx⟩ := getElem?_set_none.mp hx
    dsimp only
    rw [hlook, if_neg (fun e => hi (h.slotsInj i _ x hx e))]
    exact h.slotItem i x hx
  · intro i j x hi hj
    exact h.slotsInj i j x (getElem?_set_none.mp hi).2 (getElem?_set_none.mp hj).2

theorem RingInv.set (r : Ring) (k v : Bytes) (h : RingInv r) : RingInv (r.set k v) := by
  rw [set_eq, appendKey_eq, blankSlots_eq r k h.toSlotsInv]
  exact SlotsInv.advance _ (RingInv.write r k v h)

theorem Ring.setIfAbsent_present (r : Ring) (k v : Bytes) (hp : (alookup k r.items).isSome = true) :
    r.setIfAbsent k v = (r, false) := by
  unfold Ring.setIfAbsent
  cases ha : alookup k r.items with
  | none => rw [ha] at hp; cases hp
  | some p => rfl

theorem Ring.setIfAbsent_absent (r : Ring) (k v : Bytes) (hp : (alookup k r.items).isSome = false) :
    r.setIfAbsent k v = (r.set k v, true) := by
  unfold Ring.setIfAbsent Ring.set
  cases ha : alookup k r.items with
  | none => rfl
  | some p => rw [ha] at hp; cases hp

theorem RingInv.setIfAbsent (r : Ring) (k v : Bytes) (h : RingInv r) : RingInv (r.setIfAbsent k v).1 := by
  cases hp : (alookup k r.items).isSome with
  | true => rw [Ring.setIfAbsent_present r k v hp]; exact h
  | false => rw [Ring.setIfAbsent_absent r k v hp]; exact RingInv.set r k v h

theorem Ring.remove_present (r : Ring) (k : Bytes) (h : SlotsInv r) (hp : (alookup k r.items).isSome = true) :
    r.remove k = ⟨r.m, r.idxAdd, blank k r.slots, aerase k r.items⟩ := by
  rw [← blankSlots_eq r k h]
  unfold Ring.remove Ring.blankSlots
  cases ha : alookup k r.items with
  | none => rw [ha] at hp; cases hp
  | some p => rfl

theorem Ring.remove_absent (r : Ring) (k : Bytes) (hp : (alookup k r.items).isSome = false) : r.remove k = r := by
  unfold Ring.remove
  cases ha : alookup k r.items with
  | none => rfl
  | some p => rw [ha] at hp; cases hp

theorem advance_m (r : Ring) : r.advance.m = r.m := by
  unfold Ring.advance; split <;> rfl

theorem Ring.set_m (r : Ring) (k v : Bytes) : (r.set k v).m = r.m := by
  rw [set_eq, appendKey_eq, advance_m]

theorem Ring.setIfAbsent_m (r : Ring) (k v : Bytes) : (r.setIfAbsent k v).1.m = r.m := by
  cases hp : (alookup k r.items).isSome with
  | true => rw [Ring.setIfAbsent_present r k v hp]
  | false => rw [Ring.setIfAbsent_absent r k v hp]; exact Ring.set_m r k v

theorem Ring.remove_m (r : Ring) (k : Bytes) : (r.remove k).m = r.m := by
  unfold Ring.remove; split <;> rfl

theorem RingInv.remove (r : Ring) (k : Bytes) (h : RingInv r) : RingInv (r.remove k) := by
  cases hp : (alookup k r.items).isSome with
  | false => rw [Ring.remove_absent r k hp]; exact h
  | true =>
    rw [Ring.remove_present r k h.toSlotsInv hp]
    refine ⟨⟨?_, h.idx, ?_, ?_, ?_, nodup_keys_aerase k h.itemsNodup⟩, ?_⟩
    · rw [blank_length]; exact h.len
    · intro x w i hx
      dsimp only at hx ⊢
      have hxk : x ≠ k := by
        rintro rfl
        rw [alookup_aerase_self] at hx; cases hx
      rw [alookup_aerase_ne _ hxk] at hx
      exact (getElem?_blank_some k x r.slots i).mpr ⟨hxk, h.itemSlot x w i hx⟩
    · intro i x hx
      dsimp only at hx ⊢
      rw [getElem?_blank_some] at hx
      rw [alookup_aerase_ne _ hx.1]
      exact h.slotItem i x hx.2
    · intro i j x hi hj
      dsimp only at hi hj
      rw [getElem?_blank_some] at hi hj
      exact h.slotsInj i j x hi.2 hj.2
    · dsimp only
      rw [getElem?_blank, h.hole]; rfl

/-! ### 2. the abstraction function -/

theorem Shard.ext' {s t : Shard} (hv : s.view = t.view) (hw : s.vals = t.vals) : s = t := by
  cases s; cases t; cases hv; cases hw; rfl

theorem toShard_isSome (r : Ring) (k : Bytes) : (alookup k r.toShard.vals).isSome = (alookup k r.items).isSome := by
  show (alookup k (r.items.map fun p => (p.1, p.2.1))).isSome = _
  rw [alookup_map_val, Option.isSome_map]

theorem toShard_view_length (r : Ring) : r.toShard.view.length = r.m - 1 := by simp [Ring.toShard]

theorem toShard_view_getElem? (r : Ring) (j : Nat) (hj : j < r.m - 1) :
    r.toShard.view[j]? = some (r.slot (r.vidx j)) := by
  simp only [Ring.toShard, List.getElem?_map, List.getElem?_range hj, Option.map_some]

theorem toShard_view_getElem?_none (r : Ring) (j : Nat) (hj : r.m - 1 ≤ j) : r.toShard.view[j]? = none :=
  List.getElem?_eq_none (by rw [toShard_view_length]; exact hj)

theorem view_ext (r : Ring) (l : List (Option Bytes)) (hl : l.length = r.m - 1)
    (h : ∀ j, j < r.m - 1 → l[j]? = some (r.slot (r.vidx j))) : r.toShard.view = l := by
  apply List.ext_getElem?
  intro j
  rcases Nat.lt_or_ge j (r.m - 1) with hj | hj
  · rw [toShard_view_getElem? r j hj, h j hj]
  · rw [toShard_view_getElem?_none r j hj, List.getElem?_eq_none (by rw [hl]; exact hj)]

theorem view_getElem?_some (r : Ring) (j : Nat) (x : Bytes) :
    r.toShard.view[j]? = some (some x) ↔ j < r.m - 1 ∧ r.slots[r.vidx j]? = some (some x) := by
  rcases Nat.lt_or_ge j (r.m - 1) with hj | hj
  · rw [toShard_view_getElem? r j hj]
    simp only [Option.some.injEq, slot_eq_some, hj, true_and]
  · rw [toShard_view_getElem?_none r j hj]
    constructor
    · intro e; cases e
    · intro e; omega

theorem toShard_init (m : Nat) : (Ring.init m).toShard = Shard.init m := by
  apply Shard.ext'
  · apply view_ext
    · simp [Shard.init, Ring.init]
    · intro j hj
      simp only [Ring.init] at hj
      simp only [Shard.init, Ring.init, Ring.slot, List.getElem?_replicate, if_pos hj]
      split <;> rfl
  · rfl

theorem view_blank (r : Ring) (k : Bytes) (its : List (Bytes × (Bytes × Nat))) :
    (⟨r.m, r.idxAdd, blank k r.slots, its⟩ : Ring).toShard.view = blank k r.toShard.view := by
  apply view_ext
  · rw [blank_length]; exact toShard_view_length r
  · intro j hj
    dsimp only at hj
    rw [getElem?_blank, toShard_view_getElem? r j hj]
    simp only [Option.map_some, Ring.slot, Ring.vidx, getElem?_blank]
    cases r.slots[(r.idxAdd + r.m - 1 - j) % r.m]? with
    | none => simp
    | some y => simp

theorem nodup_filterMap_id (l : List (Option Bytes))
    (hinj : ∀ (i j : Nat) (x : Bytes), l[i]? = some (some x) → l[j]? = some (some x) → i = j) :
    (l.filterMap id).Nodup := by
  rw [List.Nodup, List.pairwise_filterMap, List.pairwise_iff_getElem]
  intro i j hi hj hij b hb b' hb' e
  subst e
  have := hinj i j b (by rw [List.getElem?_eq_getElem hi]; exact congrArg some hb)
    (by rw [List.getElem?_eq_getElem hj]; exact congrArg some hb')
  omega

theorem mem_view (r : Ring) (x : Bytes) :
    some x ∈ r.toShard.view ↔ ∃ j, j < r.m - 1 ∧ r.slots[r.vidx j]? = some (some x) := by
  rw [List.mem_iff_getElem?]
  constructor
  · rintro ⟨j, hj⟩; exact ⟨j, (view_getElem?_some r j x).mp hj⟩
  · rintro ⟨j, hj⟩; exact ⟨j, (view_getElem?_some r j x).mpr hj⟩

/-- the ring invariant implies the invariant of the age-ordered model: every theorem of `FifoProofs` that assumes
    `ShardInv` applies to `r.toShard` -/
theorem RingInv.toShardInv (r : Ring) (h : RingInv r) : ShardInv r.m r.toShard where
  len := toShard_view_length r
  nodup := by
    apply nodup_filterMap_id
    intro i j x hi hj
    rw [view_getElem?_some] at hi hj
    have := h.slotsInj _ _ x hi.2 hj.2
    exact vi_inj r.idxAdd r.m i j (by omega) (by omega) this
  agree := by
    intro k
    rw [mem_view, toShard_isSome]
    constructor
    · intro hp
      cases ha : alookup k r.items with
      | none => rw [ha] at hp; cases hp
      | some p =>
        obtain ⟨w, i⟩ := p
        have hs := h.itemSlot k w i ha
        have hi : i < r.m := h.len ▸ (List.getElem?_eq_some_iff.mp hs).1
        have hne : i ≠ r.idxAdd := by
          rintro rfl
          rw [h.hole] at hs; cases hs
        obtain ⟨j, hj, hv⟩ := vi_surj r.idxAdd r.m i h.idx hi hne
        exact ⟨j, hj, by unfold Ring.vidx; rw [hv]; exact hs⟩
    · rintro ⟨j, _, hs⟩
      exact h.slotItem _ k hs
  valsNodup := by
    show ((r.items.map (fun p => (p.1, p.2.1))).map (·.1)).Nodup
    rw [keys_map_val]; exact h.itemsNodup

/-- writing `x` at `idxAdd`, moving `idxAdd` on and blanking the slot it reaches makes `x` the youngest entry and
    drops the oldest -/
theorem view_shift (r : Ring) (x : Option Bytes) (its : List (Bytes × (Bytes × Nat))) (hlen : r.slots.length = r.m)
    (hidx : r.idxAdd < r.m) (hm : 2 ≤ r.m) :
    (⟨r.m, (r.idxAdd + 1) % r.m, (r.slots.set r.idxAdd x).set ((r.idxAdd + 1) % r.m) none, its⟩ : Ring).toShard.view
      = x :: r.toShard.view.dropLast := by
  apply view_ext
  · rw [List.length_cons, List.length_dropLast, toShard_view_length]
    exact Nat.sub_add_cancel (Nat.le_sub_one_of_lt hm)
  · intro j hj
    dsimp only at hj
    simp only [Ring.slot, Ring.vidx]
    cases j with
    | zero =>
      rw [vi_zero_succ r.idxAdd r.m hidx, List.getElem?_set_ne (add_mod_ne hidx Nat.one_pos hm),
        List.getElem?_set_self (by rw [hlen]; exact hidx)]
      rfl
    | succ j =>
      -- age `j + 1 ≤ m − 2` was age `j ≤ m − 3`, whose slot is neither `idxAdd` (age `m − 1`) nor the next one
      -- (age `m − 2`)
      have hj1 : j + 1 < r.m := Nat.lt_of_lt_of_le hj (Nat.sub_le _ _)
      have hj2 : j < r.m - 1 := Nat.lt_of_succ_lt hj
      have hj3 : j < r.m - 1 - 1 := Nat.lt_sub_of_add_lt hj
      have hm2 : r.m - 1 - 1 < r.m :=
        Nat.lt_of_le_of_lt (Nat.sub_le _ _) (Nat.sub_lt (Nat.lt_of_lt_of_le Nat.zero_lt_two hm) Nat.one_pos)
      have h1 := vi_ne r.idxAdd r.m j hidx hj2
      have h2 : (r.idxAdd + r.m - 1 - j) % r.m ≠ (r.idxAdd + 1) % r.m := fun e =>
        Nat.ne_of_lt hj3 (vi_inj r.idxAdd r.m j _ (Nat.lt_of_succ_lt hj1) hm2 (e.trans (vi_last r.idxAdd r.m hm).symm))
      rw [vi_succ r.idxAdd r.m j hj1, List.getElem?_set_ne (Ne.symm h2), List.getElem?_set_ne (Ne.symm h1),
        List.getElem?_cons_succ, List.getElem?_dropLast, toShard_view_length, if_pos hj3,
        toShard_view_getElem? r j hj2]
      rfl

theorem appendKey_toShard (r : Ring) (k : Bytes) (hlen : r.slots.length = r.m) (hidx : r.idxAdd < r.m)
    (hm : 2 ≤ r.m) : (r.appendKey k).toShard = r.toShard.append k := by
  have hlast : r.toShard.view.getLast? = some (r.slot ((r.idxAdd + 1) % r.m)) := by
    rw [List.getLast?_eq_getElem?, toShard_view_length,
      toShard_view_getElem? r _ (Nat.sub_lt (Nat.le_sub_one_of_lt hm) Nat.one_pos), Ring.vidx, vi_last r.idxAdd r.m hm]
  -- the slot read as `keyToRemove` is not the one just written
  have hread : (r.slots.set r.idxAdd (some k))[(r.idxAdd + 1) % r.m]?.getD none = r.slot ((r.idxAdd + 1) % r.m) := by
    rw [List.getElem?_set_ne (Ne.symm (add_mod_ne hidx Nat.one_pos hm))]; rfl
  unfold Shard.append
  rw [hlast]
  simp only [Ring.appendKey, Ring.slot, hread]
  cases hs : r.slots[(r.idxAdd + 1) % r.m]?.getD none with
  | none => exact Shard.ext' (view_shift r _ _ hlen hidx hm) rfl
  | some old => exact Shard.ext' (view_shift r _ _ hlen hidx hm) (aerase_map_val Prod.fst old r.items)

/-- `maxSize = 1`: the key is written into the only slot, which is at once blanked again -/
theorem toShard_set_one (r : Ring) (k v : Bytes) (h : RingInv r) (hm : r.m = 1) :
    (r.set k v).toShard = r.toShard.set k v := by
  have ha : r.idxAdd = 0 := Nat.lt_one_iff.mp (hm ▸ h.idx)
  have hslot : (⟨r.m, r.idxAdd, (blank k r.slots).set r.idxAdd (some k), aset k (v, r.idxAdd) r.items⟩ : Ring).slot
      ((r.idxAdd + 1) % r.m) = some k := by
    simp only [Ring.slot, ha, hm]
    rw [List.getElem?_set_self (by rw [blank_length, h.len, hm]; exact Nat.one_pos)]
    rfl
  rw [set_eq, blankSlots_eq r k h.toSlotsInv, appendKey_eq,
    set_of_view_nil _ k v (List.eq_nil_of_length_eq_zero (by rw [toShard_view_length, hm]))]
  unfold Ring.advance
  simp only [hslot]
  refine Shard.ext' (List.eq_nil_of_length_eq_zero (by rw [toShard_view_length]; exact congrArg (· - 1) hm)) ?_
  show (aerase k (aset k (v, r.idxAdd) r.items)).map (fun p => (p.1, p.2.1)) = _
  rw [aerase_map_val, aset_map_val]; rfl

/-- 2. refinement: `Set` commutes with the abstraction (all `maxSize ≥ 1`) -/
theorem toShard_set (r : Ring) (k v : Bytes) (h : RingInv r) : (r.set k v).toShard = r.toShard.set k v := by
  rcases Nat.lt_or_ge r.m 2 with hm | hm
  · exact toShard_set_one r k v h (by have := h.idx; omega)
  · have hsi := h.toShardInv
    rw [set_eq, blankSlots_eq r k h.toSlotsInv,
      appendKey_toShard ⟨r.m, r.idxAdd, blank k r.slots, aset k (v, r.idxAdd) r.items⟩ k
        (by rw [blank_length]; exact h.len) h.idx hm,
      shard_set_eq r.toShard k v (hsi.view_ne_nil hm) (fun hp hmem => by rw [(hsi.agree k).mpr hmem] at hp; cases hp)]
    congr 1
    exact Shard.ext' (view_blank r k _) (aset_map_val Prod.fst k (v, r.idxAdd) r.items)

/-- 2. refinement: `SetIfAbsent` commutes with the abstraction, including the returned flag -/
theorem toShard_setIfAbsent (r : Ring) (k v : Bytes) (h : RingInv r) :
    ((r.setIfAbsent k v).1.toShard, (r.setIfAbsent k v).2) = r.toShard.setIfAbsent k v := by
  have hvals := toShard_isSome r k
  cases hp : (alookup k r.items).isSome with
  | true =>
    rw [Ring.setIfAbsent_present r k v hp, setIfAbsent_present r.toShard k v (by rw [hvals]; exact hp)]
  | false =>
    rw [Ring.setIfAbsent_absent r k v hp, setIfAbsent_absent r.toShard k v (by rw [hvals]; exact hp),
      toShard_set r k v h]

theorem toShard_remove (r : Ring) (k : Bytes) (h : RingInv r) : (r.remove k).toShard = r.toShard.remove k := by
  have hvals := toShard_isSome r k
  unfold Shard.remove
  cases hp : (alookup k r.items).isSome with
  | true =>
    rw [Ring.remove_present r k h.toSlotsInv hp, if_pos (by rw [hvals]; exact hp)]
    exact Shard.ext' (view_blank r k _) (aerase_map_val Prod.fst k r.items)
  | false =>
    rw [Ring.remove_absent r k hp, if_neg (by rw [hvals, hp]; simp)]

theorem toShard_get (r : Ring) (k : Bytes) : r.get k = alookup k r.toShard.vals :=
  (alookup_map_val Prod.fst k r.items).symm

/-! ### 3. `Keys()` -/

/-- the loop of `Keys()` started `d` slots after `idxAdd` walks the ring up to `idxAdd` (exclusive); `n = m − d`
    units of fuel are enough -/
theorem keysLoop_spec (r : Ring) (ha : r.idxAdd < r.m) :
    ∀ (n d fuel : Nat), d + n = r.m → 1 ≤ d → n ≤ fuel →
      r.keysLoop fuel ((r.idxAdd + d) % r.m)
        = ((List.range' d n).map (fun t => r.slot ((r.idxAdd + t) % r.m))).filterMap id := by
  intro n
  induction n with
  | zero =>
    intro d fuel hd _ _
    have : (r.idxAdd + d) % r.m = r.idxAdd := by
      rw [show d = r.m from hd, Nat.add_mod_right, Nat.mod_eq_of_lt ha]
    rw [this]
    cases fuel with
    | zero => rfl
    | succ f => simp [Ring.keysLoop]
  | succ n ih =>
    intro d fuel hd h1 hf
    cases fuel with
    | zero => exact absurd hf (Nat.not_succ_le_zero n)
    | succ f =>
      have hne : (r.idxAdd + d) % r.m ≠ r.idxAdd :=
        add_mod_ne ha h1 (hd ▸ Nat.lt_add_of_pos_right (Nat.succ_pos n))
      have hnext : ((r.idxAdd + d) % r.m + 1) % r.m = (r.idxAdd + (d + 1)) % r.m := by
        rw [Nat.mod_add_mod]; rfl
      have ih' := ih (d + 1) f (by rw [Nat.add_right_comm]; exact hd) (Nat.le_add_left 1 d) (Nat.le_of_succ_le_succ hf)
      rw [Ring.keysLoop, if_neg hne, hnext, ih', List.range'_succ, List.map_cons, List.filterMap_cons]
      simp only [id]
      cases r.slot ((r.idxAdd + d) % r.m) <;> rfl

theorem view_reverse (r : Ring) :
    r.toShard.view.reverse = (List.range' 1 (r.m - 1)).map (fun t => r.slot ((r.idxAdd + t) % r.m)) := by
  show ((List.range (r.m - 1)).map fun j => r.slot (r.vidx j)).reverse = _
  rw [← List.map_reverse, List.range_eq_range', List.reverse_range', List.range'_eq_map_range, List.map_map,
    List.map_map]
  apply List.map_congr_left
  intro t ht
  have ht : 1 + t ≤ r.m - 1 := Nat.add_comm t 1 ▸ List.mem_range.mp ht
  have hm : 1 ≤ r.m := Nat.le_of_lt (Nat.lt_of_sub_pos (Nat.lt_of_lt_of_le (Nat.lt_add_right t Nat.one_pos) ht))
  -- position `t` from the end is age `m − 2 − t`, which sits `1 + t` slots after `idxAdd`
  show r.slot ((r.idxAdd + r.m - 1 - (0 + (r.m - 1) - 1 - t)) % r.m) = r.slot ((r.idxAdd + (1 + t)) % r.m)
  rw [Nat.zero_add, Nat.add_sub_assoc hm, Nat.sub_sub (r.m - 1) 1 t, Nat.add_sub_assoc (Nat.sub_le _ _),
    Nat.sub_sub_self ht]

theorem keysLoop_eq (r : Ring) (ha : r.idxAdd < r.m) (fuel : Nat) (hf : r.m - 1 ≤ fuel) :
    r.keysLoop fuel ((r.idxAdd + 1) % r.m) = r.toShard.keys := by
  rw [Shard.keys, view_reverse, keysLoop_spec r ha (r.m - 1) 1 fuel
    (Nat.add_sub_cancel' (Nat.lt_of_le_of_lt (Nat.zero_le _) ha)) (Nat.le_refl 1) hf]

/-- 3. the per-shard sequence sent by `Keys()` is literally the `keys` of the age-ordered model: ring order starting
    right after `idxAdd`, i.e. oldest first, blanks skipped. (Across shards `Keys()` gives no order: one goroutine per
    shard writes to a common channel.) -/
theorem keys_eq (r : Ring) (ha : r.idxAdd < r.m) : r.keys = r.toShard.keys :=
  keysLoop_eq r ha r.m (Nat.sub_le _ _)

/-- the fuel of `keysLoop` is never exhausted: more fuel does not change the result, the loop stops at `i == idxAdd` -/
theorem keys_fuel (r : Ring) (ha : r.idxAdd < r.m) (extra : Nat) :
    r.keysLoop (r.m + extra) ((r.idxAdd + 1) % r.m) = r.keys := by
  rw [keys_eq r ha]
  exact keysLoop_eq r ha _ (Nat.le_trans (Nat.sub_le _ _) (Nat.le_add_right _ _))

theorem keys_resident (r : Ring) (h : RingInv r) (k : Bytes) : k ∈ r.keys ↔ (r.get k).isSome = true := by
  rw [keys_eq r h.idx, keys_eq_vals r.m r.toShard h.toShardInv k, toShard_get]

theorem keys_nodup (r : Ring) (h : RingInv r) : r.keys.Nodup := by
  rw [keys_eq r h.idx]
  unfold Shard.keys
  rw [List.filterMap_reverse]
  exact (List.reverse_perm _).nodup_iff.mpr h.toShardInv.nodup

/-! ### 4. operation sequences -/

theorem step_refines (r : Ring) (op : Op) (h : RingInv r) :
    RingInv (r.step op).1 ∧ (r.step op).1.toShard = (r.toShard.step op).1 ∧ (r.step op).2 = (r.toShard.step op).2 := by
  -- the steps are named before the results are compared, so that no comparison looks into `Set`
  cases op with
  | set k v =>
    dsimp only [Ring.step, Shard.step]
    exact ⟨RingInv.set r k v h, toShard_set r k v h, rfl⟩
  | setIfAbsent k v =>
    dsimp only [Ring.step, Shard.step]
    have := toShard_setIfAbsent r k v h
    exact ⟨RingInv.setIfAbsent r k v h, congrArg Prod.fst this, congrArg some (congrArg Prod.snd this)⟩
  | remove k =>
    dsimp only [Ring.step, Shard.step]
    exact ⟨RingInv.remove r k h, toShard_remove r k h, rfl⟩

theorem run_refines (ops : List Op) : ∀ (r : Ring), RingInv r →
    RingInv (r.run ops).1 ∧ (r.run ops).1.toShard = (r.toShard.run ops).1 ∧ (r.run ops).2 = (r.toShard.run ops).2 := by
  induction ops with
  | nil => intro r h; exact ⟨h, rfl, rfl⟩
  | cons op ops ih =>
    intro r h
    obtain ⟨h1, h2, h3⟩ := step_refines r op h
    obtain ⟨h4, h5, h6⟩ := ih (r.step op).1 h1
    simp only [Ring.run, Shard.run]
    rw [← h2, ← h3]
    exact ⟨h4, h5, by rw [h6]⟩

theorem run_init (m : Nat) (hm : 1 ≤ m) (ops : List Op) :
    RingInv ((Ring.init m).run ops).1 ∧
    ((Ring.init m).run ops).1.toShard = ((Shard.init m).run ops).1 ∧
    ((Ring.init m).run ops).2 = ((Shard.init m).run ops).2 ∧
    ((Ring.init m).run ops).1.keys = ((Shard.init m).run ops).1.keys ∧
    (∀ k, ((Ring.init m).run ops).1.get k = alookup k ((Shard.init m).run ops).1.vals) := by
  obtain ⟨h1, h2, h3⟩ := run_refines ops (Ring.init m) (RingInv.init m hm)
  rw [toShard_init] at h2 h3
  refine ⟨h1, h2, h3, ?_, ?_⟩
  · rw [keys_eq _ h1.idx, h2]
  · intro k; rw [toShard_get, h2]

theorem run_m (ops : List Op) : ∀ (r : Ring), (r.run ops).1.m = r.m := by
  induction ops with
  | nil => intro r; rfl
  | cons op ops ih =>
    intro r
    simp only [Ring.run]
    rw [ih]
    cases op with
    | set k v => exact Ring.set_m r k v
    | setIfAbsent k v => exact Ring.setIfAbsent_m r k v
    | remove k => exact Ring.remove_m r k

/-! ### transfer of the property theorems of `FifoProofs` to the ring -/

theorem ring_bound (r : Ring) (h : RingInv r) : r.items.length ≤ r.m - 1 := by
  have := shard_bound r.m r.toShard h.toShardInv
  simpa [Ring.toShard] using this

/-- C20 on the ring: the entry just inserted is resident with its value (`maxSize ≥ 2`, which is what `S ≥ 2N` gives,
    `shardSize_ge_two`); for `maxSize = 1` it is NOT (see `m1_nothing_resident`) -/
theorem ring_set_resident (r : Ring) (k v : Bytes) (h : RingInv r) (hm : 2 ≤ r.m) : (r.set k v).get k = some v := by
  rw [toShard_get, toShard_set r k v h]
  exact set_resident r.m r.toShard k v h.toShardInv hm

theorem foldl_set_refines (ks : List (Bytes × Bytes)) (r : Ring) (h : RingInv r) :
    RingInv (ks.foldl (fun r p => r.set p.1 p.2) r) ∧
    (ks.foldl (fun r p => r.set p.1 p.2) r).toShard = ks.foldl (fun s p => s.set p.1 p.2) r.toShard :=
  List.foldl_rel (r := fun r s => RingInv r ∧ r.toShard = s) ⟨h, rfl⟩
    fun p _ r _ hr => ⟨RingInv.set r p.1 p.2 hr.1, hr.2 ▸ toShard_set r p.1 p.2 hr.1⟩

/-- C20 on the ring: an entry survives `maxSize − 2` further insertions of other keys -/
theorem ring_survives (r : Ring) (k v : Bytes) (ks : List (Bytes × Bytes)) (h : RingInv r) (hm : 2 ≤ r.m)
    (hne : ∀ p ∈ ks, p.1 ≠ k) (hl : ks.length ≤ r.m - 2) :
    (ks.foldl (fun r p => r.set p.1 p.2) (r.set k v)).get k = some v := by
  rw [toShard_get, (foldl_set_refines ks (r.set k v) (RingInv.set r k v h)).2, toShard_set r k v h]
  exact survives r.m r.toShard k v ks h.toShardInv hm hne hl

/-- C20 on the ring: after `Set`, `Keys()` of the shard is the old sequence without `k` and without the key evicted
    from the oldest position, followed by `k` -/
theorem ring_set_keys (r : Ring) (k v : Bytes) (h : RingInv r) (hm : 2 ≤ r.m) :
    (r.set k v).keys = ((blank k r.toShard.view).dropLast.reverse.filterMap id) ++ [k] := by
  rw [keys_eq _ (RingInv.set r k v h).idx, toShard_set r k v h]
  exact set_keys r.m r.toShard k v h.toShardInv hm

theorem m1_nothing_resident (r : Ring) (h : RingInv r) (hm : r.m = 1) : r.items = [] := by
  have := ring_bound r h
  exact List.eq_nil_of_length_eq_zero (by omega)

/-! ### non-vacuity: concrete runs -/

/-- seven operations on a ring of four slots: three inserts, an overwrite (which wraps `idxAdd` and evicts the oldest
    key `[1]`), a removal, two more inserts (into slots that are blank, so nobody is evicted) -/
def demoOps : List Op :=
  [.set [1] [10], .set [2] [20], .set [3] [30], .set [2] [21], .remove [3], .set [4] [40], .set [5] [50]]

example : ((Ring.init 4).run (demoOps.take 3)).1 =
    ⟨4, 3, [some [1], some [2], some [3], none], [([1], [10], 0), ([2], [20], 1), ([3], [30], 2)]⟩ := by rfl
-- the overwrite of `[2]` blanks slot 1, writes slot 3, wraps `idxAdd` to 0 and evicts `[1]` from slot 0
example : ((Ring.init 4).run (demoOps.take 4)).1 =
    ⟨4, 0, [none, none, some [3], some [2]], [([2], [21], 3), ([3], [30], 2)]⟩ := by rfl
example : ((Ring.init 4).run (demoOps.take 5)).1 =
    ⟨4, 0, [none, none, none, some [2]], [([2], [21], 3)]⟩ := by rfl
example : ((Ring.init 4).run demoOps).1 =
    ⟨4, 2, [some [4], some [5], none, some [2]], [([2], [21], 3), ([4], [40], 0), ([5], [50], 1)]⟩ := by rfl
example : ((Ring.init 4).run demoOps).1.toShard.view = [some [5], some [4], some [2]] ∧
    ((Ring.init 4).run demoOps).1.toShard.vals = [([2], [21]), ([4], [40]), ([5], [50])] := by decide +kernel
example : ((Ring.init 4).run demoOps).1.toShard = ((Shard.init 4).run demoOps).1 := by rfl
example : ((Ring.init 4).run demoOps).1.keys = [[2], [4], [5]] := by rfl
example : ((Ring.init 4).run (demoOps ++ [.setIfAbsent [2] [22], .setIfAbsent [6] [60]])).2
    = [none, none, none, none, none, none, none, some false, some true] := by rfl
-- the hypotheses of the theorems are met on this run
example : RingInv ((Ring.init 4).run demoOps).1 := (run_init 4 (by decide) demoOps).1
example : 2 ≤ ((Ring.init 4).run demoOps).1.m := by decide +kernel
-- an instance of `ring_survives` with all hypotheses discharged
example : ([([4], [40]), ([5], [50])].foldl (fun r p => r.set p.1 p.2) ((Ring.init 4).set [2] [21])).get [2] = some [21] :=
  ring_survives (Ring.init 4) [2] [21] _ (RingInv.init 4 (by decide)) (by decide) (by decide) (by decide)
-- `1 ≤ m` is needed: `cmap.New` never builds a shard with `maxSize = 0` (the Go code would divide by zero)
example : ¬ RingInv (Ring.init 0) := fun h => Nat.not_lt_zero _ h.idx
-- maxSize = 1: the refinement still holds, nothing is resident
example : ((Ring.init 1).run demoOps).1 = ⟨1, 0, [none], []⟩ := by rfl
example : ((Ring.init 1).run demoOps).1.toShard = ((Shard.init 1).run demoOps).1 := by rfl
example : ((Ring.init 1).set [7] [70]).get [7] = none := by rfl
-- survival: `[2]` (re-)inserted at step 4 survives the m − 2 = 2 insertions of `[4]`, `[5]`; a third one evicts it
example : (((Ring.init 4).run demoOps).1.set [6] [60]).get [2] = none := by rfl

end SV.Fifo
