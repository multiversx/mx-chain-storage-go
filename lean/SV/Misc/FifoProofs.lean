/-
  SV.Misc.FifoProofs — the sharded FIFO cache (C20): capacity bound, age order, survival of an entry for
  ⌈S/N⌉ − 2 further insertions, Keys order, HasOrAdd flags and notifications.
-/
import SV.Misc.Fifo
import SV.AssocList
namespace SV.Fifo
open SV

structure ShardInv (m : Nat) (s : Shard) : Prop where
  len : s.view.length = m - 1
  nodup : (s.view.filterMap id).Nodup
  agree : ∀ k, (alookup k s.vals).isSome = true ↔ some k ∈ s.view
  valsNodup : (s.vals.map (·.1)).Nodup

/-! ### `blank` and the keys of a view -/

theorem mem_fm (x : Bytes) (l : List (Option Bytes)) : x ∈ l.filterMap id ↔ some x ∈ l := by
  simp [List.mem_filterMap]

theorem blank_length (k : Bytes) (l : List (Option Bytes)) : (blank k l).length = l.length := by
  simp [blank]

theorem filterMap_blank (k : Bytes) (l : List (Option Bytes)) :
    (blank k l).filterMap id = (l.filterMap id).filter (fun x => x != k) := by
  rw [blank, List.filterMap_map, List.filter_filterMap]
  congr 1
  funext x
  rcases x with _ | x
  · rfl
  · by_cases hx : x = k <;> simp [hx, Option.filter]

theorem mem_blank (k x : Bytes) (l : List (Option Bytes)) : some x ∈ blank k l ↔ x ≠ k ∧ some x ∈ l := by
  rw [← mem_fm, filterMap_blank, List.mem_filter, mem_fm]
  simp [and_comm]

theorem nodup_blank (k : Bytes) (l : List (Option Bytes)) (h : (l.filterMap id).Nodup) :
    ((blank k l).filterMap id).Nodup := by
  rw [filterMap_blank]; exact h.filter _

theorem blank_eq_self (k : Bytes) (l : List (Option Bytes)) (h : some k ∉ l) : blank k l = l := by
  induction l with
  | nil => rfl
  | cons a r ih =>
    simp only [List.mem_cons, not_or] at h
    simp only [blank, List.map_cons] at ih ⊢
    rw [ih h.2, if_neg (fun e => h.1 e.symm)]

theorem getElem?_blank (k : Bytes) (l : List (Option Bytes)) (i : Nat) :
    (blank k l)[i]? = (l[i]?).map (fun x => if x = some k then none else x) := by
  simp only [blank, List.getElem?_map]

theorem getElem?_blank_some (k x : Bytes) (l : List (Option Bytes)) (i : Nat) :
    (blank k l)[i]? = some (some x) ↔ x ≠ k ∧ l[i]? = some (some x) := by
  rw [getElem?_blank]
  cases l[i]? with
  | none => simp
  | some y =>
    rw [Option.map_some, Option.some.injEq, Option.some.injEq]
    by_cases hy : y = some k
    · rw [if_pos hy, hy]
      exact iff_of_false (fun e => nomatch e) fun e => e.1 (Option.some.inj e.2).symm
    · rw [if_neg hy]
      exact ⟨fun e => ⟨fun hx => hy (hx ▸ e), e⟩, And.right⟩

/-! ### one shard: the invariant is kept, and the C20 statements (residency, shift by one position, survival, `Keys` order) -/

theorem ShardInv.of_holes {m : Nat} {view : List (Option Bytes)} (hl : view.length = m - 1)
    (hn : ∀ x ∈ view, x = none) : ShardInv m ⟨view, []⟩ where
  len := hl
  nodup := by
    rw [List.filterMap_eq_nil_iff.mpr fun a ha => by rw [hn a ha]; rfl]
    exact List.nodup_nil
  agree := fun k => iff_of_false (fun h => nomatch h) (fun h => nomatch hn _ h)
  valsNodup := List.nodup_nil

theorem ShardInv.init (m : Nat) : ShardInv m (Shard.init m) :=
  ShardInv.of_holes List.length_replicate fun _ hx => List.eq_of_mem_replicate hx

theorem append_concat (s : Shard) (k : Bytes) {ys : List (Option Bytes)} {last : Option Bytes}
    (h : s.view = ys ++ [last]) :
    s.append k = ⟨some k :: ys, match last with | some old => aerase old s.vals | none => s.vals⟩ := by
  simp only [Shard.append, h, List.getLast?_concat, List.dropLast_concat]
  cases last <;> rfl

theorem shard_set_eq (s : Shard) (k v : Bytes) (hne : s.view ≠ [])
    (hag : (alookup k s.vals).isSome = false → some k ∉ s.view) :
    s.set k v = (⟨blank k s.view, aset k v s.vals⟩ : Shard).append k := by
  have hs1 : (if (alookup k s.vals).isSome = true then { s with view := blank k s.view } else s)
      = (⟨blank k s.view, s.vals⟩ : Shard) := by
    split
    · rfl
    · next hp => rw [blank_eq_self k s.view (hag (by simpa using hp))]
  unfold Shard.set
  simp only [hs1, List.isEmpty_iff, hne, if_false]

theorem set_of_view_nil (s : Shard) (k v : Bytes) (hv : s.view = []) :
    s.set k v = ⟨[], aerase k (aset k v s.vals)⟩ := by
  have happ : ∀ w, (⟨[], w⟩ : Shard).append k = ⟨[], w⟩ := fun _ => rfl
  unfold Shard.set
  split <;> simp only [hv, blank, List.map_nil, happ, List.isEmpty_nil, if_true]

theorem set_vals (s : Shard) (k v : Bytes) :
    (s.set k v).vals = aset k v s.vals ∨ ∃ old, (s.set k v).vals = aerase old (aset k v s.vals) := by
  by_cases hv : s.view = []
  · exact Or.inr ⟨k, by rw [set_of_view_nil s k v hv]⟩
  · have happ : ∀ t : Shard, (t.append k).vals = t.vals ∨ ∃ old, (t.append k).vals = aerase old t.vals := by
      intro t
      unfold Shard.append
      cases t.view.getLast? with
      | none => exact Or.inl rfl
      | some last => cases last with
        | none => exact Or.inl rfl
        | some old => exact Or.inr ⟨old, rfl⟩
    unfold Shard.set
    rw [if_neg (by simpa using hv)]
    split <;> exact happ _

theorem set_sub (s : Shard) (k v x w : Bytes) (hx : alookup x (s.set k v).vals = some w) :
    (if x = k then some v else alookup x s.vals) = some w := by
  rw [← alookup_aset_eq]
  rcases set_vals s k v with hv | ⟨old, hv⟩
  · rwa [hv] at hx
  · rw [hv] at hx
    exact (alookup_aerase_some hx).2

theorem ShardInv.view_ne_nil {m : Nat} {s : Shard} (h : ShardInv m s) (hm : 2 ≤ m) : s.view ≠ [] :=
  List.ne_nil_of_length_pos (by rw [h.len]; omega)

theorem set_cases (m : Nat) (s : Shard) (k v : Bytes) (h : ShardInv m s) (hm : 2 ≤ m) :
    ∃ ys last, blank k s.view = ys ++ [last] ∧ (s.set k v).view = some k :: ys ∧
      ((last = none ∧ (s.set k v).vals = aset k v s.vals) ∨
       (∃ old, last = some old ∧ old ≠ k ∧ some old ∉ ys ∧ (s.set k v).vals = aerase old (aset k v s.vals))) := by
  have hne := h.view_ne_nil hm
  have hBne : blank k s.view ≠ [] := fun e => hne (List.eq_nil_of_length_eq_zero (by rw [← blank_length k, e]; rfl))
  have hys := (List.dropLast_concat_getLast hBne).symm
  generalize (blank k s.view).dropLast = ys, (blank k s.view).getLast hBne = last at hys
  rw [shard_set_eq s k v hne (fun hp hmem => by rw [(h.agree k).mpr hmem] at hp; cases hp), append_concat _ k hys]
  refine ⟨ys, last, hys, rfl, ?_⟩
  cases last with
  | none => exact Or.inl ⟨rfl, rfl⟩
  | some old =>
    refine Or.inr ⟨old, rfl, ?_, ?_, rfl⟩
    · exact ((mem_blank k old s.view).mp (by rw [hys]; simp)).1
    · -- `old` occurs once among the keys of the blanked view, and that is at its end
      have hnd := nodup_blank k s.view h.nodup
      rw [hys, List.filterMap_append] at hnd
      exact fun hmem => (List.nodup_append.mp hnd).2.2 old ((mem_fm old ys).mpr hmem) old (by simp) rfl

/-- C20: the entry just inserted is resident, with its value -/
theorem set_resident (m : Nat) (s : Shard) (k v : Bytes) (h : ShardInv m s) (hm : 2 ≤ m) :
    alookup k (s.set k v).vals = some v := by
  obtain ⟨ys, last, _, _, hc⟩ := set_cases m s k v h hm
  rcases hc with ⟨_, hv⟩ | ⟨old, _, hok, _, hv⟩
  · rw [hv, alookup_aset_self]
  · rw [hv, alookup_aerase_ne _ (Ne.symm hok), alookup_aset_self]

theorem ShardInv.lookup_of_view_nil {m : Nat} {s : Shard} (h : ShardInv m s) (hv : s.view = []) (x : Bytes) :
    alookup x s.vals = none := by
  cases hx : alookup x s.vals with
  | none => rfl
  | some w =>
    have := (h.agree x).mp (by rw [hx]; rfl)
    rw [hv] at this
    cases this

theorem ShardInv.set (m : Nat) (s : Shard) (k v : Bytes) (h : ShardInv m s) : ShardInv m (s.set k v) := by
  rcases Nat.lt_or_ge m 2 with hm | hm
  · -- no positions: the written key is dropped at once
    have hv : s.view = [] := List.eq_nil_of_length_eq_zero (by rw [h.len]; omega)
    rw [set_of_view_nil s k v hv]
    refine ⟨hv ▸ h.len, List.nodup_nil, fun x => iff_of_false (fun hx => ?_) List.not_mem_nil,
      nodup_keys_aerase k (nodup_keys_aset k v h.valsNodup)⟩
    obtain ⟨w, hw⟩ := Option.isSome_iff_exists.mp hx
    obtain ⟨hxk, hw⟩ := alookup_aerase_some hw
    rw [alookup_aset_ne v _ hxk, h.lookup_of_view_nil hv x] at hw
    cases hw
  obtain ⟨ys, last, hys, hview, hc⟩ := set_cases m s k v h hm
  have hmem : ∀ x, some x ∈ ys ∨ some x = last ↔ x ≠ k ∧ some x ∈ s.view := fun x => by
    rw [← mem_blank, hys, List.mem_append, List.mem_singleton]
  refine ⟨?_, ?_, ?_, ?_⟩
  · have := blank_length k s.view
    rw [hys, h.len, List.length_append] at this
    rw [hview]; exact this
  · have hnd := nodup_blank k s.view h.nodup
    rw [hys, List.filterMap_append] at hnd
    rw [hview]
    exact List.nodup_cons.mpr ⟨fun hk => ((hmem k).mp (Or.inl ((mem_fm k ys).mp hk))).1 rfl, (List.nodup_append.mp hnd).1⟩
  · intro x
    rw [hview, List.mem_cons]
    by_cases hxk : x = k
    · subst hxk
      rw [set_resident m s x v h hm]
      exact iff_of_true rfl (Or.inl rfl)
    · have hx := hmem x
      rw [and_iff_right hxk] at hx
      rw [or_iff_right (fun e => hxk (Option.some.inj e))]
      rcases hc with ⟨rfl, hv⟩ | ⟨old, rfl, _, hoy, hv⟩
      · rw [hv, alookup_aset_ne _ _ hxk, h.agree x, ← hx, or_iff_left (fun e => nomatch e)]
      · by_cases hxo : x = old
        · subst hxo
          rw [hv, alookup_aerase_self]
          exact iff_of_false (fun e => nomatch e) hoy
        · rw [hv, alookup_aerase_ne _ hxo, alookup_aset_ne _ _ hxk, h.agree x, ← hx,
            or_iff_left (fun e => hxo (Option.some.inj e))]
  · rcases hc with ⟨_, hv⟩ | ⟨old, _, _, _, hv⟩
    · rw [hv]; exact nodup_keys_aset k v h.valsNodup
    · rw [hv]; exact nodup_keys_aerase old (nodup_keys_aset k v h.valsNodup)

theorem ShardInv.setIfAbsent (m : Nat) (s : Shard) (k v : Bytes) (h : ShardInv m s) :
    ShardInv m (s.setIfAbsent k v).1 := by
  unfold Shard.setIfAbsent
  split
  · exact h
  · exact ShardInv.set m s k v h

theorem ShardInv.remove (m : Nat) (s : Shard) (k : Bytes) (h : ShardInv m s) : ShardInv m (s.remove k) := by
  unfold Shard.remove
  split
  · refine ⟨?_, ?_, ?_, ?_⟩
    · simp only [blank_length]; exact h.len
    · exact nodup_blank k s.view h.nodup
    · intro x
      simp only [mem_blank]
      by_cases hxk : x = k
      · subst hxk; rw [alookup_aerase_self]; simp
      · rw [alookup_aerase_ne _ hxk, h.agree x]; simp [hxk]
    · exact nodup_keys_aerase k h.valsNodup
  · exact h

theorem shard_bound (m : Nat) (s : Shard) (h : ShardInv m s) : s.vals.length ≤ m - 1 := by
  have h1 := h.valsNodup.length_le_of_subset (l₂ := s.view.filterMap id)
    (fun x hx => (mem_fm x s.view).mpr ((h.agree x).mp (alookup_isSome_iff.mpr hx)))
  have h2 := List.length_filterMap_le id s.view
  rw [List.length_map] at h1
  rw [← h.len]
  omega

theorem set_view (m : Nat) (s : Shard) (k v : Bytes) (h : ShardInv m s) (hm : 2 ≤ m) :
    (s.set k v).view = some k :: (blank k s.view).dropLast := by
  obtain ⟨ys, last, hys, hview, _⟩ := set_cases m s k v h hm
  rw [hview, hys]; simp

/-- C20: an insertion of another key moves an entry from position j to j + 1 and keeps its value, unless j was the
    oldest position -/
theorem set_shifts (m : Nat) (s : Shard) (k v k' : Bytes) (j : Nat) (h : ShardInv m s) (hm : 2 ≤ m) (hk : k' ≠ k)
    (hp : s.view[j]? = some (some k')) (hj : j + 1 < m - 1) :
    (s.set k v).view[j + 1]? = some (some k') ∧ alookup k' (s.set k v).vals = alookup k' s.vals := by
  obtain ⟨ys, last, hys, hview, hc⟩ := set_cases m s k v h hm
  have hBlen : ys.length + 1 = m - 1 := by
    have := blank_length k s.view
    rw [hys, h.len] at this
    simpa using this
  have hBj := (getElem?_blank_some k k' s.view j).mpr ⟨hk, hp⟩
  have hyj : ys[j]? = some (some k') := by
    rw [hys, List.getElem?_append_left (by omega)] at hBj
    exact hBj
  refine ⟨?_, ?_⟩
  · rw [hview, List.getElem?_cons_succ]; exact hyj
  · rcases hc with ⟨_, hv⟩ | ⟨old, _, _, hoy, hv⟩
    · rw [hv, alookup_aset_ne _ _ hk]
    · have hmem : some k' ∈ ys := List.mem_of_getElem? hyj
      have hko : k' ≠ old := by rintro rfl; exact hoy hmem
      rw [hv, alookup_aerase_ne _ hko, alookup_aset_ne _ _ hk]

theorem survives_aux (m : Nat) (k v : Bytes) (hm : 2 ≤ m) :
    ∀ (ks : List (Bytes × Bytes)) (s : Shard) (j : Nat), ShardInv m s → s.view[j]? = some (some k) →
      j + ks.length < m - 1 → alookup k s.vals = some v → (∀ p ∈ ks, p.1 ≠ k) →
      alookup k (ks.foldl (fun s p => s.set p.1 p.2) s).vals = some v
  | [], _, _, _, _, _, hv, _ => hv
  | p :: ks, s, j, h, hp, hj, hv, hne => by
    simp only [List.length_cons] at hj
    have hpk : k ≠ p.1 := fun e => hne p List.mem_cons_self e.symm
    obtain ⟨h1, h2⟩ := set_shifts m s p.1 p.2 k j h hm hpk hp
      (Nat.lt_of_le_of_lt (Nat.add_le_add_left (Nat.le_add_left 1 _) j) hj)
    simp only [List.foldl_cons]
    exact survives_aux m k v hm ks (s.set p.1 p.2) (j + 1) (ShardInv.set m s p.1 p.2 h) h1
      (by rw [Nat.add_right_comm]; exact hj) (h2.trans hv) (fun q hq => hne q (List.mem_cons_of_mem _ hq))

/-- C20: hence an entry is never dropped before ⌈S/N⌉ − 2 further insertions: after `ks.length ≤ m − 2` insertions
    of other keys the entry inserted first is still resident with its value -/
theorem survives (m : Nat) (s : Shard) (k v : Bytes) (ks : List (Bytes × Bytes)) (h : ShardInv m s) (hm : 2 ≤ m)
    (hne : ∀ p ∈ ks, p.1 ≠ k) (hl : ks.length ≤ m - 2) :
    alookup k (ks.foldl (fun s p => s.set p.1 p.2) (s.set k v)).vals = some v := by
  refine survives_aux m k v hm ks (s.set k v) 0 (ShardInv.set m s k v h) ?_ (by omega)
    (set_resident m s k v h hm) hne
  rw [set_view m s k v h hm]; rfl

theorem remove_lookup (s : Shard) (k x : Bytes) :
    alookup x (s.remove k).vals = if x = k then none else alookup x s.vals := by
  unfold Shard.remove
  split
  · exact alookup_aerase_eq k x s.vals
  · next hn =>
    by_cases hxk : x = k
    · rw [if_pos hxk, hxk]; exact Option.not_isSome_iff_eq_none.mp hn
    · rw [if_neg hxk]

theorem setIfAbsent_present (s : Shard) (k v : Bytes) (hp : (alookup k s.vals).isSome = true) :
    s.setIfAbsent k v = (s, false) := by
  unfold Shard.setIfAbsent; rw [if_pos hp]

theorem setIfAbsent_absent (s : Shard) (k v : Bytes) (hp : (alookup k s.vals).isSome = false) :
    s.setIfAbsent k v = (s.set k v, true) := by
  unfold Shard.setIfAbsent; rw [if_neg (by simp [hp])]

/-- C20, one shard: Keys lists residents in insertion order (oldest first), an overwrite counting as a fresh
    insertion; the key evicted by an insertion, if any, is the oldest position -/
theorem set_keys (m : Nat) (s : Shard) (k v : Bytes) (h : ShardInv m s) (hm : 2 ≤ m) :
    (s.set k v).keys = ((blank k s.view).dropLast.reverse.filterMap id) ++ [k] := by
  unfold Shard.keys
  rw [set_view m s k v h hm]
  simp [List.filterMap_append]

theorem keys_eq_vals (m : Nat) (s : Shard) (h : ShardInv m s) :
    ∀ k, k ∈ s.keys ↔ (alookup k s.vals).isSome = true := by
  intro k
  unfold Shard.keys
  rw [mem_fm, List.mem_reverse, h.agree k]

/-! ### the sharded cache -/

/-- slots per shard: ⌈S/N⌉ when S ≥ N ≥ 1 -/
theorem shardSize_spec (size n : Nat) (hn : 1 ≤ n) (hs : n ≤ size) : shardSize size n = (size + n - 1) / n := by
  have hq : 1 ≤ size / n := (Nat.le_div_iff_mul_le hn).mpr (by rw [Nat.one_mul]; exact hs)
  -- ⌈(s + 1)/n⌉ = s / n + 1, and (s + 1) / n exceeds s / n exactly when n divides s + 1
  obtain ⟨s, rfl⟩ := Nat.exists_eq_add_one_of_ne_zero (Nat.ne_of_gt (Nat.lt_of_lt_of_le hn hs))
  rw [Nat.add_right_comm, Nat.add_sub_cancel, Nat.add_div_right _ hn]
  unfold shardSize
  simp only [Nat.ne_of_gt hq, if_false]
  split
  · next h => rw [Nat.succ_div_of_mod_ne_zero h]
  · next h => rw [Nat.succ_div_of_mod_eq_zero (Decidable.not_not.mp h)]

theorem shardSize_ge_two (size n : Nat) (hn : 1 ≤ n) (hs : 2 * n ≤ size) : 2 ≤ shardSize size n := by
  have hq : 2 ≤ size / n := (Nat.le_div_iff_mul_le hn).mpr hs
  unfold shardSize
  simp only [Nat.ne_of_gt (Nat.lt_of_lt_of_le Nat.zero_lt_two hq), if_false]
  split
  · exact Nat.le_succ_of_le hq
  · exact hq

theorem shardSize_pred_le (size n : Nat) (hn : 1 ≤ n) (hs : n ≤ size) : shardSize size n - 1 ≤ size / n := by
  have hq : 1 ≤ size / n := (Nat.le_div_iff_mul_le hn).mpr (by rw [Nat.one_mul]; exact hs)
  unfold shardSize
  simp only [Nat.ne_of_gt hq, if_false]
  split
  · exact Nat.le_refl _
  · exact Nat.sub_le _ _

def CacheInv (size : Nat) (c : Cache) : Prop :=
  1 ≤ c.n ∧ c.shards.length = c.n ∧ ∀ s ∈ c.shards, ShardInv (shardSize size c.n) s

theorem CacheInv.init (size n : Nat) (hn : 1 ≤ n) : CacheInv size (Cache.init size n) := by
  refine ⟨hn, by simp [Cache.init], ?_⟩
  intro s hs
  simp only [Cache.init] at hs ⊢
  rw [List.eq_of_mem_replicate hs]
  exact ShardInv.init _

theorem idx_lt (size : Nat) (c : Cache) (k : Bytes) (h : CacheInv size c) : c.idx k < c.shards.length := by
  rw [h.2.1]; exact Nat.mod_lt _ (by have := h.1; omega)

theorem shard_mem (size : Nat) (c : Cache) (k : Bytes) (h : CacheInv size c) : c.shard k ∈ c.shards := by
  have hi := idx_lt size c k h
  unfold Cache.shard
  rw [List.getElem?_eq_getElem hi]
  exact List.getElem_mem hi

theorem setShard_shard (size : Nat) (c : Cache) (k x : Bytes) (s : Shard) (h : CacheInv size c) :
    (c.setShard k s).shard x = if c.idx x = c.idx k then s else c.shard x := by
  have hi := idx_lt size c k h
  by_cases he : c.idx x = c.idx k
  · rw [if_pos he]
    show ((c.shards.set (c.idx k) s)[c.idx x]?).getD ⟨[], []⟩ = s
    rw [he, List.getElem?_set_self hi]; rfl
  · rw [if_neg he]
    show ((c.shards.set (c.idx k) s)[c.idx x]?).getD ⟨[], []⟩ = (c.shards[c.idx x]?).getD ⟨[], []⟩
    rw [List.getElem?_set_ne (fun e => he e.symm)]

theorem get_setShard (size : Nat) (c : Cache) (k x : Bytes) (s : Shard) (h : CacheInv size c) :
    (c.setShard k s).get x = if c.idx x = c.idx k then alookup x s.vals else c.get x := by
  unfold Cache.get
  rw [setShard_shard size c k x s h]
  split <;> rfl

theorem get_of_idx_eq {c : Cache} {k x : Bytes} (hi : c.idx x = c.idx k) : c.get x = alookup x (c.shard k).vals := by
  unfold Cache.get Cache.shard
  rw [hi]

theorem CacheInv.setShard (size : Nat) (c : Cache) (k : Bytes) (s : Shard) (h : CacheInv size c)
    (hs : ShardInv (shardSize size c.n) s) : CacheInv size (c.setShard k s) := by
  refine ⟨h.1, ?_, ?_⟩
  · simp only [Cache.setShard, List.length_set]; exact h.2.1
  · intro t ht
    simp only [Cache.setShard] at ht ⊢
    rcases List.mem_or_eq_of_mem_set ht with ht | ht
    · exact h.2.2 t ht
    · rw [ht]; exact hs

theorem CacheInv.put (size : Nat) (c : Cache) (k v : Bytes) (h : CacheInv size c) : CacheInv size (c.put k v).1 :=
  CacheInv.setShard size c k _ h (ShardInv.set _ _ k v (h.2.2 _ (shard_mem size c k h)))

theorem CacheInv.hasOrAdd (size : Nat) (c : Cache) (k v : Bytes) (h : CacheInv size c) (hs : 2 * c.n ≤ size) :
    CacheInv size (c.hasOrAdd k v).1 :=
  have _ := hs
  CacheInv.setShard size c k _ h (ShardInv.setIfAbsent _ _ k v (h.2.2 _ (shard_mem size c k h)))

theorem CacheInv.remove (size : Nat) (c : Cache) (k : Bytes) (h : CacheInv size c) : CacheInv size (c.remove k) :=
  CacheInv.setShard size c k _ h (ShardInv.remove _ _ k (h.2.2 _ (shard_mem size c k h)))

theorem sum_map_le {α : Type} (f : α → Nat) (b : Nat) :
    ∀ (l : List α), (∀ x ∈ l, f x ≤ b) → (l.map f).sum ≤ l.length * b
  | [], _ => by simp
  | a :: l, h => by
    have h1 := sum_map_le f b l (fun x hx => h x (List.mem_cons_of_mem _ hx))
    have h2 := h a List.mem_cons_self
    simp only [List.map_cons, List.sum_cons, List.length_cons, Nat.add_mul]
    omega

/-- C20: the whole cache never holds more than S entries (S ≥ 2N) -/
theorem cache_bound (size : Nat) (c : Cache) (h : CacheInv size c) (hs : 2 * c.n ≤ size) : c.len ≤ size := by
  have h1 := sum_map_le (fun s : Shard => s.vals.length) (shardSize size c.n - 1) c.shards
    (fun s hs => shard_bound _ s (h.2.2 s hs))
  rw [h.2.1] at h1
  have h2 : shardSize size c.n - 1 ≤ size / c.n := shardSize_pred_le size c.n h.1 (by have := h.1; omega)
  have h3 : c.n * (shardSize size c.n - 1) ≤ c.n * (size / c.n) := Nat.mul_le_mul_left _ h2
  have h4 := Nat.mul_div_le size c.n
  unfold Cache.len
  exact Nat.le_trans h1 (Nat.le_trans h3 h4)

/-- C20: HasOrAdd inserts only when the key is absent; handlers fire exactly once per insertion -/
theorem hasOrAdd_flags (c : Cache) (k v : Bytes) :
    let r := c.hasOrAdd k v
    r.2.1 = (c.get k).isSome ∧ r.2.2.1 = !(c.get k).isSome ∧
      r.2.2.2 = (if r.2.2.1 then c.handlers.map (·, k, v) else []) := by
  simp only [Cache.hasOrAdd, Cache.get, Shard.setIfAbsent]
  by_cases hp : (alookup k (c.shard k).vals).isSome = true
  · simp [hp]
  · have hp' : (alookup k (c.shard k).vals).isSome = false := by simpa using hp
    simp [hp']

theorem put_notifies (c : Cache) (k v : Bytes) : (c.put k v).2 = c.handlers.map (·, k, v) := rfl

/-- C20: the entry just put is resident as soon as a shard has two slots (`⌈S/N⌉ ≥ 2`) -/
theorem put_resident_of_slots (size : Nat) (c : Cache) (k v : Bytes) (h : CacheInv size c)
    (hm : 2 ≤ shardSize size c.n) : (c.put k v).1.get k = some v := by
  rw [show (c.put k v).1 = c.setShard k ((c.shard k).set k v) from rfl, get_setShard size c k k _ h, if_pos rfl]
  exact set_resident _ _ k v (h.2.2 _ (shard_mem size c k h)) hm

theorem put_resident (size : Nat) (c : Cache) (k v : Bytes) (h : CacheInv size c) (hs : 2 * c.n ≤ size) :
    (c.put k v).1.get k = some v :=
  put_resident_of_slots size c k v h (shardSize_ge_two size c.n h.1 hs)

end SV.Fifo
