/-
  SV.Misc.TimeCacheMore — property C18, beyond the single operations of TimeCacheProofs:
    §1  `I.hasOrAdd` (interval version of HasOrAdd) and `Sandwich.hasOrAdd`
    §2  `interval_run_sound` : any history, each operation with its own bracket, keeps `Sandwich`
    §3  history-level lifetime theorems (`present_until_expiry`, `gone_after_expiry_sweep`, `upsert_never_shortens`)
    §4  the API of the three Go types (TimeCache, peerTimeCache, timeCacher) on top of the same `TC`
        (`Core`, `AOp`, `astep`) with `cacher_retained`, `cacher_gone_after_expiry_sweep`, `clear_empties`, …, and
        interval soundness for API histories, `Clear` included (`api_interval_run_sound`)
  `Sandwich` as defined in TimeCacheProofs is strong enough for HasOrAdd provided that the uncertain case stores the
  JOIN of the two possible entries (`joinEntry`, `join_needed`).
-/
import SV.Misc.TimeCache
import SV.Misc.TimeCacheProofs
namespace SV.TimeCache
open SV

/-! ## §1 HasOrAdd in the interval model -/

/-- The least entry that dominates (in expiry `timestamp + span` AND in `span`, the two quantities `Sandwich` tracks)
    both an existing possible entry `eM` and a fresh entry `⟨hi, span, _⟩`.  Its expiry is exactly the later one of the two
    expiries, its span the larger one of the two spans.  (Keeping just "whichever of the two expires later" would NOT be sound:
    a later Upsert takes `max` of the spans, so the span component has to be an upper bound as well — see `join_needed`.) -/
def joinEntry (eM : Entry) (span hi : Nat) : Entry :=
  ⟨max (eM.timestamp + eM.span) (hi + span) - max eM.span span, max eM.span span, eM.value⟩

theorem joinEntry_expiry (eM : Entry) (span hi : Nat) :
    (joinEntry eM span hi).timestamp + (joinEntry eM span hi).span = max (eM.timestamp + eM.span) (hi + span) := by
  refine Nat.sub_add_cancel (Nat.max_le.mpr ⟨?_, ?_⟩)
  · exact Nat.le_trans (Nat.le_add_left ..) (Nat.le_max_left ..)
  · exact Nat.le_trans (Nat.le_add_left ..) (Nat.le_max_right ..)

/-- Interval HasOrAdd.
    * key certainly present (`must` has it): nothing changes;
    * key certainly absent (`may` does not have it): it is added to both, stamped `lo` in `must`, `hi` in `may`;
    * uncertain (`may` has it, `must` does not): `must` is left alone (the key stays "not certainly present"),
      `may` gets the join of the old possible entry and the possibly-added fresh one. -/
def I.hasOrAdd (i : I) (k v : Bytes) (span lo hi : Nat) : I :=
  match alookup k i.must, alookup k i.may with
  | some _, _ => i
  | none, none => ⟨TimeCache.add i.must k v span lo, TimeCache.add i.may k v span hi⟩
  | none, some eM =>
    ⟨i.must, TimeCache.add i.may k (joinEntry eM span hi).value (joinEntry eM span hi).span (joinEntry eM span hi).timestamp⟩

theorem Sandwich.hasOrAdd (i : I) (tc : TC) (k v : Bytes) (span lo t hi : Nat) (h : Sandwich i tc)
    (h1 : lo ≤ t) (h2 : t ≤ hi) : Sandwich (i.hasOrAdd k v span lo hi) (hasOrAdd tc k v span t).1 := by
  unfold I.hasOrAdd
  split
  · -- certainly present
    rename_i em hm
    obtain ⟨e, he, _⟩ := h.lower k em hm
    rw [hoa_present tc k v span t e he]
    exact h
  · -- certainly absent
    rename_i hm hM
    have hx : alookup k tc = none := (h.below_upper k).eq_none hM
    rw [hoa_absent tc k v span t hx]
    exact Sandwich.add i tc k v span lo t hi h h1 h2
  · -- uncertain
    rename_i eM hm hM
    refine h.update k ⟨h.nd.1, h.nd.2.1.hasOrAdd tc k v span t, h.nd.2.2.add _ k _ _ _⟩ (fun _ _ => rfl)
      (fun _ hk => lookup_hoa_ne tc v span t hk) (fun _ hk => lookup_add_ne i.may _ _ _ hk) ?_ ?_
    · show Below (alookup k i.must) _
      rw [hm]
      exact below_none _
    · show Below _ (alookup k (TimeCache.add i.may k _ _ _))
      rw [add_lookup]
      cases hx : alookup k tc with
      | some e0 =>
        obtain ⟨eM', heM', hle1, hle2⟩ := h.upper k e0 hx
        cases hM.symm.trans heM'
        rw [hoa_present tc k v span t e0 hx, hx]
        exact below_some.mpr ⟨by rw [joinEntry_expiry]; exact Nat.le_trans hle1 (Nat.le_max_left ..),
          Nat.le_trans hle2 (Nat.le_max_left ..)⟩
      | none =>
        rw [hoa_absent tc k v span t hx, add_lookup]
        exact below_some.mpr ⟨by rw [joinEntry_expiry]; exact Nat.le_trans (Nat.add_le_add_right h2 span) (Nat.le_max_right ..),
          Nat.le_max_right ..⟩

theorem Sandwich.hasOrAdd_flags (i : I) (tc : TC) (k v : Bytes) (span t : Nat) (h : Sandwich i tc) :
    (has i.must k = true → (TimeCache.hasOrAdd tc k v span t).2.1 = true ∧ (TimeCache.hasOrAdd tc k v span t).2.2 = false) ∧
    (has i.may k = false → (TimeCache.hasOrAdd tc k v span t).2.1 = false ∧ (TimeCache.hasOrAdd tc k v span t).2.2 = true) := by
  constructor
  · intro hm
    obtain ⟨e, he⟩ := (has_eq_true_iff tc k).mp ((Sandwich.verdict i tc k h).1 hm)
    rw [hoa_present tc k v span t e he]
    exact ⟨rfl, rfl⟩
  · intro hM
    rw [hoa_absent tc k v span t ((h.below_upper k).eq_none ((has_eq_false_iff _ k).mp hM))]
    exact ⟨rfl, rfl⟩

/-! ## §2 histories in the interval model -/

/-- an operation together with the bracket `[lo, hi]` known for its clock reading and the (unknown to the checker) true reading `t` -/
structure BOp where
  op : Op
  lo : Nat
  t : Nat
  hi : Nat

def BOp.ok (b : BOp) : Prop := b.lo ≤ b.t ∧ b.t ≤ b.hi

instance (b : BOp) : Decidable b.ok := by unfold BOp.ok; exact inferInstance

def BOp.exact (b : BOp) : Op × Nat := (b.op, b.t)

/-- one step of the interval model: uses only `lo` and `hi`, never `t` -/
def I.step (i : I) (b : BOp) : I :=
  match b.op with
  | .add k v s => i.add k v s b.lo b.hi
  | .upsert k v s => i.upsert k v s b.lo b.hi
  | .hoa k v s => i.hasOrAdd k v s b.lo b.hi
  | .sweep => i.sweep b.lo b.hi
  | .rm k => i.remove k

theorem Sandwich.step (i : I) (tc : TC) (b : BOp) (h : Sandwich i tc) (hb : b.ok) :
    Sandwich (i.step b) (TimeCache.step tc b.exact) := by
  obtain ⟨op, lo, t, hi⟩ := b
  obtain ⟨h1, h2⟩ := hb
  cases op with
  | add k v s => exact Sandwich.add i tc k v s lo t hi h h1 h2
  | upsert k v s => exact Sandwich.upsert i tc k v s lo t hi h h1 h2
  | hoa k v s => exact Sandwich.hasOrAdd i tc k v s lo t hi h h1 h2
  | sweep => exact Sandwich.sweep i tc lo t hi h h1 h2
  | rm k => exact Sandwich.remove i tc k h

/-- Interval soundness for whole histories.  Every operation has its OWN bracket; the readings need NOT be monotone and the
    brackets of different operations may overlap arbitrarily — the only hypothesis is `lo ≤ t ≤ hi` per operation. -/
theorem interval_run_sound (ops : List BOp) (i : I) (tc : TC) (h : Sandwich i tc) (hok : ∀ b ∈ ops, b.ok) :
    Sandwich (ops.foldl I.step i) ((ops.map BOp.exact).foldl TimeCache.step tc) := by
  rw [List.foldl_map]
  exact List.foldl_rel h fun b hb i tc h => Sandwich.step i tc b h (hok b hb)

theorem interval_run_verdict (ops : List BOp) (hok : ∀ b ∈ ops, b.ok) (k : Bytes) :
    (has (ops.foldl I.step ⟨[], []⟩).must k = true → has ((ops.map BOp.exact).foldl TimeCache.step []) k = true) ∧
    (has ((ops.map BOp.exact).foldl TimeCache.step []) k = true → has (ops.foldl I.step ⟨[], []⟩).may k = true) :=
  Sandwich.verdict _ _ k (interval_run_sound ops ⟨[], []⟩ [] Sandwich.empty hok)

/-! ### non-vacuity / concrete readings for §1–§2 -/

section IntervalExamples
private def kA : Bytes := [1]
private def kB : Bytes := [2]

/-- A history whose outcome is genuinely uncertain: Add at a reading in [0,10], Sweep at a reading in [12,25]
    (span 10: the sweep removes the key iff `tsweep − tadd > 10`), HasOrAdd at a reading in [26,30], Add of another key, Sweep in [29,30]
    (brackets of different operations overlap, readings 28, 29, 30 happen to be monotone but need not be). -/
private def hist (tAdd tSweep : Nat) : List BOp :=
  [⟨.add kA [7] 10, 0, tAdd, 10⟩, ⟨.sweep, 12, tSweep, 25⟩, ⟨.hoa kA [8] 10, 26, 28, 30⟩, ⟨.add kB [] 3, 27, 29, 31⟩,
   ⟨.sweep, 29, 30, 30⟩]

example : ∀ b ∈ hist 5 20, b.ok := by decide +kernel
example : ∀ b ∈ hist 5 12, b.ok := by decide +kernel
-- the two exact runs differ: in the first the early sweep removed the key and HasOrAdd re-added it (stamped 28, alive at the end);
-- in the second HasOrAdd found the old entry (stamped 5) and left its countdown alone, so the last sweep removed it …
example : alookup kA (((hist 5 20).map BOp.exact).foldl step []) = some ⟨28, 10, [8]⟩ := by decide +kernel
example : alookup kA (((hist 5 12).map BOp.exact).foldl step []) = none := by decide +kernel
-- … the interval run is the same for both (it never looks at `t`) and brackets both
example : (hist 5 20).foldl I.step ⟨[], []⟩ = (hist 5 12).foldl I.step ⟨[], []⟩ := rfl
example : has ((hist 5 20).foldl I.step ⟨[], []⟩).must kA = false ∧ has ((hist 5 20).foldl I.step ⟨[], []⟩).may kA = true ∧
    has ((hist 5 20).foldl I.step ⟨[], []⟩).must kB = true := by decide +kernel
example : Sandwich ((hist 5 20).foldl I.step ⟨[], []⟩) (((hist 5 20).map BOp.exact).foldl step []) :=
  interval_run_sound _ _ _ Sandwich.empty (by decide)
example : has (((hist 5 20).map BOp.exact).foldl step []) kB = true :=
  (interval_run_verdict (hist 5 20) (by decide) kB).1 (by decide)
-- `Sandwich.hasOrAdd` used directly in the uncertain situation (must = ∅, may = {kA}, exact = ∅)
example : Sandwich ((((⟨[], []⟩ : I).add kA [7] 10 0 10).sweep 12 25).hasOrAdd kA [8] 10 26 30)
    (hasOrAdd (sweep (add [] kA [7] 10 5) 20) kA [8] 10 28).1 :=
  Sandwich.hasOrAdd _ _ kA [8] 10 26 28 30
    (Sandwich.sweep _ _ 12 20 25 (Sandwich.add _ _ kA [7] 10 0 5 10 Sandwich.empty (by decide) (by decide)) (by decide) (by decide))
    (by decide) (by decide)

/-- Why the JOIN is needed.  `may` that keeps only "whichever of the two entries expires later": -/
private def naiveMay (may : TC) (k v : Bytes) (span hi : Nat) : TC :=
  match alookup k may with
  | none => add may k v span hi
  | some eM => if eM.timestamp + eM.span < hi + span then add may k v span hi else may

/-- Add(span 10)@0, Sweep@5 bracketed [5,20] (so `must` loses the key, the exact cache and `may` keep it), HasOrAdd(span 5)@50:
    the exact cache keeps ⟨0,10⟩, naive `may` switches to the later-expiring ⟨50,5⟩; Upsert(span 0)@60 gives exact ⟨60,10⟩ but
    `may` ⟨60,5⟩; Sweep@68 keeps the exact entry and drops it from naive `may`: "present" while "not possibly present". -/
theorem join_needed :
    let exact := sweep (upsert (hasOrAdd (sweep (add [] kA [] 10 0) 5) kA [] 5 50).1 kA [] 0 60) 68
    let may := sweep (upsert (naiveMay (sweep (add [] kA [] 10 0) 5) kA [] 5 50) kA [] 0 60) 68
    let i := ((((((⟨[], []⟩ : I).add kA [] 10 0 0).sweep 5 20).hasOrAdd kA [] 5 50 50).upsert kA [] 0 60 60).sweep 68 68)
    has exact kA = true ∧ has may kA = false ∧ has i.may kA = true := by decide +kernel

end IntervalExamples

/-! ## §3 lifetime theorems at history level -/

/-- `o` is an Add/AddWithSpan/Put (`.add`) or an Upsert of `k`: the operations that (re)start the countdown of `k` -/
def sets (k : Bytes) : Op → Bool
  | .add k' _ _ => k' == k | .upsert k' _ _ => k' == k | _ => false

/-- operations that can create an entry for `k` (Add/Put, Upsert, HasOrAdd of `k`) -/
def revives (k : Bytes) : Op → Bool
  | .add k' _ _ => k' == k | .upsert k' _ _ => k' == k | .hoa k' _ _ => k' == k | _ => false

/-- the span that a setting operation leaves in the entry of `k`, given the cache it is applied to:
    Add/Put REPLACE the span, Upsert takes the MAXIMUM with the span of an existing entry -/
def spanAfter (tc : TC) (k : Bytes) : Op → Nat
  | .add _ _ s => s
  | .upsert _ _ s => match alookup k tc with | some e => max e.span s | none => s
  | _ => 0

theorem le_spanAfter_upsert (tc : TC) (k k' v : Bytes) (d : Nat) : d ≤ spanAfter tc k (.upsert k' v d) := by
  unfold spanAfter
  cases alookup k tc with
  | some e => exact Nat.le_max_right ..
  | none => exact Nat.le_refl d

theorem sets_lookup (tc : TC) (k : Bytes) (o : Op) (t0 : Nat) (hset : sets k o = true) :
    ∃ v, alookup k (step tc (o, t0)) = some ⟨t0, spanAfter tc k o, v⟩ := by
  cases o with
  | add k' v s =>
    cases eq_of_beq hset
    exact ⟨v, add_lookup tc k v s t0⟩
  | upsert k' v s =>
    cases eq_of_beq hset
    show ∃ v', alookup k (upsert tc k v s t0) = _
    rw [upsert_lookup]
    unfold spanAfter
    cases alookup k tc with
    | some e => exact ⟨e.value, rfl⟩
    | none => exact ⟨v, rfl⟩
  | hoa _ _ _ | sweep | rm _ => cases hset

/-- An operation that cannot create an entry for `k` (sweeps with ANY reading, Remove of `k`, everything on other keys)
    removes the entry of `k` or leaves it alone.  Uniqueness of keys matters for sweeps of a present key only. -/
theorem step_lookup_cases (tc : TC) (k : Bytes) (o : Op × Nat) (h : KeysNodup tc ∨ alookup k tc = none)
    (hno : revives k o.1 = false) : alookup k (step tc o) = none ∨ alookup k (step tc o) = alookup k tc := by
  obtain ⟨op, t⟩ := o
  cases op with
  | add k1 v s => exact Or.inr (lookup_add_ne tc v s t (ne_of_beq_false hno).symm)
  | upsert k1 v s => exact Or.inr (lookup_upsert_ne tc v s t (ne_of_beq_false hno).symm)
  | hoa k1 v s => exact Or.inr (lookup_hoa_ne tc v s t (ne_of_beq_false hno).symm)
  | sweep =>
    rcases h with h | h
    · exact sweep_lookup_cases tc t k h
    · exact Or.inl (lookup_sweep_none tc t k h)
  | rm k1 =>
    by_cases hk : k = k1
    · exact Or.inl (hk ▸ lookup_remove_self tc k)
    · exact Or.inr (lookup_remove_ne tc hk)

theorem step_stays_absent (tc : TC) (k : Bytes) (o : Op × Nat)
    (he : alookup k tc = none) (hno : revives k o.1 = false) : alookup k (step tc o) = none :=
  (step_lookup_cases tc k o (Or.inr he) hno).elim id (·.trans he)

theorem run_stays_absent (tc : TC) (k : Bytes) (ops : List (Op × Nat))
    (he : alookup k tc = none) (hno : ∀ o ∈ ops, revives k o.1 = false) : alookup k (ops.foldl step tc) = none :=
  List.foldlRecOn (motive := fun tc => alookup k tc = none) ops step he fun tc he o ho => step_stays_absent tc k o he (hno o ho)

theorem run_absent_or_same (tc : TC) (k : Bytes) (e : Entry) (ops : List (Op × Nat)) (h : KeysNodup tc)
    (he : alookup k tc = none ∨ alookup k tc = some e) (hno : ∀ o ∈ ops, revives k o.1 = false) :
    alookup k (ops.foldl step tc) = none ∨ alookup k (ops.foldl step tc) = some e :=
  (List.foldlRecOn (motive := fun tc => KeysNodup tc ∧ (alookup k tc = none ∨ alookup k tc = some e)) ops step ⟨h, he⟩
    fun tc h o ho => ⟨h.1.step tc o,
      (step_lookup_cases tc k o (Or.inl h.1) (hno o ho)).elim Or.inl fun hs => hs ▸ h.2⟩).2

/-- C18, presence (entry form).  History `pre ++ (o, t0) :: post` where `o` is an Add/AddWithSpan/Put or Upsert of `k` that read the
    clock at `t0` and left span `d = spanAfter …`; no later operation is an Add/Upsert/Remove of `k` (so `(o, t0)` is the LAST one;
    HasOrAdd of `k`, operations on other keys and sweeps are all allowed) and every later SWEEP reads `≤ t0 + d`.
    Then the entry of `k` is still the one written by `o`: stamped `t0`, span `d`.  `pre` is arbitrary and readings need not be monotone. -/
theorem present_until_expiry_entry (tc : TC) (pre post : List (Op × Nat)) (o : Op) (t0 : Nat) (k : Bytes)
    (h : KeysNodup tc) (hset : sets k o = true)
    (hno : ∀ p ∈ post, touches k p.1 = false)
    (ht : ∀ p ∈ post, isSweep p.1 = true → p.2 ≤ t0 + spanAfter (pre.foldl step tc) k o) :
    ∃ v, alookup k ((pre ++ (o, t0) :: post).foldl step tc) = some ⟨t0, spanAfter (pre.foldl step tc) k o, v⟩ := by
  rw [List.foldl_append, List.foldl_cons]
  obtain ⟨v, hv⟩ := sets_lookup (pre.foldl step tc) k o t0 hset
  refine ⟨v, ?_⟩
  exact retained_sweeps _ k _ post ((h.run pre tc).step _ _) hv hno ht

/-- C18, presence: "… is reported present by every query made until d has elapsed since its latest add or upsert,
    no matter how many sweeps run" -/
theorem present_until_expiry (tc : TC) (pre post : List (Op × Nat)) (o : Op) (t0 : Nat) (k : Bytes)
    (h : KeysNodup tc) (hset : sets k o = true)
    (hno : ∀ p ∈ post, touches k p.1 = false)
    (ht : ∀ p ∈ post, isSweep p.1 = true → p.2 ≤ t0 + spanAfter (pre.foldl step tc) k o) :
    has ((pre ++ (o, t0) :: post).foldl step tc) k = true := by
  obtain ⟨v, hv⟩ := present_until_expiry_entry tc pre post o t0 k h hset hno ht
  exact (has_eq_true_iff _ k).mpr ⟨_, hv⟩

theorem present_until_expiry_every_query (tc : TC) (pre post : List (Op × Nat)) (o : Op) (t0 : Nat) (k : Bytes)
    (h : KeysNodup tc) (hset : sets k o = true)
    (hno : ∀ p ∈ post, touches k p.1 = false)
    (ht : ∀ p ∈ post, isSweep p.1 = true → p.2 ≤ t0 + spanAfter (pre.foldl step tc) k o) (n : Nat) :
    has ((pre ++ (o, t0) :: post.take n).foldl step tc) k = true :=
  present_until_expiry tc pre (post.take n) o t0 k h hset
    (fun p hp => hno p (List.mem_of_mem_take hp)) (fun p hp => ht p (List.mem_of_mem_take hp))

theorem present_until_expiry_add (tc : TC) (pre post : List (Op × Nat)) (k v : Bytes) (d t0 : Nat) (h : KeysNodup tc)
    (hno : ∀ p ∈ post, touches k p.1 = false) (ht : ∀ p ∈ post, isSweep p.1 = true → p.2 ≤ t0 + d) :
    alookup k ((pre ++ (.add k v d, t0) :: post).foldl step tc) = some ⟨t0, d, v⟩ := by
  rw [List.foldl_append, List.foldl_cons]
  exact retained_sweeps _ k _ post ((h.run pre tc).step _ _) (add_lookup _ k v d t0) hno ht

theorem present_until_expiry_upsert (tc : TC) (pre post : List (Op × Nat)) (k v : Bytes) (d t0 : Nat) (h : KeysNodup tc)
    (hno : ∀ p ∈ post, touches k p.1 = false) (ht : ∀ p ∈ post, isSweep p.1 = true → p.2 ≤ t0 + d) :
    has ((pre ++ (.upsert k v d, t0) :: post).foldl step tc) k = true := by
  exact present_until_expiry tc pre post (.upsert k v d) t0 k h (beq_iff_eq.mpr rfl) hno fun p hp hs =>
    Nat.le_trans (ht p hp hs) (Nat.add_le_add_left (le_spanAfter_upsert ..) t0)

theorem gone_after_sweep (tc : TC) (k : Bytes) (e : Entry) (ts : Nat) (rest : List (Op × Nat)) (h : KeysNodup tc)
    (he : alookup k tc = none ∨ alookup k tc = some e) (hts : e.timestamp + e.span < ts)
    (hrest : ∀ p ∈ rest, revives k p.1 = false) : alookup k (((Op.sweep, ts) :: rest).foldl step tc) = none := by
  refine run_stays_absent _ k rest ?_ hrest
  rcases he with he | he
  · exact lookup_sweep_none tc ts k he
  · exact (has_eq_false_iff _ k).mp (sweep_drops tc ts k e h he hts)

/-- C18, expiry.  Additionally to the hypotheses of `present_until_expiry` on the part `mid` of the history, a sweep reading
    `ts > t0 + d` runs; no Add/Upsert/HasOrAdd of `k` occurs after that sweep (`rest`; anything else may, with any readings).
    Then `k` is absent afterwards. -/
theorem gone_after_expiry_sweep (tc : TC) (pre mid rest : List (Op × Nat)) (o : Op) (t0 ts : Nat) (k : Bytes)
    (h : KeysNodup tc) (hset : sets k o = true)
    (hno : ∀ p ∈ mid, touches k p.1 = false)
    (ht : ∀ p ∈ mid, isSweep p.1 = true → p.2 ≤ t0 + spanAfter (pre.foldl step tc) k o)
    (hts : t0 + spanAfter (pre.foldl step tc) k o < ts)
    (hrest : ∀ p ∈ rest, revives k p.1 = false) :
    has ((pre ++ (o, t0) :: (mid ++ (Op.sweep, ts) :: rest)).foldl step tc) k = false := by
  obtain ⟨v, hv⟩ := sets_lookup (pre.foldl step tc) k o t0 hset
  have hnd := (h.run pre tc).step _ (o, t0)
  rw [List.foldl_append, List.foldl_cons, List.foldl_append, has_eq_false_iff]
  exact gone_after_sweep _ k _ ts rest (hnd.run mid _) (Or.inr (retained_sweeps _ k _ mid hnd hv hno ht)) hts hrest

/-- Variant with NO assumption on the readings of the sweeps before the expiring one (they may even run "too late" and remove
    the key earlier, readings need not be monotone) and Remove of `k` allowed anywhere; in exchange HasOrAdd of `k` is
    excluded between the setting operation and the expiring sweep too. -/
theorem gone_after_expiry_sweep_any (tc : TC) (pre mid rest : List (Op × Nat)) (o : Op) (t0 ts : Nat) (k : Bytes)
    (h : KeysNodup tc) (hset : sets k o = true)
    (hmid : ∀ p ∈ mid, revives k p.1 = false)
    (hts : t0 + spanAfter (pre.foldl step tc) k o < ts)
    (hrest : ∀ p ∈ rest, revives k p.1 = false) :
    has ((pre ++ (o, t0) :: (mid ++ (Op.sweep, ts) :: rest)).foldl step tc) k = false := by
  obtain ⟨v, hv⟩ := sets_lookup (pre.foldl step tc) k o t0 hset
  have hnd := (h.run pre tc).step _ (o, t0)
  rw [List.foldl_append, List.foldl_cons, List.foldl_append, has_eq_false_iff]
  exact gone_after_sweep _ k _ ts rest (hnd.run mid _) (run_absent_or_same _ k _ mid hnd (Or.inr hv) hmid) hts hrest

/-- C18: Upsert never shortens the remaining life of a key.  For an existing entry `e = (ts, sp, val)` and an Upsert reading
    `now ≥ ts`: the new entry is stamped `now`, its span is `max sp span`, the value is kept, and its expiry is
    `≥ ts + sp` (the old expiry) and `≥ now + span` (what a fresh Add would give). -/
theorem upsert_never_shortens (tc : TC) (k v : Bytes) (span now : Nat) (e : Entry)
    (he : alookup k tc = some e) (hmono : e.timestamp ≤ now) :
    ∃ e', alookup k (upsert tc k v span now) = some e' ∧ e'.timestamp = now ∧ e'.span = max e.span span ∧ e'.value = e.value ∧
      e.timestamp + e.span ≤ e'.timestamp + e'.span ∧ now + span ≤ e'.timestamp + e'.span := by
  refine ⟨⟨now, max e.span span, e.value⟩, ?_, rfl, rfl, rfl, ?_, ?_⟩
  · rw [upsert_lookup, he]
  · exact Nat.add_le_add hmono (Nat.le_max_left ..)
  · exact Nat.add_le_add_left (Nat.le_max_right ..) now

/-- the second bound needs no hypothesis at all (absent key or not, any readings) -/
theorem upsert_expiry_ge (tc : TC) (k v : Bytes) (span now : Nat) :
    ∃ e', alookup k (upsert tc k v span now) = some e' ∧ e'.timestamp = now ∧ now + span ≤ e'.timestamp + e'.span := by
  rw [upsert_lookup]
  cases alookup k tc with
  | some e => exact ⟨_, rfl, rfl, Nat.add_le_add_left (Nat.le_max_right ..) now⟩
  | none => exact ⟨_, rfl, rfl, Nat.le_refl _⟩

/-- `now ≥ ts` IS needed for the first bound: with a clock that went backwards (entry stamped 10, Upsert reading 0) the expiry
    drops from 11 to 1.  (Go's `time.Now()` carries a monotonic reading, so `now ≥ ts` holds there.) -/
example : alookup [1] (upsert (add [] [1] [] 1 10) [1] [] 1 0) = some ⟨0, 1, []⟩ := by decide +kernel

/-! ### non-vacuity / concrete readings for §3 -/

section LifetimeExamples
private def k1 : Bytes := [1]
private def k2 : Bytes := [2]
private def pre3 : List (Op × Nat) := [(.add k1 [5] 100, 1), (.add k2 [] 4, 2)]
/-- Upsert(k1, span 7) read 10 on an entry of span 100: span stays 100 ⇒ alive until 110.  Later: sweeps at 50 and 110,
    HasOrAdd of k1, Remove/Upsert of k2. -/
private def post3 : List (Op × Nat) := [(.sweep, 50), (.hoa k1 [9] 1, 60), (.rm k2, 61), (.upsert k2 [] 3, 70), (.sweep, 110)]

private def post3b : List (Op × Nat) := [(.sweep, 17), (.hoa k1 [9] 50, 17)]
private def rest3 : List (Op × Nat) := [(.rm k1, 112), (.add k2 [] 1, 113), (.sweep, 3)]
/-- late sweep (reading 500) and Remove before the expiring sweep, non-monotone readings -/
private def mid3 : List (Op × Nat) := [(.sweep, 500), (.rm k1, 3)]

example : spanAfter (pre3.foldl step []) k1 (.upsert k1 [] 7) = 100 := by decide +kernel
example : has ((pre3 ++ (.upsert k1 [] 7, 10) :: post3).foldl step []) k1 = true :=
  present_until_expiry [] pre3 post3 (.upsert k1 [] 7) 10 k1 List.nodup_nil (by decide) (by decide) (by decide)
example : ∃ v, alookup k1 ((pre3 ++ (.upsert k1 [] 7, 10) :: post3).foldl step []) = some ⟨10, 100, v⟩ :=
  present_until_expiry_entry [] pre3 post3 (.upsert k1 [] 7) 10 k1 List.nodup_nil (by decide) (by decide) (by decide)
-- Add REPLACES the span: after Add(k1, span 7) at 10 the key lives until 17 only
example : alookup k1 ((pre3 ++ (.add k1 [6] 7, 10) :: post3b).foldl step []) = some ⟨10, 7, [6]⟩ :=
  present_until_expiry_add [] pre3 post3b k1 [6] 7 10 List.nodup_nil (by decide) (by decide)
example : has ((pre3 ++ (.upsert k1 [] 7, 10) :: post3b).foldl step []) k1 = true :=
  present_until_expiry_upsert [] pre3 post3b k1 [] 7 10 List.nodup_nil (by decide) (by decide)
-- a sweep reading 111 > 10 + 100 removes it; afterwards Remove / sweeps / other keys cannot bring it back
example : has ((pre3 ++ (.upsert k1 [] 7, 10) :: (post3 ++ (.sweep, 111) :: rest3)).foldl step []) k1 = false :=
  gone_after_expiry_sweep [] pre3 post3 rest3 (.upsert k1 [] 7) 10 111 k1 List.nodup_nil (by decide) (by decide) (by decide)
    (by decide) (by decide)
example : has ((pre3 ++ (.add k1 [] 7, 10) :: (mid3 ++ (.sweep, 18) :: rest3)).foldl step []) k1 = false :=
  gone_after_expiry_sweep_any [] pre3 mid3 rest3 (.add k1 [] 7) 10 18 k1 List.nodup_nil (by decide) (by decide) (by decide) (by decide)
-- the bounds are tight: a sweep reading exactly t0 + d keeps the key, t0 + d + 1 drops it
example : has (sweep (add [] k1 [] 7 10) 17) k1 = true ∧ has (sweep (add [] k1 [] 7 10) 18) k1 = false := by decide +kernel
-- HasOrAdd of `k` IS a problem between the setting operation and the expiring sweep once an earlier (late) sweep or a Remove
-- has dropped the key: it re-adds it with a fresh countdown — which is why `gone_after_expiry_sweep_any` excludes it in `mid`
example : has (([(.add k1 [] 7, 10), (.rm k1, 11), (.hoa k1 [] 7, 12), (.sweep, 18)] : List (Op × Nat)).foldl step []) k1 = true := by decide +kernel
example : ∃ e', alookup k1 (upsert (add [] k1 [3] 100 1) k1 [] 7 10) = some e' ∧ e'.timestamp = 10 ∧ e'.span = max 100 7 ∧
    e'.value = [3] ∧ 1 + 100 ≤ e'.timestamp + e'.span ∧ 10 + 7 ≤ e'.timestamp + e'.span :=
  upsert_never_shortens (add [] k1 [3] 100 1) k1 [] 7 10 ⟨1, 100, [3]⟩ (by decide) (by decide)
end LifetimeExamples

/-! ## §4 the Go API: `TimeCache`, `peerTimeCache`, `timeCacher` — all three wrap one `timeCacheCore`

  `Core` is `timeCacheCore` (`data` + `defaultSpan`).  Every mutating call with an EMPTY key returns `ErrEmptyKey` (TimeCache,
  peerTimeCache) or logs the error (timeCacher.Put / HasOrAdd) and leaves the cache unchanged; that guard is modelled here.
  Values (`interface{}`) are byte strings as in `Entry`; `TimeCache.Add/AddWithSpan/Upsert` store the nil value `[]`.
  The background goroutine of `timeCacher` (`startSweeping`) is the explicit event `.sweep` with the reading of `time.Since`.
  Not modelled: the added-data handlers of `timeCacher` (they do not touch the cache), `Close`, `MaxSize`, `SizeInBytesContained`. -/

structure Core where
  defaultSpan : Nat
  data : TC

/-- `newTimeCacheCore` -/
def Core.new (defaultSpan : Nat) : Core := ⟨defaultSpan, []⟩

/-- `TimeCache.AddWithSpan` / `TimeCache.add` -/
def Core.addWithSpan (c : Core) (k : Bytes) (d now : Nat) : Core :=
  if k = [] then c else { c with data := TimeCache.add c.data k [] d now }
/-- `TimeCache.Add` -/
def Core.add (c : Core) (k : Bytes) (now : Nat) : Core := c.addWithSpan k c.defaultSpan now
/-- `TimeCache.Upsert` = `peerTimeCache.Upsert` = `timeCacheCore.upsert(key, nil, d)` -/
def Core.upsert (c : Core) (k : Bytes) (d now : Nat) : Core :=
  if k = [] then c else { c with data := TimeCache.upsert c.data k [] d now }
/-- `TimeCache.Sweep` = `peerTimeCache.Sweep` = one round of `timeCacher.startSweeping` -/
def Core.sweep (c : Core) (now : Nat) : Core := { c with data := TimeCache.sweep c.data now }
/-- `TimeCache.Has` = `peerTimeCache.Has` = `timeCacher.Has` -/
def Core.has (c : Core) (k : Bytes) : Bool := TimeCache.has c.data k
/-- `TimeCache.Len` = `timeCacher.Len` -/
def Core.len (c : Core) : Nat := c.data.length
/-- `timeCacher.Put` (always returns `evicted = false`) -/
def Core.put (c : Core) (k v : Bytes) (now : Nat) : Core :=
  if k = [] then c else { c with data := TimeCache.add c.data k v c.defaultSpan now }
/-- `timeCacher.Get`: value and `ok` (no expiry check, no sweep: an expired but not yet swept entry IS returned) -/
def Core.get (c : Core) (k : Bytes) : Option Bytes := (alookup k c.data).map (·.value)
/-- `timeCacher.Peek` is `Get` -/
def Core.peek (c : Core) (k : Bytes) : Option Bytes := c.get k
/-- `timeCacher.HasOrAdd` → (cache, has, added) -/
def Core.hasOrAdd (c : Core) (k v : Bytes) (now : Nat) : Core × Bool × Bool :=
  if k = [] then (c, false, false)
  else ({ c with data := (TimeCache.hasOrAdd c.data k v c.defaultSpan now).1 },
        (TimeCache.hasOrAdd c.data k v c.defaultSpan now).2.1, (TimeCache.hasOrAdd c.data k v c.defaultSpan now).2.2)
/-- `timeCacher.Remove` (Go returns early on a nil key; the empty key is never stored, see `remove_empty_noop`) -/
def Core.remove (c : Core) (k : Bytes) : Core := { c with data := TimeCache.remove c.data k }
/-- `timeCacher.Keys` (Go: map iteration order, i.e. unspecified order; use it as a set) -/
def Core.keys (c : Core) : List Bytes := c.data.map (·.1)
/-- `timeCacher.Clear` -/
def Core.clear (c : Core) : Core := { c with data := [] }

/-- API calls of the three types (identical methods merged) -/
inductive AOp where
  | add (k : Bytes) | addWithSpan (k : Bytes) (d : Nat) | upsert (k : Bytes) (d : Nat) | sweep
  | has (k : Bytes) | len
  | put (k v : Bytes) | get (k : Bytes) | peek (k : Bytes) | hasOrAdd (k v : Bytes) | remove (k : Bytes) | keys | clear

/-- effect of one call on the cache; the second component is the clock reading the call observed (ignored by calls that do not read the clock) -/
def astep (c : Core) (a : AOp × Nat) : Core :=
  match a.1 with
  | .add k => c.add k a.2
  | .addWithSpan k d => c.addWithSpan k d a.2
  | .upsert k d => c.upsert k d a.2
  | .sweep => c.sweep a.2
  | .put k v => c.put k v a.2
  | .hasOrAdd k v => (c.hasOrAdd k v a.2).1
  | .remove k => c.remove k
  | .clear => c.clear
  | .has _ => c | .len => c | .get _ => c | .peek _ => c | .keys => c

/-- calls that overwrite, restart or delete the entry of `k`: everything EXCEPT HasOrAdd, sweeps, queries, calls on other keys -/
def atouches (k : Bytes) : AOp → Bool
  | .add k' => k' == k | .addWithSpan k' _ => k' == k | .upsert k' _ => k' == k | .put k' _ => k' == k
  | .remove k' => k' == k | .clear => true | _ => false

/-- calls that can create an entry for `k` -/
def arevives (k : Bytes) : AOp → Bool
  | .add k' => k' == k | .addWithSpan k' _ => k' == k | .upsert k' _ => k' == k | .put k' _ => k' == k
  | .hasOrAdd k' _ => k' == k | _ => false

def aIsSweep : AOp → Bool
  | .sweep => true | _ => false

/-- refinement: every API call except `Clear` is a no-op or ONE operation of the `Op`/`step` model, so §1–§3 apply to API histories -/
def AOp.lower (defaultSpan : Nat) : AOp → Option Op
  | .add k => if k = [] then none else some (.add k [] defaultSpan)
  | .addWithSpan k d => if k = [] then none else some (.add k [] d)
  | .upsert k d => if k = [] then none else some (.upsert k [] d)
  | .sweep => some .sweep
  | .put k v => if k = [] then none else some (.add k v defaultSpan)
  | .hasOrAdd k v => if k = [] then none else some (.hoa k v defaultSpan)
  | .remove k => some (.rm k)
  | _ => none

theorem astep_defaultSpan (c : Core) (a : AOp × Nat) : (astep c a).defaultSpan = c.defaultSpan := by
  obtain ⟨op, t⟩ := a
  cases op with
  | add k | addWithSpan k d | upsert k d | put k v => exact (apply_ite Core.defaultSpan ..).trans (ite_self _)
  | hasOrAdd k v => exact (apply_ite (fun x : Core × Bool × Bool => x.1.defaultSpan) ..).trans (ite_self _)
  | _ => rfl

theorem arun_defaultSpan (ops : List (AOp × Nat)) (c : Core) : (ops.foldl astep c).defaultSpan = c.defaultSpan :=
  List.foldlRecOn (motive := fun c' => c'.defaultSpan = c.defaultSpan) ops astep rfl
    fun c' h a _ => (astep_defaultSpan c' a).trans h

theorem astep_lower (c : Core) (a : AOp × Nat) :
    (astep c a).data =
      match a.1 with
      | .clear => []
      | op => match op.lower c.defaultSpan with
        | some o => step c.data (o, a.2)
        | none => c.data := by
  obtain ⟨op, t⟩ := a
  cases op with
  | add k | addWithSpan k d | upsert k d | put k v | hasOrAdd k v =>
    by_cases hk : k = []
    · subst hk; rfl
    · simp only [astep, AOp.lower, Core.add, Core.addWithSpan, Core.upsert, Core.put, Core.hasOrAdd, if_neg hk]
      rfl
  | _ => rfl

theorem lower_spec {ds : Nat} {op : AOp} {o : Op} (h : op.lower ds = some o) (k : Bytes) :
    touches k o = atouches k op ∧ revives k o = arevives k op ∧ isSweep o = aIsSweep op ∧ revives [] o = false := by
  cases op with
  | add k' | addWithSpan k' d | upsert k' d | put k' v | hasOrAdd k' v =>
    obtain ⟨hk, ho⟩ := Option.ite_none_left_eq_some.mp h
    cases ho
    exact ⟨rfl, rfl, rfl, beq_false_of_ne hk⟩
  | sweep | remove k' =>
    cases h
    exact ⟨rfl, rfl, rfl, rfl⟩
  | _ => cases h

theorem astep_keysNodup (c : Core) (a : AOp × Nat) (h : KeysNodup c.data) : KeysNodup (astep c a).data := by
  rw [astep_lower]
  split
  · exact List.nodup_nil
  · split
    · exact h.step _ _
    · exact h

theorem arun_keysNodup (ops : List (AOp × Nat)) (c : Core) (h : KeysNodup c.data) : KeysNodup (ops.foldl astep c).data :=
  List.foldlRecOn (motive := fun c => KeysNodup c.data) ops astep h fun c h a _ => astep_keysNodup c a h

theorem astep_keeps_entry (c : Core) (k : Bytes) (e : Entry) (a : AOp × Nat) (h : KeysNodup c.data)
    (he : alookup k c.data = some e) (hno : atouches k a.1 = false)
    (ht : aIsSweep a.1 = true → a.2 ≤ e.timestamp + e.span) : alookup k (astep c a).data = some e := by
  rw [astep_lower]
  split
  · rename_i hc
    rw [hc] at hno
    cases hno
  · split
    · rename_i o ho
      obtain ⟨h1, -, h3, -⟩ := lower_spec ho k
      exact step_keeps c.data k e (o, a.2) h he (h1.trans hno) fun hs => ht (h3.symm.trans (congrArg isSweep hs))
    · exact he

theorem api_retained (c : Core) (k : Bytes) (e : Entry) (ops : List (AOp × Nat)) (h : KeysNodup c.data)
    (he : alookup k c.data = some e) (hno : ∀ o ∈ ops, atouches k o.1 = false)
    (ht : ∀ o ∈ ops, aIsSweep o.1 = true → o.2 ≤ e.timestamp + e.span) :
    alookup k (ops.foldl astep c).data = some e :=
  (List.foldlRecOn (motive := fun c => KeysNodup c.data ∧ alookup k c.data = some e) ops astep ⟨h, he⟩
    fun c h a ha => ⟨astep_keysNodup c a h.1, astep_keeps_entry c k e a h.1 h.2 (hno a ha) (ht a ha)⟩).2

theorem astep_stays_absent_of_lower (c : Core) (k : Bytes) (a : AOp × Nat) (he : alookup k c.data = none)
    (hno : ∀ o, a.1.lower c.defaultSpan = some o → revives k o = false) : alookup k (astep c a).data = none := by
  rw [astep_lower]
  split
  · rfl
  · split
    · rename_i o ho
      exact step_stays_absent c.data k (o, a.2) he (hno o ho)
    · exact he

theorem astep_stays_absent (c : Core) (k : Bytes) (a : AOp × Nat)
    (he : alookup k c.data = none) (hno : arevives k a.1 = false) : alookup k (astep c a).data = none :=
  astep_stays_absent_of_lower c k a he fun _ ho => (lower_spec ho k).2.1.trans hno

theorem arun_stays_absent (c : Core) (k : Bytes) (ops : List (AOp × Nat))
    (he : alookup k c.data = none) (hno : ∀ o ∈ ops, arevives k o.1 = false) :
    alookup k (ops.foldl astep c).data = none :=
  List.foldlRecOn (motive := fun c => alookup k c.data = none) ops astep he
    fun c he a ha => astep_stays_absent c k a he (hno a ha)

/-- generic "present until expiry" for API histories: whatever call `a` left the entry `e` for `k` … -/
theorem api_after_set_retained (c : Core) (pre post : List (AOp × Nat)) (a : AOp × Nat) (k : Bytes) (e : Entry)
    (h : KeysNodup c.data) (hset : alookup k (astep (pre.foldl astep c) a).data = some e)
    (hno : ∀ p ∈ post, atouches k p.1 = false)
    (ht : ∀ p ∈ post, aIsSweep p.1 = true → p.2 ≤ e.timestamp + e.span) :
    alookup k ((pre ++ a :: post).foldl astep c).data = some e := by
  rw [List.foldl_append, List.foldl_cons]
  exact api_retained _ k e post (astep_keysNodup _ a (arun_keysNodup pre c h)) hset hno ht

/-- … and generic "gone after an expiring sweep" -/
theorem api_after_set_gone (c : Core) (pre mid rest : List (AOp × Nat)) (a : AOp × Nat) (ts : Nat) (k : Bytes) (e : Entry)
    (h : KeysNodup c.data) (hset : alookup k (astep (pre.foldl astep c) a).data = some e)
    (hno : ∀ p ∈ mid, atouches k p.1 = false)
    (ht : ∀ p ∈ mid, aIsSweep p.1 = true → p.2 ≤ e.timestamp + e.span)
    (hts : e.timestamp + e.span < ts)
    (hrest : ∀ p ∈ rest, arevives k p.1 = false) :
    alookup k ((pre ++ a :: (mid ++ (AOp.sweep, ts) :: rest)).foldl astep c).data = none := by
  have hnd := astep_keysNodup _ a (arun_keysNodup pre c h)
  have hv := api_retained _ k e mid hnd hset hno ht
  rw [List.foldl_append, List.foldl_cons, List.foldl_append, List.foldl_cons]
  exact arun_stays_absent _ k rest ((has_eq_false_iff _ k).mp (sweep_drops _ ts k e (arun_keysNodup mid _ hnd) hv hts)) hrest

/-! ### what the setting calls of the three types leave behind -/

theorem put_lookup (c : Core) (k v : Bytes) (now : Nat) (hk : k ≠ []) :
    alookup k (c.put k v now).data = some ⟨now, c.defaultSpan, v⟩ := by
  unfold Core.put
  rw [if_neg hk]
  exact add_lookup c.data k v c.defaultSpan now

/-- the default span is that of the cache the history started from -/
theorem put_run_lookup (c : Core) (pre : List (AOp × Nat)) (k v : Bytes) (t0 : Nat) (hk : k ≠ []) :
    alookup k (astep (pre.foldl astep c) (.put k v, t0)).data = some ⟨t0, c.defaultSpan, v⟩ := by
  show alookup k ((pre.foldl astep c).put k v t0).data = _
  rw [put_lookup _ k v t0 hk, arun_defaultSpan]

theorem addWithSpan_lookup (c : Core) (k : Bytes) (d now : Nat) (hk : k ≠ []) :
    alookup k (c.addWithSpan k d now).data = some ⟨now, d, []⟩ := by
  unfold Core.addWithSpan
  rw [if_neg hk]
  exact add_lookup c.data k [] d now

theorem coreAdd_lookup (c : Core) (k : Bytes) (now : Nat) (hk : k ≠ []) :
    alookup k (c.add k now).data = some ⟨now, c.defaultSpan, []⟩ := addWithSpan_lookup c k c.defaultSpan now hk

theorem coreUpsert_lookup (c : Core) (k : Bytes) (d now : Nat) (hk : k ≠ []) :
    alookup k (c.upsert k d now).data =
      some (match alookup k c.data with | some e => ⟨now, max e.span d, e.value⟩ | none => ⟨now, d, []⟩) := by
  unfold Core.upsert
  rw [if_neg hk]
  exact upsert_lookup c.data k [] d now

theorem empty_key_noop (c : Core) (v : Bytes) (d now : Nat) :
    c.add [] now = c ∧ c.addWithSpan [] d now = c ∧ c.upsert [] d now = c ∧ c.put [] v now = c ∧
    c.hasOrAdd [] v now = (c, false, false) := by
  simp [Core.add, Core.addWithSpan, Core.upsert, Core.put, Core.hasOrAdd]

/-! ### Keys / Len / Has / Get agree -/

theorem mem_keys_iff_has (c : Core) (k : Bytes) : k ∈ c.keys ↔ c.has k = true := alookup_isSome_iff.symm

theorem keys_length (c : Core) : c.keys.length = c.len := by simp [Core.keys, Core.len]

theorem keys_nodup (c : Core) (h : KeysNodup c.data) : c.keys.Nodup := h

theorem get_isSome_iff_has (c : Core) (k : Bytes) : (c.get k).isSome = c.has k := by
  unfold Core.get Core.has TimeCache.has
  cases alookup k c.data <;> rfl

theorem hasOrAdd_present (c : Core) (k v : Bytes) (now : Nat) (e : Entry) (hk : k ≠ []) (he : alookup k c.data = some e) :
    c.hasOrAdd k v now = (c, true, false) := by
  unfold Core.hasOrAdd
  rw [if_neg hk, hoa_present c.data k v c.defaultSpan now e he]

theorem hasOrAdd_absent (c : Core) (k v : Bytes) (now : Nat) (hk : k ≠ []) (he : alookup k c.data = none) :
    c.hasOrAdd k v now = (c.put k v now, false, true) := by
  unfold Core.hasOrAdd Core.put
  rw [if_neg hk, if_neg hk, hoa_absent c.data k v c.defaultSpan now he]

/-! ### the self-sweeping `timeCacher` -/

/-- C18 for `timeCacher`: after `Put(k, v)` that read the clock at `t0`, as long as no later call is a Put/Remove of `k` or Clear
    (HasOrAdd of `k`, Get/Peek/Has/Keys/Len, calls on other keys: all allowed) and every background sweep so far has read a time
    `≤ t0 + defaultSpan`:  Get and Peek return `v` — the value of the LATEST Put —, Has is true, `k` is listed by Keys,
    Len is positive and HasOrAdd answers `(has, added) = (true, false)` without changing anything. -/
theorem cacher_retained (c : Core) (pre post : List (AOp × Nat)) (k v : Bytes) (t0 : Nat) (hk : k ≠ [])
    (h : KeysNodup c.data)
    (hno : ∀ p ∈ post, atouches k p.1 = false)
    (ht : ∀ p ∈ post, aIsSweep p.1 = true → p.2 ≤ t0 + c.defaultSpan) :
    let c' := (pre ++ (.put k v, t0) :: post).foldl astep c
    c'.get k = some v ∧ c'.peek k = some v ∧ c'.has k = true ∧ k ∈ c'.keys ∧ 0 < c'.len ∧
      (∀ v' now, c'.hasOrAdd k v' now = (c', true, false)) := by
  intro c'
  have hl : alookup k c'.data = some ⟨t0, c.defaultSpan, v⟩ :=
    api_after_set_retained c pre post (.put k v, t0) k _ h (put_run_lookup c pre k v t0 hk) hno ht
  have hhas : c'.has k = true := (has_eq_true_iff _ k).mpr ⟨_, hl⟩
  have hmem : k ∈ c'.keys := (mem_keys_iff_has c' k).mpr hhas
  refine ⟨?_, ?_, hhas, hmem, ?_, ?_⟩
  · unfold Core.get; rw [hl]; rfl
  · unfold Core.peek Core.get; rw [hl]; rfl
  · rw [← keys_length]; exact List.length_pos_of_mem hmem
  · intro v' now; exact hasOrAdd_present c' k v' now _ hk hl

/-- … and once a background sweep reads a time `> t0 + defaultSpan` the key is gone, and stays gone until the next
    Put/HasOrAdd (or Add/Upsert) of `k` -/
theorem cacher_gone_after_expiry_sweep (c : Core) (pre mid rest : List (AOp × Nat)) (k v : Bytes) (t0 ts : Nat) (hk : k ≠ [])
    (h : KeysNodup c.data)
    (hno : ∀ p ∈ mid, atouches k p.1 = false)
    (ht : ∀ p ∈ mid, aIsSweep p.1 = true → p.2 ≤ t0 + c.defaultSpan)
    (hts : t0 + c.defaultSpan < ts)
    (hrest : ∀ p ∈ rest, arevives k p.1 = false) :
    let c' := (pre ++ (.put k v, t0) :: (mid ++ (.sweep, ts) :: rest)).foldl astep c
    c'.get k = none ∧ c'.peek k = none ∧ c'.has k = false ∧ k ∉ c'.keys := by
  intro c'
  have hl : alookup k c'.data = none :=
    api_after_set_gone c pre mid rest (.put k v, t0) ts k _ h (put_run_lookup c pre k v t0 hk) hno ht hts hrest
  have hhas : c'.has k = false := (has_eq_false_iff _ k).mpr hl
  refine ⟨?_, ?_, hhas, ?_⟩
  · unfold Core.get; rw [hl]; rfl
  · unfold Core.peek Core.get; rw [hl]; rfl
  · intro hm
    rw [(mem_keys_iff_has c' k).mp hm] at hhas
    cases hhas

theorem clear_empties (c : Core) :
    c.clear.len = 0 ∧ c.clear.keys = [] ∧ c.clear.defaultSpan = c.defaultSpan ∧
    ∀ k, c.clear.has k = false ∧ c.clear.get k = none ∧ c.clear.peek k = none :=
  ⟨rfl, rfl, rfl, fun _ => ⟨rfl, rfl, rfl⟩⟩

theorem cleared_stays_absent (c : Core) (pre rest : List (AOp × Nat)) (t : Nat) (k : Bytes)
    (hrest : ∀ p ∈ rest, arevives k p.1 = false) :
    ((pre ++ (.clear, t) :: rest).foldl astep c).has k = false := by
  rw [List.foldl_append, List.foldl_cons]
  apply (has_eq_false_iff _ k).mpr
  exact arun_stays_absent _ k rest rfl hrest

/-! ### TimeCache / peerTimeCache: the same lifetime statements through the API -/

/-- `TimeCache.AddWithSpan(k, d)` reading `t0`: present until `t0 + d`; `TimeCache.Add` is the case `d = defaultSpan` -/
theorem timeCache_addWithSpan_retained (c : Core) (pre post : List (AOp × Nat)) (k : Bytes) (d t0 : Nat) (hk : k ≠ [])
    (h : KeysNodup c.data) (hno : ∀ p ∈ post, atouches k p.1 = false)
    (ht : ∀ p ∈ post, aIsSweep p.1 = true → p.2 ≤ t0 + d) :
    ((pre ++ (.addWithSpan k d, t0) :: post).foldl astep c).has k = true := by
  have hset : alookup k (astep (pre.foldl astep c) (.addWithSpan k d, t0)).data = some ⟨t0, d, []⟩ :=
    addWithSpan_lookup _ k d t0 hk
  exact (has_eq_true_iff _ k).mpr ⟨_, api_after_set_retained c pre post _ k _ h hset hno ht⟩

theorem timeCache_add_retained (c : Core) (pre post : List (AOp × Nat)) (k : Bytes) (t0 : Nat) (hk : k ≠ [])
    (h : KeysNodup c.data) (hno : ∀ p ∈ post, atouches k p.1 = false)
    (ht : ∀ p ∈ post, aIsSweep p.1 = true → p.2 ≤ t0 + c.defaultSpan) :
    ((pre ++ (.add k, t0) :: post).foldl astep c).has k = true := by
  -- `Add` is `AddWithSpan` with the default span of the cache it is called on, which is that of `c`
  have := timeCache_addWithSpan_retained c pre post k c.defaultSpan t0 hk h hno ht
  rw [List.foldl_append, List.foldl_cons, ← arun_defaultSpan pre c] at this
  rw [List.foldl_append, List.foldl_cons]
  exact this

/-- the span an Upsert leaves: never smaller than the existing one, never smaller than the requested one -/
def Core.upsertSpan (c : Core) (k : Bytes) (d : Nat) : Nat := spanAfter c.data k (.upsert k [] d)

/-- `TimeCache.Upsert(k, d)` / `peerTimeCache.Upsert(pid, d)` reading `t0`: present until `t0 + max d (existing span)` -/
theorem upsert_retained_max (c : Core) (pre post : List (AOp × Nat)) (k : Bytes) (d t0 : Nat) (hk : k ≠ [])
    (h : KeysNodup c.data) (hno : ∀ p ∈ post, atouches k p.1 = false)
    (ht : ∀ p ∈ post, aIsSweep p.1 = true → p.2 ≤ t0 + (pre.foldl astep c).upsertSpan k d) :
    ((pre ++ (.upsert k d, t0) :: post).foldl astep c).has k = true := by
  obtain ⟨v, hv⟩ := sets_lookup (pre.foldl astep c).data k (.upsert k [] d) t0 (beq_iff_eq.mpr rfl)
  have hset : alookup k (astep (pre.foldl astep c) (.upsert k d, t0)).data
      = some ⟨t0, (pre.foldl astep c).upsertSpan k d, v⟩ := by
    show alookup k ((pre.foldl astep c).upsert k d t0).data = _
    unfold Core.upsert
    rw [if_neg hk]
    exact hv
  exact (has_eq_true_iff _ k).mpr ⟨_, api_after_set_retained c pre post (.upsert k d, t0) k _ h hset hno ht⟩

theorem upsert_retained (c : Core) (pre post : List (AOp × Nat)) (k : Bytes) (d t0 : Nat) (hk : k ≠ [])
    (h : KeysNodup c.data) (hno : ∀ p ∈ post, atouches k p.1 = false)
    (ht : ∀ p ∈ post, aIsSweep p.1 = true → p.2 ≤ t0 + d) :
    ((pre ++ (.upsert k d, t0) :: post).foldl astep c).has k = true := by
  apply upsert_retained_max c pre post k d t0 hk h hno
  intro p hp hs
  exact Nat.le_trans (ht p hp hs) (Nat.add_le_add_left (le_spanAfter_upsert ..) t0)

/-- `TimeCache.AddWithSpan(k, d)` reading `t0`: gone after a sweep reading `> t0 + d` (the span is REPLACED, so `d` is the span
    whatever the cache held) -/
theorem timeCache_addWithSpan_gone (c : Core) (pre mid rest : List (AOp × Nat)) (k : Bytes) (d t0 ts : Nat) (hk : k ≠ [])
    (h : KeysNodup c.data) (hno : ∀ p ∈ mid, atouches k p.1 = false)
    (ht : ∀ p ∈ mid, aIsSweep p.1 = true → p.2 ≤ t0 + d) (hts : t0 + d < ts)
    (hrest : ∀ p ∈ rest, arevives k p.1 = false) :
    ((pre ++ (.addWithSpan k d, t0) :: (mid ++ (.sweep, ts) :: rest)).foldl astep c).has k = false := by
  have hset : alookup k (astep (pre.foldl astep c) (.addWithSpan k d, t0)).data = some ⟨t0, d, []⟩ :=
    addWithSpan_lookup _ k d t0 hk
  exact (has_eq_false_iff _ k).mpr (api_after_set_gone c pre mid rest _ ts k _ h hset hno ht hts hrest)

/-! ### the empty key is never stored, so `Remove(nil)` (early return in Go) and `Remove([]byte{})` coincide -/

def NoEmptyKey (c : Core) : Prop := alookup ([] : Bytes) c.data = none

theorem NoEmptyKey.new (d : Nat) : NoEmptyKey (Core.new d) := rfl

theorem NoEmptyKey.astep (c : Core) (a : AOp × Nat) (h : NoEmptyKey c) : NoEmptyKey (astep c a) :=
  astep_stays_absent_of_lower c [] a h fun _ ho => (lower_spec ho []).2.2.2

theorem NoEmptyKey.run (ops : List (AOp × Nat)) (c : Core) (h : NoEmptyKey c) :
    NoEmptyKey (ops.foldl TimeCache.astep c) :=
  List.foldlRecOn (motive := NoEmptyKey) ops TimeCache.astep h fun c h a _ => NoEmptyKey.astep c a h

theorem remove_empty_noop (c : Core) (h : NoEmptyKey c) : c.remove [] = c := by
  unfold Core.remove TimeCache.remove
  rw [aerase_of_not_mem (alookup_none_iff.mp h)]

/-! ### interval soundness for API histories (all calls of the three types, including `Clear`) -/

/-- an API call with the bracket of its clock reading and the true reading -/
structure BAOp where
  op : AOp
  lo : Nat
  t : Nat
  hi : Nat

def BAOp.ok (b : BAOp) : Prop := b.lo ≤ b.t ∧ b.t ≤ b.hi

instance (b : BAOp) : Decidable b.ok := by unfold BAOp.ok; exact inferInstance

def BAOp.exact (b : BAOp) : AOp × Nat := (b.op, b.t)

/-- interval step for an API call (`defaultSpan` is a constant of the cache): `Clear` empties both bounds, everything else goes
    through `AOp.lower` -/
def I.astep (defaultSpan : Nat) (i : I) (b : BAOp) : I :=
  match b.op with
  | .clear => ⟨[], []⟩
  | op => match op.lower defaultSpan with
    | some o => i.step ⟨o, b.lo, b.t, b.hi⟩
    | none => i

/-- the two sides of `Sandwich.astep` once the call has been lowered, whatever `AOp.lower` returned -/
theorem Sandwich.lowered {i : I} {tc : TC} (h : Sandwich i tc) (o : Option Op) {lo t hi : Nat} (h1 : lo ≤ t) (h2 : t ≤ hi) :
    Sandwich (match o with | some o => i.step ⟨o, lo, t, hi⟩ | none => i)
      (match o with | some o => TimeCache.step tc (o, t) | none => tc) := by
  cases o with
  | some o => exact Sandwich.step i tc ⟨o, lo, t, hi⟩ h ⟨h1, h2⟩
  | none => exact h

theorem Sandwich.astep (c : Core) (i : I) (b : BAOp) (h : Sandwich i c.data) (hb : b.ok) :
    Sandwich (i.astep c.defaultSpan b) (TimeCache.astep c b.exact).data := by
  obtain ⟨op, lo, t, hi⟩ := b
  have key := h.lowered (AOp.lower c.defaultSpan op) hb.1 hb.2
  rw [astep_lower]
  cases op with
  | clear => exact Sandwich.empty
  | _ => exact key

theorem api_interval_run_sound (ops : List BAOp) (c : Core) (i : I) (h : Sandwich i c.data) (hok : ∀ b ∈ ops, b.ok) :
    Sandwich (ops.foldl (I.astep c.defaultSpan) i) ((ops.map BAOp.exact).foldl TimeCache.astep c).data := by
  rw [List.foldl_map]
  -- the interval side runs with the default span of `c`, which no call changes
  exact (List.foldl_rel (r := fun i c' => Sandwich i c'.data ∧ c'.defaultSpan = c.defaultSpan) ⟨h, rfl⟩
    fun b hb i c' ⟨hs, hd⟩ => ⟨hd ▸ Sandwich.astep c' i b hs (hok b hb), (astep_defaultSpan c' _).trans hd⟩).1

theorem api_interval_run_verdict (ops : List BAOp) (d : Nat) (hok : ∀ b ∈ ops, b.ok) (k : Bytes) :
    (has (ops.foldl (I.astep d) ⟨[], []⟩).must k = true → ((ops.map BAOp.exact).foldl TimeCache.astep (Core.new d)).has k = true) ∧
    (((ops.map BAOp.exact).foldl TimeCache.astep (Core.new d)).has k = true → has (ops.foldl (I.astep d) ⟨[], []⟩).may k = true) :=
  Sandwich.verdict _ _ k (api_interval_run_sound ops (Core.new d) ⟨[], []⟩ Sandwich.empty hok)

/-! ### non-vacuity / concrete readings for §4 -/

section ApiExamples
private def c0 : Core := Core.new 10
private def ka : Bytes := [0xaa]
private def kb : Bytes := [0xbb]
private def pre4 : List (AOp × Nat) := [(.put ka [1], 0), (.put kb [2], 1), (.sweep, 5)]
/-- after Put(ka, [3]) reading 20 (default span 10 ⇒ alive until 30): queries, HasOrAdd of ka with another value, Put/Remove of kb,
    background sweeps reading 25 and 30 -/
private def post4 : List (AOp × Nat) :=
  [(.get ka, 21), (.hasOrAdd ka [9], 22), (.sweep, 25), (.put kb [4], 26), (.remove kb, 27), (.keys, 28), (.len, 28), (.sweep, 30)]
private def rest4 : List (AOp × Nat) := [(.remove ka, 40), (.put kb [5], 41), (.sweep, 2), (.peek ka, 50)]

example : ((pre4 ++ (.put ka [3], 20) :: post4).foldl astep c0).get ka = some [3] :=
  (cacher_retained c0 pre4 post4 ka [3] 20 (by decide) List.nodup_nil (by decide) (by decide)).1
example : ((pre4 ++ (.put ka [3], 20) :: post4).foldl astep c0).has ka = true :=
  (cacher_retained c0 pre4 post4 ka [3] 20 (by decide) List.nodup_nil (by decide) (by decide)).2.2.1
-- the whole final state: only `ka` is left, stamped 20 by the latest Put (the HasOrAdd at 22 did not restart the countdown)
example : ((pre4 ++ (.put ka [3], 20) :: post4).foldl astep c0).data = [(ka, ⟨20, 10, [3]⟩)] := by decide +kernel
example : ((pre4 ++ (.put ka [3], 20) :: (post4 ++ (.sweep, 31) :: rest4)).foldl astep c0).get ka = none :=
  (cacher_gone_after_expiry_sweep c0 pre4 post4 rest4 ka [3] 20 31 (by decide) List.nodup_nil (by decide)
    (by decide) (by decide) (by decide)).1
example : ((pre4 ++ (.clear, 7) :: rest4).foldl astep c0).has ka = false :=
  cleared_stays_absent c0 pre4 rest4 7 ka (by decide)
example : ((pre4.foldl astep c0).clear).len = 0 ∧ (pre4.foldl astep c0).len = 2 := by decide +kernel
-- Get does not check expiry: an expired entry is returned until a sweep actually runs
example : ((Core.new 10).put ka [1] 0).get ka = some [1] ∧ (((Core.new 10).put ka [1] 0).sweep 11).get ka = none := by decide +kernel
-- TimeCache / peerTimeCache
private def pre4b : List (AOp × Nat) := [(.upsert ka 2, 1), (.upsert ka 7, 2)]
private def post4b : List (AOp × Nat) := [(.sweep, 7), (.has ka, 8), (.upsert kb 3, 9), (.sweep, 10)]
private def post4c : List (AOp × Nat) := [(.sweep, 4), (.has ka, 8)]
private def mid4 : List (AOp × Nat) := [(.sweep, 24)]
-- Upsert(span 1) reading 3 on an entry of span 7: span stays 7, countdown restarts ⇒ alive until 10 (a fresh Add(span 1) would give 4)
example : (pre4b.foldl astep c0).upsertSpan ka 1 = 7 := by decide +kernel
example : ((pre4b ++ (.upsert ka 1, 3) :: post4b).foldl astep c0).has ka = true :=
  upsert_retained_max c0 pre4b post4b ka 1 3 (by decide) List.nodup_nil (by decide) (by decide)
example : ((pre4b ++ (.upsert ka 1, 3) :: post4c).foldl astep c0).has ka = true :=
  upsert_retained c0 pre4b post4c ka 1 3 (by decide) List.nodup_nil (by decide) (by decide)
example : ((pre4b ++ [(AOp.upsert ka 1, 3), (AOp.sweep, 11)]).foldl astep c0).has ka = false := by decide +kernel
example : ((pre4 ++ (AOp.addWithSpan ka 4, 20) :: (mid4 ++ (AOp.sweep, 25) :: [])).foldl astep c0).has ka = false :=
  timeCache_addWithSpan_gone c0 pre4 mid4 [] ka 4 20 25 (by decide) List.nodup_nil (by decide)
    (by decide) (by decide) (by simp)
example : ((pre4 ++ (.add ka, 20) :: post4).foldl astep c0).has ka = true :=
  timeCache_add_retained c0 pre4 post4 ka 20 (by decide) List.nodup_nil (by decide) (by decide)
-- interval run through the API, with a Clear and an empty-key Put (an error in Go, no effect)
private def bhist : List BAOp :=
  [⟨.put ka [1], 0, 3, 5⟩, ⟨.clear, 0, 0, 0⟩, ⟨.put [] [1], 6, 6, 7⟩, ⟨.hasOrAdd ka [2], 6, 8, 9⟩, ⟨.upsert kb 4, 8, 9, 12⟩,
   ⟨.sweep, 14, 15, 16⟩, ⟨.get ka, 0, 0, 0⟩]
example : ∀ b ∈ bhist, b.ok := by decide +kernel
example : has (bhist.foldl (I.astep 10) ⟨[], []⟩).must ka = true ∧ has (bhist.foldl (I.astep 10) ⟨[], []⟩).must kb = false ∧
    has (bhist.foldl (I.astep 10) ⟨[], []⟩).may kb = true := by decide +kernel
example : ((bhist.map BAOp.exact).foldl astep (Core.new 10)).has ka = true :=
  (api_interval_run_verdict bhist 10 (by decide) ka).1 (by decide)
example : NoEmptyKey ((pre4 ++ (.put [] [1], 3) :: post4).foldl astep c0) := NoEmptyKey.run _ _ (NoEmptyKey.new 10)
end ApiExamples

end SV.TimeCache
