/-
  SV.Misc.UnitReal — the storage unit over the REAL cachers (C16).

  `SV.Misc.Unit` models storageUnit.Unit over an ARBITRARY cacher: every cache write takes an oracle `keep`
  (the keys that survive eviction).  Here we show that this abstraction loses nothing:

    * `Cacher` / `Cacher.Lawful` — the abstract cacher contract: a cacher is observed through
      `toMap : σ → Bytes → Option Bytes`; `put` is "write the entry, then keep some subset", `get` is a lookup
      that does not change `toMap`, `remove` erases one key, `clear` empties the map.
    * the cachers built by the factory satisfy it:
        `capCacher vr`   — capacityLRU   (lrucache.NewCacheWithSizeInBytes),  invariant `LRU.CapInv`
        `simpleCacher`   — hashicorp LRU (lrucache.NewCache),                 invariant `LRU.SimpleInv`
        `fifoCacher S`   — FIFOShardedCache,                                  invariant `Fifo.CacheInv S`
        `lruCacher vr`   — the lrucache.lruCache wrapper over either backend
    * `RU C` — the storage unit over a real cacher `C`, operations written the way storageunit.go calls the
      cacher; `Sim` — the simulation relation with the abstract unit `U`; `RU.run_sim`: every real history is an
      abstract history for SOME choice of the `keep`s.
    * the C16 conclusions for the real unit, derived from the theorems about `U`: `realUnit_run_spec`,
      `RCoherent.step`, `realUnit_rejected_put_not_served`; instantiated for each cacher in `capUnit_run_spec`,
      `simpleUnit_run_spec`, `fifoUnit_run_spec`, `lruUnit_run_spec`.
-/
import SV.Misc.UnitProofs
import SV.LRU.Proofs
import SV.Misc.FifoProofs
import SV.AssocList
namespace SV.UnitReal
open SV SV.Unit

/-! ### recency lists -/

section alist
variable {β : Type}

theorem alookup_filter_ne (x k : Bytes) (l : List (Bytes × β)) :
    alookup x (l.filter (fun e => e.1 != k)) = if x = k then none else alookup x l :=
  (congrArg (alookup x) (aerase_eq_filter k l).symm).trans (alookup_aerase_eq k x l)

theorem alookup_dropLast_some (x : Bytes) (w : β) (l : List (Bytes × β)) (h : alookup x l.dropLast = some w) :
    alookup x l = some w :=
  alookup_of_prefix (List.dropLast_prefix l) h

theorem alookup_of_head? {k : Bytes} {v : β} {l : List (Bytes × β)} (h : l.head? = some (k, v)) :
    alookup k l = some v := by
  obtain ⟨r, rfl⟩ := List.head?_eq_some_iff.mp h
  exact (alookup_cons_eq k k v r).trans (if_pos rfl)

theorem alookup_move_front {k : Bytes} {w : β} {l : List (Bytes × β)} (h : alookup k l = some w) (x : Bytes) :
    alookup x ((k, w) :: l.filter (fun e => e.1 != k)) = alookup x l := by
  rw [alookup_cons_eq, alookup_filter_ne]
  by_cases hxk : x = k
  · rw [if_pos hxk, hxk, h]
  · rw [if_neg hxk, if_neg hxk]

/-- what a prefix of "the written entry in front of the other entries" holds was written or was there before:
    the shape of a recency list after a write followed by evictions at the old end -/
theorem written_of_prefix {k x : Bytes} {v w : β} {p l : List (Bytes × β)}
    (h : p <+: (k, v) :: l.filter (fun e => e.1 != k)) (hx : alookup x p = some w) :
    (if x = k then some v else alookup x l) = some w := by
  have := alookup_of_prefix h hx
  rw [alookup_cons_eq, alookup_filter_ne] at this
  by_cases hxk : x = k
  · rwa [if_pos hxk] at this ⊢
  · rw [if_neg hxk, if_neg hxk] at this
    rwa [if_neg hxk]

end alist

/-- from "the new map `m'` is contained in the written map" to the `keep` form of `Cacher.Lawful.put_keep` and of
    `U.put`: the resident keys serve as `keep` -/
theorem keep_of_sub (m m' : Bytes → Option Bytes) (k v : Bytes) (keys : List Bytes)
    (hk : ∀ x, x ∈ keys ↔ (m' x).isSome = true)
    (hsub : ∀ x w, m' x = some w → (if x = k then some v else m x) = some w) :
    ∀ x, m' x = if x ∈ keys then (if x = k then some v else m x) else none := by
  intro x
  cases hm : m' x with
  | none => rw [if_neg fun hx => by simpa [hm] using (hk x).mp hx]
  | some w => rw [if_pos ((hk x).mpr (by rw [hm]; rfl)), hsub x w hm]

/-! ### the abstract cacher contract -/

/-- a cacher as the storage unit sees it (`types.Cacher` restricted to what storageunit.go calls), observed through
    `toMap` (resident key ↦ value) -/
structure Cacher where
  σ : Type
  Inv : σ → Prop
  toMap : σ → Bytes → Option Bytes
  keys : σ → List Bytes
  /-- `cacher.Put(key, data, len(data))` -/
  put : σ → Bytes → Bytes → σ
  get : σ → Bytes → σ × Option Bytes
  has : σ → Bytes → Bool
  remove : σ → Bytes → σ
  clear : σ → σ

-- `x ∈ keep` in `put_keep` is decided through `List`'s own lawfulness instance (as in `SV.Unit`), not through the
-- shortcut instance of SV.AssocList
attribute [-instance] SV.instLawfulBEqBytes in
/-- the contract the C16 theorems assume of the cacher -/
structure Cacher.Lawful (C : Cacher) : Prop where
  keys_spec : ∀ c x, C.Inv c → (x ∈ C.keys c ↔ (C.toMap c x).isSome = true)
  /-- Put = write the entry, then keep some subset (exactly the shape of `U.put`) -/
  put_keep : ∀ c k v, C.Inv c → ∃ keep : List Bytes,
    ∀ x, C.toMap (C.put c k v) x = if x ∈ keep then (if x = k then some v else C.toMap c x) else none
  put_inv : ∀ c k v, C.Inv c → C.Inv (C.put c k v)
  get_val : ∀ c k, C.Inv c → (C.get c k).2 = C.toMap c k
  get_map : ∀ c k x, C.Inv c → C.toMap (C.get c k).1 x = C.toMap c x
  get_inv : ∀ c k, C.Inv c → C.Inv (C.get c k).1
  has_spec : ∀ c k, C.Inv c → C.has c k = (C.toMap c k).isSome
  remove_map : ∀ c k x, C.Inv c → C.toMap (C.remove c k) x = if x = k then none else C.toMap c x
  remove_inv : ∀ c k, C.Inv c → C.Inv (C.remove c k)
  clear_map : ∀ c x, C.Inv c → C.toMap (C.clear c) x = none
  clear_inv : ∀ c, C.Inv c → C.Inv (C.clear c)

/-! ### the storage unit over a real cacher -/

/-- storageUnit.Unit over the cacher `C` and the fault-injecting persister of `SV.Unit.U` -/
structure RU (C : Cacher) where
  cache : C.σ
  db : List (Bytes × Bytes)

variable {C : Cacher}

/-- `Put`: `cacher.Put(key, data, len(data))`, then `persister.Put`; on error `cacher.Remove(key)` -/
def RU.put (u : RU C) (k v : Bytes) (fail : Bool) : RU C × Bool :=
  let c := C.put u.cache k v
  if fail then (⟨C.remove c k, u.db⟩, false) else (⟨c, aset k v u.db⟩, true)

/-- `Get`: `cacher.Get`; on a miss `persister.Get` and, if found, `cacher.Put(key, v, len(v))` -/
def RU.get (u : RU C) (k : Bytes) (fail : Bool) : RU C × Option Bytes :=
  let r := C.get u.cache k
  match r.2 with
  | some v => (⟨r.1, u.db⟩, some v)
  | none =>
    if fail then (⟨r.1, u.db⟩, none)
    else match alookup k u.db with
      | none => (⟨r.1, u.db⟩, none)
      | some v => (⟨C.put r.1 k v, u.db⟩, some v)

/-- `Has`: `cacher.Has`, else `persister.Has` -/
def RU.has (u : RU C) (k : Bytes) : Bool := C.has u.cache k || (alookup k u.db).isSome

/-- `Remove`: `cacher.Remove`, then `persister.Remove` (which may fail) -/
def RU.remove (u : RU C) (k : Bytes) (fail : Bool) : RU C × Bool :=
  if fail then (⟨C.remove u.cache k, u.db⟩, false) else (⟨C.remove u.cache k, aerase k u.db⟩, true)

/-- `ClearCache`: `cacher.Clear` -/
def RU.clearCache (u : RU C) : RU C := ⟨C.clear u.cache, u.db⟩

structure Sim (u : RU C) (a : U) : Prop where
  inv : C.Inv u.cache
  cache : ∀ x, alookup x a.cache = C.toMap u.cache x
  db : a.db = u.db

def RU.abs (u : RU C) : U :=
  ⟨(C.keys u.cache).filterMap (fun x => (C.toMap u.cache x).map (fun w => (x, w))), u.db⟩

theorem alookup_graph (m : Bytes → Option Bytes) (x : Bytes) (keys : List Bytes) :
    alookup x (keys.filterMap (fun y => (m y).map (fun w => (y, w)))) = if x ∈ keys then m x else none := by
  induction keys with
  | nil => simp [alookup]
  | cons y r ih =>
    rw [List.filterMap_cons]
    cases hy : m y with
    | none =>
      simp only [Option.map_none, ih, List.mem_cons]
      by_cases hxy : x = y
      · subst hxy
        simp only [true_or, if_true, hy]
        split <;> simp
      · simp [hxy]
    | some w =>
      simp only [Option.map_some, alookup_cons_eq, ih, List.mem_cons]
      by_cases hxy : x = y
      · subst hxy; simp [hy]
      · simp [hxy]

theorem Sim.abs (L : C.Lawful) (u : RU C) (h : C.Inv u.cache) : Sim u u.abs := by
  refine ⟨h, ?_, rfl⟩
  intro x
  show alookup x ((C.keys u.cache).filterMap _) = _
  rw [alookup_graph]
  split
  · rfl
  · rename_i hx
    cases hm : C.toMap u.cache x with
    | none => rfl
    | some w => exact absurd ((L.keys_spec _ x h).mpr (by rw [hm]; rfl)) hx

theorem alookup_written (keep : List Bytes) (k v x : Bytes) (c : List (Bytes × Bytes)) :
    alookup x (restrict keep (aset k v c)) = if x ∈ keep then (if x = k then some v else alookup x c) else none := by
  rw [alookup_restrict, alookup_aset_eq]
  exact ite_congr (propext List.contains_iff_mem) (fun _ => rfl) (fun _ => rfl)

theorem RU.put_sim (L : C.Lawful) (u : RU C) (a : U) (h : Sim u a) (k v : Bytes) (fail : Bool) :
    ∃ keep, Sim (u.put k v fail).1 (a.put k v fail keep).1 ∧ (u.put k v fail).2 = (a.put k v fail keep).2 := by
  obtain ⟨keep, hkeep⟩ := L.put_keep u.cache k v h.inv
  have hinv := L.put_inv u.cache k v h.inv
  refine ⟨keep, ?_, ?_⟩
  · cases fail with
    | true =>
      refine ⟨L.remove_inv _ k hinv, ?_, h.db⟩
      intro x
      show alookup x (aerase k (restrict keep (aset k v a.cache))) = C.toMap (C.remove (C.put u.cache k v) k) x
      rw [L.remove_map _ k x hinv, alookup_aerase_eq, alookup_written, hkeep x, h.cache x]
    | false =>
      refine ⟨hinv, ?_, ?_⟩
      · intro x
        show alookup x (restrict keep (aset k v a.cache)) = C.toMap (C.put u.cache k v) x
        rw [alookup_written, hkeep x, h.cache x]
      · show aset k v a.db = aset k v u.db
        rw [h.db]
  · cases fail <;> rfl

theorem RU.get_hit (u : RU C) (k : Bytes) (fail : Bool) (w : Bytes) (hg : (C.get u.cache k).2 = some w) :
    u.get k fail = (⟨(C.get u.cache k).1, u.db⟩, some w) := by
  simp only [RU.get, hg]

theorem RU.get_miss_fail (u : RU C) (k : Bytes) (hg : (C.get u.cache k).2 = none) :
    u.get k true = (⟨(C.get u.cache k).1, u.db⟩, none) := by
  simp only [RU.get, hg, if_true]

theorem RU.get_miss_none (u : RU C) (k : Bytes) (hg : (C.get u.cache k).2 = none) (hd : alookup k u.db = none) :
    u.get k false = (⟨(C.get u.cache k).1, u.db⟩, none) := by
  simp only [RU.get, hg, hd, Bool.false_eq_true, if_false]

theorem RU.get_miss_some (u : RU C) (k : Bytes) (w : Bytes) (hg : (C.get u.cache k).2 = none)
    (hd : alookup k u.db = some w) :
    u.get k false = (⟨C.put (C.get u.cache k).1 k w, u.db⟩, some w) := by
  simp only [RU.get, hg, hd, Bool.false_eq_true, if_false]

theorem RU.get_sim (L : C.Lawful) (u : RU C) (a : U) (h : Sim u a) (k : Bytes) (fail : Bool) :
    ∃ keep, Sim (u.get k fail).1 (a.get k fail keep).1 ∧ (u.get k fail).2 = (a.get k fail keep).2 := by
  have hval := L.get_val u.cache k h.inv
  have hinv := L.get_inv u.cache k h.inv
  have hmap := fun x => L.get_map u.cache k x h.inv
  have hsame : Sim (⟨(C.get u.cache k).1, u.db⟩ : RU C) a :=
    ⟨hinv, fun x => by rw [h.cache x]; exact (hmap x).symm, h.db⟩
  have hc := h.cache k
  cases hg : (C.get u.cache k).2 with
  | some w =>
    have ha : alookup k a.cache = some w := by rw [hc, ← hval, hg]
    refine ⟨[], ?_⟩
    rw [RU.get_hit u k fail w hg, U.get_hit a k fail [] w ha]
    exact ⟨hsame, rfl⟩
  | none =>
    have ha : alookup k a.cache = none := by rw [hc, ← hval, hg]
    cases fail with
    | true =>
      refine ⟨[], ?_⟩
      rw [RU.get_miss_fail u k hg, U.get_miss_fail a k [] ha]
      exact ⟨hsame, rfl⟩
    | false =>
      cases hd : alookup k u.db with
      | none =>
        refine ⟨[], ?_⟩
        rw [RU.get_miss_none u k hg hd, U.get_miss_none a k [] ha (by rw [h.db]; exact hd)]
        exact ⟨hsame, rfl⟩
      | some w =>
        obtain ⟨keep, hkeep⟩ := L.put_keep (C.get u.cache k).1 k w hinv
        refine ⟨keep, ?_⟩
        rw [RU.get_miss_some u k w hg hd, U.get_miss_some a k keep w ha (by rw [h.db]; exact hd)]
        refine ⟨⟨L.put_inv _ k w hinv, ?_, h.db⟩, rfl⟩
        intro x
        show alookup x (restrict keep (aset k w a.cache)) = C.toMap (C.put (C.get u.cache k).1 k w) x
        rw [alookup_written, hkeep x, hmap x, h.cache x]

theorem RU.has_sim (L : C.Lawful) (u : RU C) (a : U) (h : Sim u a) (k : Bytes) : u.has k = a.has k := by
  unfold RU.has U.has
  rw [L.has_spec u.cache k h.inv, h.cache k, h.db]

theorem RU.remove_sim (L : C.Lawful) (u : RU C) (a : U) (h : Sim u a) (k : Bytes) (fail : Bool) :
    Sim (u.remove k fail).1 (a.remove k fail).1 ∧ (u.remove k fail).2 = (a.remove k fail).2 := by
  have hc : ∀ x, alookup x (aerase k a.cache) = C.toMap (C.remove u.cache k) x := by
    intro x
    rw [L.remove_map _ k x h.inv, alookup_aerase_eq, h.cache x]
  cases fail with
  | true => exact ⟨⟨L.remove_inv _ k h.inv, hc, h.db⟩, rfl⟩
  | false =>
    refine ⟨⟨L.remove_inv _ k h.inv, hc, ?_⟩, rfl⟩
    show aerase k a.db = aerase k u.db
    rw [h.db]

theorem RU.clear_sim (L : C.Lawful) (u : RU C) (a : U) (h : Sim u a) : Sim u.clearCache a.clearCache := by
  refine ⟨L.clear_inv _ h.inv, ?_, h.db⟩
  intro x
  show alookup x [] = C.toMap (C.clear u.cache) x
  rw [L.clear_map _ x h.inv]
  rfl

/-! ### histories -/

/-- operations of the real unit: as `SV.Unit.Op` but WITHOUT the eviction oracle — the cacher decides -/
inductive ROp where
  | put (k v : Bytes) (fail : Bool)
  | get (k : Bytes) (fail : Bool)
  | rm (k : Bytes) (fail : Bool)
  | clearCache

def RU.step (u : RU C) : ROp → RU C
  | .put k v f => (u.put k v f).1
  | .get k f => (u.get k f).1
  | .rm k f => (u.remove k f).1
  | .clearCache => u.clearCache

def eraseOp : Op → ROp
  | .put k v f _ => .put k v f
  | .get k f _ => .get k f
  | .rm k f => .rm k f
  | .clearCache => .clearCache

/-- the map of acknowledged writes -/
def rackStep (m : Bytes → Option Bytes) : ROp → (Bytes → Option Bytes)
  | .put k v false => fun x => if x = k then some v else m x
  | .rm k false => fun x => if x = k then none else m x
  | _ => m

theorem ackStep_erase (m : Bytes → Option Bytes) (op : Op) : ackStep m op = rackStep m (eraseOp op) := by
  cases op with
  | put k v f keep => cases f <;> rfl
  | get k f keep => rfl
  | rm k f => cases f <;> rfl
  | clearCache => rfl

theorem ack_run_erase (aops : List Op) (m : Bytes → Option Bytes) :
    aops.foldl ackStep m = (aops.map eraseOp).foldl rackStep m := by
  rw [List.foldl_map]
  exact congrArg (fun f => aops.foldl f m) (funext fun m => funext fun op => ackStep_erase m op)

theorem RU.step_sim (L : C.Lawful) (u : RU C) (a : U) (h : Sim u a) (rop : ROp) :
    ∃ op, eraseOp op = rop ∧ Sim (u.step rop) (a.step op) := by
  cases rop with
  | put k v f =>
    obtain ⟨keep, hs, _⟩ := RU.put_sim L u a h k v f
    exact ⟨.put k v f keep, rfl, hs⟩
  | get k f =>
    obtain ⟨keep, hs, _⟩ := RU.get_sim L u a h k f
    exact ⟨.get k f keep, rfl, hs⟩
  | rm k f => exact ⟨.rm k f, rfl, (RU.remove_sim L u a h k f).1⟩
  | clearCache => exact ⟨.clearCache, rfl, RU.clear_sim L u a h⟩

/-- SIMULATION, whole histories: every history of the real unit is a history of the abstract unit for some
    choice of the eviction oracles -/
theorem RU.run_sim (L : C.Lawful) (rops : List ROp) : ∀ (u : RU C) (a : U), Sim u a →
    ∃ aops : List Op, aops.map eraseOp = rops ∧ Sim (rops.foldl RU.step u) (aops.foldl U.step a) := by
  induction rops with
  | nil => intro u a h; exact ⟨[], rfl, h⟩
  | cons rop r ih =>
    intro u a h
    obtain ⟨op, he, hs⟩ := RU.step_sim L u a h rop
    obtain ⟨aops, hm, hs'⟩ := ih _ _ hs
    refine ⟨op :: aops, ?_, ?_⟩
    · simp only [List.map_cons, he, hm]
    · simpa only [List.foldl_cons] using hs'

/-! ### the C16 conclusions for the real unit -/

/-- the real cacher never serves a value different from what the persister logically holds -/
def RCoherent (u : RU C) : Prop := ∀ k v, C.toMap u.cache k = some v → alookup k u.db = some v

theorem Sim.coherent_iff {u : RU C} {a : U} (h : Sim u a) : Coherent a ↔ RCoherent u := by
  unfold Coherent RCoherent
  constructor
  · intro hc k v hk
    rw [← h.db]; exact hc k v (by rw [h.cache k]; exact hk)
  · intro hc k v hk
    rw [h.db]; exact hc k v (by rw [← h.cache k]; exact hk)

def RU.init (c0 : C.σ) : RU C := ⟨c0, []⟩

theorem Sim.init (c0 : C.σ) (h0 : C.Inv c0) (he : ∀ x, C.toMap c0 x = none) : Sim (RU.init c0 : RU C) U.init :=
  ⟨h0, fun x => (he x).symm, rfl⟩

/-- C16 for the real unit: after ANY history (the evictions being whatever the real cacher does, any persister
    faults) the unit is coherent, and Get (healthy persister) and Has answer exactly like the map of
    acknowledged writes -/
theorem realUnit_run_spec (L : C.Lawful) (c0 : C.σ) (h0 : C.Inv c0) (he : ∀ x, C.toMap c0 x = none)
    (rops : List ROp) (k : Bytes) :
    let u := rops.foldl RU.step (RU.init c0 : RU C)
    C.Inv u.cache ∧ RCoherent u ∧ (u.get k false).2 = (rops.foldl rackStep (fun _ => none)) k ∧
      u.has k = ((rops.foldl rackStep (fun _ => none)) k).isSome := by
  intro u
  obtain ⟨aops, hm, hs⟩ := RU.run_sim L rops (RU.init c0) U.init (Sim.init c0 h0 he)
  obtain ⟨keep, _, hget⟩ := RU.get_sim L u _ hs k false
  obtain ⟨hc, hg, hh⟩ := run_spec aops k keep
  rw [ack_run_erase, hm] at hg hh
  exact ⟨hs.inv, hs.coherent_iff.mp hc, hget.trans hg, (RU.has_sim L u _ hs k).trans hh⟩

theorem realUnit_coherent (L : C.Lawful) (c0 : C.σ) (h0 : C.Inv c0) (he : ∀ x, C.toMap c0 x = none)
    (rops : List ROp) : RCoherent (rops.foldl RU.step (RU.init c0 : RU C)) :=
  (realUnit_run_spec L c0 h0 he rops []).2.1

/-- coherence is inductive from ANY coherent state (not only along histories from the empty unit) -/
theorem RCoherent.step (L : C.Lawful) (u : RU C) (rop : ROp) (hi : C.Inv u.cache) (h : RCoherent u) :
    C.Inv (u.step rop).cache ∧ RCoherent (u.step rop) := by
  have hs := Sim.abs L u hi
  obtain ⟨op, _, hs'⟩ := RU.step_sim L u _ hs rop
  have hc : Coherent (u.abs.step op) := by
    have h0 := hs.coherent_iff.mpr h
    cases op with
    | put k v f keep => exact Coherent.put _ k v f keep h0
    | get k f keep => exact Coherent.get _ k f keep h0
    | rm k f => exact Coherent.remove _ k f h0
    | clearCache => exact Coherent.clearCache _
  exact ⟨hs'.inv, hs'.coherent_iff.mp hc⟩

theorem realUnit_get_spec (L : C.Lawful) (u : RU C) (k : Bytes) (hi : C.Inv u.cache) (h : RCoherent u) :
    (u.get k false).2 = alookup k u.db := by
  have hs := Sim.abs L u hi
  obtain ⟨keep, _, hg⟩ := RU.get_sim L u _ hs k false
  rw [hg, get_spec _ k keep (hs.coherent_iff.mpr h)]
  rfl

theorem realUnit_has_spec (L : C.Lawful) (u : RU C) (k : Bytes) (hi : C.Inv u.cache) (h : RCoherent u) :
    u.has k = (alookup k u.db).isSome := by
  have hs := Sim.abs L u hi
  rw [RU.has_sim L u _ hs k, has_spec _ k (hs.coherent_iff.mpr h)]
  rfl

/-- a Put rejected by the persister is not served afterwards: the next Get falls through to the old state -/
theorem realUnit_rejected_put_not_served (L : C.Lawful) (u : RU C) (k v : Bytes) (hi : C.Inv u.cache) :
    ((u.put k v true).1.get k false).2 = alookup k u.db := by
  have hs := Sim.abs L u hi
  obtain ⟨keep, hs1, _⟩ := RU.put_sim L u _ hs k v true
  obtain ⟨keep', _, hg⟩ := RU.get_sim L _ _ hs1 k false
  rw [hg, rejected_put_not_served _ k v keep keep']
  rfl

theorem realUnit_acked_put_served (L : C.Lawful) (u : RU C) (k v : Bytes) (hi : C.Inv u.cache)
    (h : RCoherent u) : ((u.put k v false).1.get k false).2 = some v := by
  obtain ⟨hi', h'⟩ := RCoherent.step L u (.put k v false) hi h
  have := realUnit_get_spec L (u.put k v false).1 k hi' h'
  rw [this]
  show alookup k (aset k v u.db) = some v
  exact alookup_aset_self k v u.db

/-! ## the real cachers satisfy the contract -/

/-! ### capacityLRU (`lrucache.NewCacheWithSizeInBytes`) -/

namespace CapC
open SV.LRU

def pairs (l : List Entry) : List (Bytes × Bytes) := l.map (fun e => (e.key, e.val))

def toMap (c : Cap) : Bytes → Option Bytes := fun x => alookup x (pairs c.entries)

theorem alookup_pairs (x : Bytes) (l : List Entry) :
    alookup x (pairs l) = (l.find? (fun e => e.key == x)).map (·.val) := by
  rw [alookup_eq_find, pairs, List.find?_map, Option.map_map]
  rfl

theorem toMap_eq_peek (c : Cap) (x : Bytes) : toMap c x = c.peek x := alookup_pairs x c.entries

theorem pairs_filter (k : Bytes) (l : List Entry) :
    pairs (l.filter (fun e => e.key != k)) = (pairs l).filter (fun e => e.1 != k) := by
  unfold pairs
  rw [List.filter_map]
  rfl

theorem mem_keys_iff (c : Cap) (x : Bytes) : x ∈ c.keys ↔ (toMap c x).isSome = true := by
  unfold toMap
  rw [alookup_isSome_iff]
  simp [Cap.keys, pairs]

theorem addSized_fst (vr : Variant) (c : Cap) (k v : Bytes) (size : Int) :
    (c.addSized vr k v size).1 = ((c.addSizedCore vr k v size).evictIfNeeded).1 := by
  unfold Cap.addSized
  generalize (c.addSizedCore vr k v size).evictIfNeeded = r
  rfl

theorem evict_prefix {c : Cap} {l : List Entry} (hp : c.entries <+: l) (hne : c.entries ≠ [])
    (hb : c.bytes = sumSizes c.entries) :
    c.evictIfNeeded.1.entries <+: l ∧ c.evictIfNeeded.1.entries ≠ [] ∧
      c.evictIfNeeded.1.bytes = sumSizes c.evictIfNeeded.1.entries :=
  ⟨.trans ⟨_, (evictIfNeeded_split c hb).1.symm⟩ hp, (evictIfNeeded_fits c hb).2 hne, (evictIfNeeded_split c hb).2.1⟩

/-- a prefix, not the list itself: for the legacy variant `update` has already evicted silently -/
theorem core_prefix (vr : Variant) (c : Cap) (k v : Bytes) (size : Int) (h : CapInv c) (hs : 0 ≤ size) :
    (c.addSizedCore vr k v size).entries <+: ⟨k, v, size⟩ :: c.entries.filter (fun e => e.key != k) ∧
      (c.addSizedCore vr k v size).entries ≠ [] ∧
      (c.addSizedCore vr k v size).bytes = sumSizes (c.addSizedCore vr k v size).entries := by
  -- the legacy variant differs from the current one by at most one more eviction
  have hvr : c.addSizedCore vr k v size = c.addSizedCore Variant.current k v size ∨
      c.addSizedCore vr k v size = (c.addSizedCore Variant.current k v size).evictIfNeeded.1 := by
    unfold Cap.addSizedCore Cap.update
    cases c.find k with
    | none => exact Or.inl rfl
    | some old =>
      cases vr.updateEvictsSilently with
      | false => exact Or.inl rfl
      | true =>
        rw [if_neg (Int.not_lt.mpr hs), if_neg (Int.not_lt.mpr hs)]
        cases c.has k with
        | false => exact Or.inl rfl
        | true => exact Or.inr rfl
  rcases hvr with e | e <;> rw [e, addSizedCore_eq c k v size h hs]
  · exact ⟨List.prefix_rfl, List.cons_ne_nil _ _, rfl⟩
  · exact evict_prefix (c := ⟨_, _, _, _⟩) List.prefix_rfl (List.cons_ne_nil _ _) rfl

theorem addSized_prefix (vr : Variant) (c : Cap) (k v : Bytes) (size : Int) (h : CapInv c) (hs : 0 ≤ size) :
    (c.addSized vr k v size).1.entries <+: ⟨k, v, size⟩ :: c.entries.filter (fun e => e.key != k) ∧
      (c.addSized vr k v size).1.entries ≠ [] ∧ CapInv (c.addSized vr k v size).1 := by
  obtain ⟨hp, hne, hb⟩ := core_prefix vr c k v size h hs
  rw [addSized_fst]
  refine ⟨(evict_prefix hp hne hb).1, (evict_prefix hp hne hb).2.1, CapInv.evict _ ?_ ?_ hb⟩
  -- the pre-eviction list is a prefix of a list with distinct keys and non-negative sizes
  · refine (hp.sublist.map _).nodup ?_
    rw [List.map_cons, List.nodup_cons]
    exact ⟨not_mem_filter_keys k _, filter_keys_nodup k _ h.keysNodup⟩
  · intro e he
    rcases List.mem_cons.mp (hp.subset he) with rfl | he
    · exact hs
    · exact h.sizes e (List.mem_filter.mp he).1

theorem pairs_prefix (vr : Variant) (c : Cap) (k v : Bytes) (size : Int) (h : CapInv c) (hs : 0 ≤ size) :
    pairs (c.addSized vr k v size).1.entries <+: (k, v) :: (pairs c.entries).filter (fun e => e.1 != k) := by
  rw [← pairs_filter]
  exact (addSized_prefix vr c k v size h hs).1.map _

theorem put_sub (vr : Variant) (c : Cap) (k v : Bytes) (size : Int) (h : CapInv c) (hs : 0 ≤ size) (x w : Bytes)
    (hx : toMap (c.addSized vr k v size).1 x = some w) : (if x = k then some v else toMap c x) = some w :=
  written_of_prefix (pairs_prefix vr c k v size h hs) hx

theorem put_keep (vr : Variant) (c : Cap) (k v : Bytes) (size : Int) (h : CapInv c) (hs : 0 ≤ size) :
    ∃ keep : List Bytes, ∀ x, toMap (c.addSized vr k v size).1 x =
      if x ∈ keep then (if x = k then some v else toMap c x) else none :=
  ⟨_, keep_of_sub _ _ k v _ (mem_keys_iff _) (put_sub vr c k v size h hs)⟩

/-- the written key itself is ALWAYS kept, even with `size > maxBytes` or `cap = 0`: `shouldEvict` never removes the
    last entry -/
theorem put_keeps_written (vr : Variant) (c : Cap) (k v : Bytes) (size : Int) (h : CapInv c) (hs : 0 ≤ size) :
    toMap (c.addSized vr k v size).1 k = some v := by
  obtain ⟨hp, hne, _⟩ := addSized_prefix vr c k v size h hs
  have hh := hp.head hne
  exact alookup_of_head? (l := pairs _) (by rw [pairs, List.head?_map, List.head?_eq_some_head hne, hh]; rfl)

/-- a negative size is rejected (the unit never passes one): the cache is unchanged, so the Put is NOT of the
    "write then keep" form when the key was resident with another value -/
theorem negative_size_counterexample :
    let c : Cap := (Cap.init 2 100).addNew [1] [7] 1
    CapInv c ∧ toMap (c.addSized Variant.current [1] [9] (-1)).1 [1] = some [7] := by
  refine ⟨⟨by decide, by decide, by decide, Or.inl (by decide)⟩, by decide⟩

theorem get_is_lookup (c : Cap) (k : Bytes) :
    (c.get k).2 = toMap c k ∧ ∀ x, toMap (c.get k).1 x = toMap c x := by
  have hpeek := toMap_eq_peek c k
  unfold Cap.peek at hpeek
  unfold Cap.get
  cases hf : c.find k with
  | none =>
    rw [hf] at hpeek
    exact ⟨hpeek.symm, fun x => rfl⟩
  | some e =>
    rw [hf] at hpeek
    have hek : e.key = k := by simpa using List.find?_some hf
    refine ⟨hpeek.symm, fun x => ?_⟩
    show alookup x ((e.key, e.val) :: pairs (c.entries.filter (fun e => e.key != k))) = toMap c x
    rw [hek, pairs_filter]
    exact alookup_move_front hpeek x

theorem has_is_lookup (c : Cap) (k : Bytes) : c.has k = (toMap c k).isSome := by
  rw [toMap_eq_peek, peek_isSome]

theorem remove_is_erase (c : Cap) (k x : Bytes) :
    toMap (c.remove k).1 x = if x = k then none else toMap c x := by
  unfold toMap
  rw [Cap.remove_entries, pairs_filter, alookup_filter_ne]

theorem clear_is_empty (c : Cap) (x : Bytes) : toMap c.purge x = none := rfl

end CapC

/-- capacityLRU as the storage unit uses it: `Put(key, data, len(data))` -/
def capCacher (vr : LRU.Variant) : Cacher where
  σ := LRU.Cap
  Inv := LRU.CapInv
  toMap := CapC.toMap
  keys := LRU.Cap.keys
  put := fun c k v => (c.addSized vr k v (v.length : Int)).1
  get := LRU.Cap.get
  has := LRU.Cap.has
  remove := fun c k => (c.remove k).1
  clear := LRU.Cap.purge

theorem capCacher_lawful (vr : LRU.Variant) : (capCacher vr).Lawful where
  keys_spec := fun c x _ => CapC.mem_keys_iff c x
  -- the record is unfolded first: comparing its fields with the LRU's operations as they stand would run the write
  put_keep := fun c k v h => by
    dsimp only [capCacher] at h ⊢
    exact CapC.put_keep vr c k v _ h (Int.natCast_nonneg _)
  put_inv := fun c k v h => by
    dsimp only [capCacher] at h ⊢
    exact (CapC.addSized_prefix vr c k v _ h (Int.natCast_nonneg _)).2.2
  get_val := fun c k _ => (CapC.get_is_lookup c k).1
  get_map := fun c k x _ => (CapC.get_is_lookup c k).2 x
  get_inv := fun c k h => LRU.CapInv.get c k h
  has_spec := fun c k _ => CapC.has_is_lookup c k
  remove_map := fun c k x _ => CapC.remove_is_erase c k x
  remove_inv := fun c k h => LRU.CapInv.remove c k h
  clear_map := fun c x _ => CapC.clear_is_empty c x
  clear_inv := fun c _ => LRU.CapInv.purge c

/-! ### hashicorp simplelru (`lrucache.NewCache`) -/

namespace SimpleC
open SV.LRU

def toMap (c : Simple) : Bytes → Option Bytes := fun x => alookup x c.entries

/-- `Purge` (through `lruCache.Clear`), as in `LRU.Cache.clear` -/
def clear (c : Simple) : Simple := { c with entries := [] }

theorem toMap_eq_peek (c : Simple) (x : Bytes) : toMap c x = c.peek x := alookup_eq_find x c.entries

theorem mem_keys_iff (c : Simple) (x : Bytes) : x ∈ c.keys ↔ (toMap c x).isSome = true := by
  unfold toMap
  rw [alookup_isSome_iff]
  simp [Simple.keys]

theorem has_is_lookup (c : Simple) (k : Bytes) : c.has k = (toMap c k).isSome := by
  rw [Bool.eq_iff_iff]
  unfold toMap
  rw [alookup_isSome_iff]
  simp [Simple.has]

theorem add_prefix (c : Simple) (k v : Bytes) (h : SimpleInv c) :
    (c.add k v).1.entries <+: (k, v) :: c.entries.filter (fun e => e.1 != k) := by
  rw [Simple.add_eq c k v h]
  split
  · exact List.dropLast_prefix _
  · exact List.prefix_rfl

theorem add_inv (c : Simple) (k v : Bytes) (h : SimpleInv c) : SimpleInv (c.add k v).1 := by
  by_cases hc : 1 ≤ c.cap
  · exact SimpleInv.add c k v h hc
  · have hb := h.bound
    have he : c.entries = [] := List.eq_nil_of_length_eq_zero (by omega)
    have hk : c.has k = false := by simp [Simple.has, he]
    unfold Simple.add
    simp only [hk, Bool.false_eq_true, if_false, he, List.length_cons, List.length_nil]
    rw [if_pos (by omega)]
    exact ⟨by simp, by simp⟩

theorem put_sub (c : Simple) (k v : Bytes) (h : SimpleInv c) (x w : Bytes) (hx : toMap (c.add k v).1 x = some w) :
    (if x = k then some v else toMap c x) = some w :=
  written_of_prefix (add_prefix c k v h) hx

theorem put_keep (c : Simple) (k v : Bytes) (h : SimpleInv c) :
    ∃ keep : List Bytes, ∀ x, toMap (c.add k v).1 x =
      if x ∈ keep then (if x = k then some v else toMap c x) else none :=
  ⟨_, keep_of_sub _ _ k v _ (mem_keys_iff _) (put_sub c k v h)⟩

/-- the written key is kept exactly when the capacity is positive (`lru.New` rejects `size ≤ 0`) -/
theorem put_keeps_written_iff (c : Simple) (k v : Bytes) (h : SimpleInv c) :
    toMap (c.add k v).1 k = some v ↔ 1 ≤ c.cap := by
  constructor
  · -- a cache that holds something has room for something
    intro hk
    have hb := (add_inv c k v h).bound
    have hcap : (c.add k v).1.cap = c.cap := by rw [Simple.add_eq c k v h]; split <;> rfl
    rw [hcap] at hb
    refine Nat.le_trans (List.length_pos_iff.mpr fun he => ?_) hb
    rw [toMap, he] at hk
    cases hk
  · exact fun hc => alookup_of_head? (Simple.add_head c k v hc)

theorem get_is_lookup (c : Simple) (k : Bytes) :
    (c.get k).2 = toMap c k ∧ ∀ x, toMap (c.get k).1 x = toMap c x := by
  unfold Simple.get
  cases hf : c.entries.find? (fun e => e.1 == k) with
  | none =>
    refine ⟨?_, fun x => rfl⟩
    show none = toMap c k
    rw [toMap_eq_peek, Simple.peek, hf]; rfl
  | some e =>
    have hek : e.1 = k := by simpa using List.find?_some hf
    have hk : toMap c k = some e.2 := by rw [toMap_eq_peek, Simple.peek, hf]; rfl
    refine ⟨hk.symm, ?_⟩
    intro x
    show alookup x (e :: c.entries.filter (fun e => e.1 != k)) = toMap c x
    obtain ⟨e1, e2⟩ := e
    simp only at hek hk
    subst hek
    exact alookup_move_front hk x

theorem get_inv (c : Simple) (k : Bytes) (h : SimpleInv c) : SimpleInv (c.get k).1 := by
  unfold Simple.get
  cases hf : c.entries.find? (fun e => e.1 == k) with
  | none => exact h
  | some e =>
    have hek : e.1 = k := by simpa using List.find?_some hf
    subst hek
    have hk : c.has e.1 = true := List.any_eq_true.mpr ⟨e, List.mem_of_find?_eq_some hf, beq_self_eq_true _⟩
    exact ⟨nodup_cons_filter Prod.fst c.entries e h.keysNodup, Nat.le_trans (Simple.filter_lt c e.1 hk) h.bound⟩

theorem remove_is_erase (c : Simple) (k x : Bytes) :
    toMap (c.remove k) x = if x = k then none else toMap c x :=
  alookup_filter_ne x k c.entries

theorem remove_inv (c : Simple) (k : Bytes) (h : SimpleInv c) : SimpleInv (c.remove k) :=
  ⟨List.Nodup.sublist (List.Sublist.map _ List.filter_sublist) h.keysNodup,
   Nat.le_trans (List.length_filter_le _ _) h.bound⟩

theorem clear_is_empty (c : Simple) (x : Bytes) : toMap (clear c) x = none := rfl

theorem clear_inv (c : Simple) : SimpleInv (clear c) := ⟨by simp [clear], by simp [clear]⟩

end SimpleC

/-- the hashicorp LRU as the storage unit uses it (the size argument of Put is ignored by the adapter) -/
def simpleCacher : Cacher where
  σ := LRU.Simple
  Inv := LRU.SimpleInv
  toMap := SimpleC.toMap
  keys := LRU.Simple.keys
  put := fun c k v => (c.add k v).1
  get := LRU.Simple.get
  has := LRU.Simple.has
  remove := LRU.Simple.remove
  clear := SimpleC.clear

theorem simpleCacher_lawful : simpleCacher.Lawful where
  keys_spec := fun c x _ => SimpleC.mem_keys_iff c x
  put_keep := fun c k v h => SimpleC.put_keep c k v h
  put_inv := fun c k v h => SimpleC.add_inv c k v h
  get_val := fun c k _ => (SimpleC.get_is_lookup c k).1
  get_map := fun c k x _ => (SimpleC.get_is_lookup c k).2 x
  get_inv := fun c k h => SimpleC.get_inv c k h
  has_spec := fun c k _ => SimpleC.has_is_lookup c k
  remove_map := fun c k x _ => SimpleC.remove_is_erase c k x
  remove_inv := fun c k h => SimpleC.remove_inv c k h
  clear_map := fun c x _ => SimpleC.clear_is_empty c x
  clear_inv := fun c _ => SimpleC.clear_inv c

/-! ### FIFOShardedCache -/

namespace FifoC
open SV.Fifo

/-- resident key ↦ value: what `Get` returns (a FIFO `Get` does not touch the state) -/
def toMap (c : Cache) : Bytes → Option Bytes := fun x => c.get x

def keys (c : Cache) : List Bytes :=
  (c.shards.flatMap (fun s => s.vals.map (·.1))).filter (fun x => (c.get x).isSome)

theorem mem_keys_iff (size : Nat) (c : Cache) (x : Bytes) (h : CacheInv size c) :
    x ∈ keys c ↔ (toMap c x).isSome = true := by
  unfold keys toMap
  rw [List.mem_filter]
  constructor
  · exact fun hx => hx.2
  · intro hx
    refine ⟨?_, hx⟩
    rw [List.mem_flatMap]
    exact ⟨c.shard x, shard_mem size c x h, alookup_isSome_iff.mp hx⟩

theorem idx_ne {c : Cache} {k x : Bytes} (h : ¬ c.idx x = c.idx k) : x ≠ k := fun e => h (by rw [e])

/-- FIFO: after a Put the map is contained in the written map — for EVERY size (no `2·N ≤ S` needed) -/
theorem put_sub (size : Nat) (c : Cache) (k v : Bytes) (h : CacheInv size c) (x w : Bytes)
    (hx : toMap (c.put k v).1 x = some w) : (if x = k then some v else toMap c x) = some w := by
  unfold toMap at hx ⊢
  rw [show (c.put k v).1 = c.setShard k ((c.shard k).set k v) from rfl, get_setShard size c k x _ h] at hx
  by_cases hi : c.idx x = c.idx k
  · rw [if_pos hi] at hx
    rw [get_of_idx_eq hi]
    exact set_sub _ k v x w hx
  · rw [if_neg hi] at hx
    rwa [if_neg (idx_ne hi)]

/-- …the written key is kept when a shard has at least two slots (`⌈S/N⌉ ≥ 2`, e.g. `S ≥ 2·N`) … -/
theorem put_keeps_written (size : Nat) (c : Cache) (k v : Bytes) (h : CacheInv size c)
    (hm : 2 ≤ shardSize size c.n) : toMap (c.put k v).1 k = some v :=
  put_resident_of_slots size c k v h hm

/-- …and dropped at once when a shard has a single slot (`⌈S/N⌉ ≤ 1`, i.e. `S = N` or `S = 0`): such a cache
    never holds anything -/
theorem put_drops_written (size : Nat) (c : Cache) (k v : Bytes) (h : CacheInv size c)
    (hm : shardSize size c.n ≤ 1) : ∀ x, toMap (c.put k v).1 x = none := by
  intro x
  have hinv : ShardInv (shardSize size c.n) ((c.put k v).1.shard x) :=
    (CacheInv.put size c k v h).2.2 _ (shard_mem size _ x (CacheInv.put size c k v h))
  exact hinv.lookup_of_view_nil (List.eq_nil_of_length_eq_zero (by rw [hinv.len]; omega)) x

theorem shardSize_le_one_iff (size n : Nat) (hn : 1 ≤ n) : shardSize size n ≤ 1 ↔ (size = 0 ∨ size = n) := by
  have hdm := Nat.div_add_mod size n
  have h1 : shardSize size n ≤ 1 ↔ size / n ≤ 1 ∧ size % n = 0 := by
    unfold shardSize
    generalize size / n = d
    generalize size % n = r
    by_cases hr : r = 0
    · rw [if_neg (fun h => h hr)]
      by_cases hd : d = 0
      · rw [if_pos hd, hd]; exact ⟨fun _ => ⟨Nat.zero_le _, hr⟩, fun _ => Nat.le_refl _⟩
      · rw [if_neg hd]; exact ⟨fun h => ⟨h, hr⟩, fun h => h.1⟩
    · rw [if_pos hr]
      have hs : 1 ≤ (if d = 0 then 1 else d) := by
        by_cases hd : d = 0
        · rw [if_pos hd]; exact Nat.le_refl _
        · rw [if_neg hd]; exact Nat.pos_of_ne_zero hd
      exact ⟨fun h => absurd (Nat.le_trans hs (Nat.le_of_succ_le_succ h)) (by decide), fun h => absurd h.2 hr⟩
  rw [h1]
  constructor
  · intro ⟨hd, hr⟩
    rw [hr, Nat.add_zero] at hdm
    rcases Nat.le_one_iff_eq_zero_or_eq_one.mp hd with h0 | h1
    · rw [h0, Nat.mul_zero] at hdm; exact Or.inl hdm.symm
    · rw [h1, Nat.mul_one] at hdm; exact Or.inr hdm.symm
  · rintro (rfl | rfl)
    · rw [Nat.zero_div, Nat.zero_mod]; exact ⟨Nat.zero_le _, rfl⟩
    · rw [Nat.div_self hn, Nat.mod_self]; exact ⟨Nat.le_refl _, rfl⟩

theorem get_is_lookup (c : Cache) (k : Bytes) : c.get k = toMap c k := rfl

theorem remove_is_erase (size : Nat) (c : Cache) (k x : Bytes) (h : CacheInv size c) :
    toMap (c.remove k) x = if x = k then none else toMap c x := by
  unfold toMap
  rw [show c.remove k = c.setShard k ((c.shard k).remove k) from rfl, get_setShard size c k x _ h]
  by_cases hi : c.idx x = c.idx k
  · rw [if_pos hi, remove_lookup, get_of_idx_eq hi]
  · rw [if_neg hi, if_neg (idx_ne hi)]

theorem clear_is_empty (c : Cache) (x : Bytes) : toMap c.clear x = none := by
  unfold toMap Cache.get Cache.clear Cache.shard
  simp only [Cache.idx, List.getElem?_map]
  cases c.shards[fnv32 x % c.n]? <;> rfl

theorem clear_inv (size : Nat) (c : Cache) (h : CacheInv size c) : CacheInv size c.clear := by
  refine ⟨h.1, by simp only [Cache.clear, List.length_map]; exact h.2.1, ?_⟩
  intro t ht
  simp only [Cache.clear, List.mem_map] at ht
  obtain ⟨s, hs, rfl⟩ := ht
  refine ShardInv.of_holes (by rw [List.length_map]; exact (h.2.2 s hs).len) fun x hx => ?_
  obtain ⟨_, _, rfl⟩ := List.mem_map.mp hx
  rfl

end FifoC

/-- the FIFO sharded cache (built with total size `size`) as the storage unit uses it -/
def fifoCacher (size : Nat) : Cacher where
  σ := Fifo.Cache
  Inv := Fifo.CacheInv size
  toMap := FifoC.toMap
  keys := FifoC.keys
  put := fun c k v => (c.put k v).1
  get := fun c k => (c, c.get k)
  has := fun c k => (c.get k).isSome
  remove := Fifo.Cache.remove
  clear := Fifo.Cache.clear

theorem fifoCacher_lawful (size : Nat) : (fifoCacher size).Lawful where
  keys_spec := fun c x h => FifoC.mem_keys_iff size c x h
  put_keep := fun c k v h => by
    dsimp only [fifoCacher] at h ⊢
    exact ⟨_, keep_of_sub _ _ k v _ (fun x => FifoC.mem_keys_iff size _ x (Fifo.CacheInv.put size c k v h))
      (FifoC.put_sub size c k v h)⟩
  put_inv := fun c k v h => Fifo.CacheInv.put size c k v h
  get_val := fun _ _ _ => rfl
  get_map := fun _ _ _ _ => rfl
  get_inv := fun _ _ h => h
  has_spec := fun _ _ _ => rfl
  remove_map := fun c k x h => FifoC.remove_is_erase size c k x h
  remove_inv := fun c k h => Fifo.CacheInv.remove size c k h
  clear_map := fun c x _ => FifoC.clear_is_empty c x
  clear_inv := fun c h => FifoC.clear_inv size c h

/-! ### lrucache.lruCache — the Cacher wrapper the factory actually returns, over either backend -/

namespace LruC
open SV.LRU

def Inv (c : Cache) : Prop :=
  match c.b with
  | .sized s => CapInv s
  | .plain s => SimpleInv s

def toMap (c : Cache) : Bytes → Option Bytes :=
  match c.b with
  | .sized s => CapC.toMap s
  | .plain s => SimpleC.toMap s

theorem put_sized (vr : Variant) (s : Cap) (hs : List String) (k v : Bytes) (n : Int) :
    (Cache.put vr ⟨.sized s, hs⟩ k v n).1 = ⟨.sized (s.addSized vr k v n).1, hs⟩ := by
  simp only [Cache.put]

theorem put_plain (vr : Variant) (s : Simple) (hs : List String) (k v : Bytes) (n : Int) :
    (Cache.put vr ⟨.plain s, hs⟩ k v n).1 = ⟨.plain (s.add k v).1, hs⟩ := by
  simp only [Cache.put]

end LruC

/-- `lruCache.Put(key, data, len(data))`, `Get`, `Has`, `Remove`, `Clear` -/
def lruCacher (vr : LRU.Variant) : Cacher where
  σ := LRU.Cache
  Inv := LruC.Inv
  toMap := LruC.toMap
  keys := LRU.Cache.keys
  put := fun c k v => (c.put vr k v (v.length : Int)).1
  get := LRU.Cache.get
  has := LRU.Cache.has
  remove := LRU.Cache.remove
  clear := LRU.Cache.clear

theorem LruC.cases {P : LRU.Cache → Prop} (sized : ∀ s hs, P ⟨.sized s, hs⟩) (plain : ∀ s hs, P ⟨.plain s, hs⟩) :
    ∀ c, P c
  | ⟨.sized s, hs⟩ => sized s hs
  | ⟨.plain s, hs⟩ => plain s hs

theorem lruCacher_lawful (vr : LRU.Variant) : (lruCacher vr).Lawful where
  keys_spec := LruC.cases (fun s _ x _ => CapC.mem_keys_iff s x) (fun s _ x _ => SimpleC.mem_keys_iff s x)
  -- for Put the wrapper's result is named first: comparing it with the backend's as it stands would run the write
  put_keep := LruC.cases
    (fun s hs k v h => by
      dsimp only [lruCacher]
      rw [LruC.put_sized]
      exact CapC.put_keep vr s k v _ h (Int.natCast_nonneg _))
    (fun s hs k v h => by
      dsimp only [lruCacher]
      rw [LruC.put_plain]
      exact SimpleC.put_keep s k v h)
  put_inv := LruC.cases
    (fun s hs k v h => by
      dsimp only [lruCacher]
      rw [LruC.put_sized]
      exact (CapC.addSized_prefix vr s k v _ h (Int.natCast_nonneg _)).2.2)
    (fun s hs k v h => by
      dsimp only [lruCacher]
      rw [LruC.put_plain]
      exact SimpleC.add_inv s k v h)
  get_val := LruC.cases (fun s _ k _ => (CapC.get_is_lookup s k).1) (fun s _ k _ => (SimpleC.get_is_lookup s k).1)
  get_map := LruC.cases (fun s _ k x _ => (CapC.get_is_lookup s k).2 x) (fun s _ k x _ => (SimpleC.get_is_lookup s k).2 x)
  get_inv := LruC.cases (fun s _ k h => LRU.CapInv.get s k h) (fun s _ k h => SimpleC.get_inv s k h)
  has_spec := LruC.cases (fun s _ k _ => CapC.has_is_lookup s k) (fun s _ k _ => SimpleC.has_is_lookup s k)
  remove_map := LruC.cases (fun s _ k x _ => CapC.remove_is_erase s k x) (fun s _ k x _ => SimpleC.remove_is_erase s k x)
  remove_inv := LruC.cases (fun s _ k h => LRU.CapInv.remove s k h) (fun s _ k h => SimpleC.remove_inv s k h)
  clear_map := LruC.cases (fun s _ x _ => CapC.clear_is_empty s x) (fun s _ x _ => SimpleC.clear_is_empty s x)
  clear_inv := LruC.cases (fun s _ _ => LRU.CapInv.purge s) (fun s _ _ => SimpleC.clear_inv s)

/-! ## C16 for the storage unit over each real cacher -/

theorem CapC.init_empty (cap : Nat) (maxBytes : Int) (x : Bytes) : CapC.toMap (LRU.Cap.init cap maxBytes) x = none := rfl

theorem SimpleC.init_inv (cap : Nat) : LRU.SimpleInv ⟨cap, []⟩ := ⟨by simp, by simp⟩

theorem FifoC.init_empty (size n : Nat) (x : Bytes) : FifoC.toMap (Fifo.Cache.init size n) x = none := by
  unfold FifoC.toMap Fifo.Cache.get Fifo.Cache.shard Fifo.Cache.init
  simp only [List.getElem?_replicate]
  split <;> rfl

/-- C16, storage unit over capacityLRU (`NewCacheWithSizeInBytes(cap, maxBytes)`), either variant: whatever the
    LRU evicts (by count or by bytes), after any history the unit is coherent and answers like the map of
    acknowledged writes -/
theorem capUnit_run_spec (vr : LRU.Variant) (cap : Nat) (maxBytes : Int) (rops : List ROp) (k : Bytes) :
    let u := rops.foldl RU.step (RU.init (LRU.Cap.init cap maxBytes) : RU (capCacher vr))
    LRU.CapInv u.cache ∧ RCoherent u ∧ (u.get k false).2 = (rops.foldl rackStep (fun _ => none)) k ∧
      u.has k = ((rops.foldl rackStep (fun _ => none)) k).isSome :=
  realUnit_run_spec (capCacher_lawful vr) _ (LRU.CapInv.init cap maxBytes) (CapC.init_empty cap maxBytes) rops k

/-- C16, storage unit over the hashicorp LRU (`NewCache(cap)`), any capacity (even 0) -/
theorem simpleUnit_run_spec (cap : Nat) (rops : List ROp) (k : Bytes) :
    let u := rops.foldl RU.step (RU.init (⟨cap, []⟩ : LRU.Simple) : RU simpleCacher)
    LRU.SimpleInv u.cache ∧ RCoherent u ∧ (u.get k false).2 = (rops.foldl rackStep (fun _ => none)) k ∧
      u.has k = ((rops.foldl rackStep (fun _ => none)) k).isSome :=
  realUnit_run_spec simpleCacher_lawful _ (SimpleC.init_inv cap) (fun _ => rfl) rops k

/-- C16, storage unit over the FIFO sharded cache (`NewShardedCache(size, n)`, `n ≥ 1`), any size -/
theorem fifoUnit_run_spec (size n : Nat) (hn : 1 ≤ n) (rops : List ROp) (k : Bytes) :
    let u := rops.foldl RU.step (RU.init (Fifo.Cache.init size n) : RU (fifoCacher size))
    Fifo.CacheInv size u.cache ∧ RCoherent u ∧ (u.get k false).2 = (rops.foldl rackStep (fun _ => none)) k ∧
      u.has k = ((rops.foldl rackStep (fun _ => none)) k).isSome :=
  realUnit_run_spec (fifoCacher_lawful size) _ (Fifo.CacheInv.init size n hn) (FifoC.init_empty size n) rops k

/-- C16, storage unit over the `lruCache` wrapper, whichever backend and handler registry it starts with -/
theorem lruUnit_run_spec (vr : LRU.Variant) (c0 : LRU.Cache) (h0 : LruC.Inv c0) (he : ∀ x, LruC.toMap c0 x = none)
    (rops : List ROp) (k : Bytes) :
    let u := rops.foldl RU.step (RU.init c0 : RU (lruCacher vr))
    LruC.Inv u.cache ∧ RCoherent u ∧ (u.get k false).2 = (rops.foldl rackStep (fun _ => none)) k ∧
      u.has k = ((rops.foldl rackStep (fun _ => none)) k).isSome :=
  realUnit_run_spec (lruCacher_lawful vr) c0 h0 he rops k

/-! ## non-vacuity: capacity 2, four operations including an eviction and a rejected Put -/

section examples

def kA : Bytes := [1]
def kB : Bytes := [2]
def kC : Bytes := [3]
def kD : Bytes := [4]
def vA : Bytes := [10, 10]
def vB : Bytes := [20]
def vC : Bytes := [30, 30, 30]
def vD : Bytes := [40]

/-- Put a, Put b, Put c (evicts a), Put d REJECTED by the persister (the cacher has meanwhile evicted b) -/
def demo : List ROp := [.put kA vA false, .put kB vB false, .put kC vC false, .put kD vD true]

/-- the same history with the oracles the capacity-2 LRUs happen to choose -/
def demoAbs : List Op :=
  [.put kA vA false [kA], .put kB vB false [kA, kB], .put kC vC false [kB, kC], .put kD vD true [kC, kD]]

example : demoAbs.map eraseOp = demo := rfl

/-! capacityLRU, 2 entries / 100 bytes -/

def capDemo : RU (capCacher .current) := demo.foldl RU.step (RU.init (LRU.Cap.init 2 100))

-- the eviction happened (a and b are gone), the rejected d is not resident, c is; the persister has a, b, c
example : CapC.toMap capDemo.cache kA = none ∧ CapC.toMap capDemo.cache kB = none ∧
    CapC.toMap capDemo.cache kC = some vC ∧ CapC.toMap capDemo.cache kD = none ∧
    capDemo.db = [(kA, vA), (kB, vB), (kC, vC)] := by decide +kernel

-- the evicted key is still served (from the persister), the rejected one is not
example : (capDemo.get kA false).2 = some vA ∧ (capDemo.get kD false).2 = none ∧ capDemo.has kD = false ∧
    capDemo.has kB = true := by decide +kernel

-- the simulation, concretely: the abstract unit run with `demoAbs` answers every lookup like the real cacher
example : ∀ x ∈ [kA, kB, kC, kD, []],
    alookup x (demoAbs.foldl U.step U.init).cache = CapC.toMap capDemo.cache x := by decide +kernel

-- the general theorem instantiated on this history
example : RCoherent capDemo ∧ (capDemo.get kA false).2 = (demo.foldl rackStep (fun _ => none)) kA :=
  ⟨(capUnit_run_spec .current 2 100 demo kA).2.1, (capUnit_run_spec .current 2 100 demo kA).2.2.1⟩

example : (demo.foldl rackStep (fun _ => none)) kA = some vA ∧ (demo.foldl rackStep (fun _ => none)) kD = none := by
  decide +kernel

-- `realUnit_rejected_put_not_served`: hypotheses met by a reachable state
example : ((capDemo.put kD vD true).1.get kD false).2 = alookup kD capDemo.db :=
  realUnit_rejected_put_not_served (capCacher_lawful .current) capDemo kD vD
    (capUnit_run_spec .current 2 100 demo kD).1

-- eviction by BYTES: 2 entries allowed but only 3 bytes; and an entry larger than the whole budget stays alone
example :
    let u : RU (capCacher .current) :=
      [ROp.put kA vA false, .put kB vB false, .put kC vC false].foldl RU.step (RU.init (LRU.Cap.init 2 3))
    CapC.toMap u.cache kA = none ∧ CapC.toMap u.cache kB = none ∧ CapC.toMap u.cache kC = some vC ∧
      (u.get kA false).2 = some vA := by decide +kernel

example :
    let u : RU (capCacher .current) := [ROp.put kC vC false].foldl RU.step (RU.init (LRU.Cap.init 2 1))
    CapC.toMap u.cache kC = some vC := by decide +kernel

-- `CapC.put_sub`, `CapC.put_keeps_written`: hypotheses met (`CapInv` of a reachable cache, size = len(data) ≥ 0)
example : ∃ keep : List Bytes, kC ∈ keep ∧ ∀ x, CapC.toMap (capDemo.cache.addSized .current kC vC 3).1 x =
    if x ∈ keep then (if x = kC then some vC else CapC.toMap capDemo.cache x) else none :=
  have hinv := (capUnit_run_spec .current 2 100 demo kD).1
  ⟨_, (CapC.mem_keys_iff _ kC).mpr (Option.isSome_iff_exists.mpr
      ⟨vC, CapC.put_keeps_written .current capDemo.cache kC vC 3 hinv (by decide)⟩),
    keep_of_sub _ _ kC vC _ (CapC.mem_keys_iff _) (CapC.put_sub .current capDemo.cache kC vC 3 hinv (by decide))⟩

/-! the legacy variant (silent eviction inside `update`) is covered as well -/

example :
    let u : RU (capCacher .legacy) := demo.foldl RU.step (RU.init (LRU.Cap.init 2 100))
    (u.get kA false).2 = some vA ∧ (u.get kD false).2 = none := by decide +kernel

/-! hashicorp LRU, capacity 2 -/

def simpleDemo : RU simpleCacher := demo.foldl RU.step (RU.init ⟨2, []⟩)

example : SimpleC.toMap simpleDemo.cache kA = none ∧ SimpleC.toMap simpleDemo.cache kB = none ∧
    SimpleC.toMap simpleDemo.cache kC = some vC ∧ SimpleC.toMap simpleDemo.cache kD = none ∧
    (simpleDemo.get kA false).2 = some vA ∧ (simpleDemo.get kD false).2 = none ∧ simpleDemo.has kD = false := by
  decide +kernel

example : ∀ x ∈ [kA, kB, kC, kD, []],
    alookup x (demoAbs.foldl U.step U.init).cache = SimpleC.toMap simpleDemo.cache x := by decide +kernel

example : RCoherent simpleDemo := (simpleUnit_run_spec 2 demo kA).2.1

-- capacity 0: the written key is dropped at once — still an instance of "write, then keep a subset"
example : SimpleC.toMap ((⟨0, []⟩ : LRU.Simple).add kA vA).1 kA = none := by decide +kernel

/-! FIFO, one shard of three slots (two usable) -/

def fifoDemo : RU (fifoCacher 3) := demo.foldl RU.step (RU.init (Fifo.Cache.init 3 1))

example : FifoC.toMap fifoDemo.cache kA = none ∧ FifoC.toMap fifoDemo.cache kB = none ∧
    FifoC.toMap fifoDemo.cache kC = some vC ∧ FifoC.toMap fifoDemo.cache kD = none ∧
    (fifoDemo.get kA false).2 = some vA ∧ (fifoDemo.get kD false).2 = none ∧ fifoDemo.has kD = false := by
  decide +kernel

example : RCoherent fifoDemo := (fifoUnit_run_spec 3 1 (by decide) demo kA).2.1

-- a single-slot shard (S = N) never holds anything
example : FifoC.toMap ((Fifo.Cache.init 1 1).put kA vA).1 kA = none := by decide +kernel

/-! the wrapper -/

example :
    let u : RU (lruCacher .current) := demo.foldl RU.step (RU.init ⟨.sized (LRU.Cap.init 2 100), ["h"]⟩)
    (u.get kA false).2 = some vA ∧ (u.get kD false).2 = none := by decide +kernel

end examples

end SV.UnitReal
