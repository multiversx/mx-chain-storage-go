import SV.Common
import SV.CommonProofs
import SV.AssocList
import SV.PtrList
import SV.Shard
import SV.ShardProofs
import SV.TxCache.Model
import SV.TxCache.Spec
import SV.TxCache.SelStep
import SV.TxCache.SelProofs
import SV.TxCache.OrderProofs
import SV.TxCache.SelOrderProofs
import SV.TxCache.ListProofs
import SV.TxCache.ListsInvProofs
import SV.TxCache.PoolInv
import SV.TxCache.EvictInv
import SV.TxCache.EvictPost
import SV.TxCache.GreedySpec
import SV.TxCache.HeapModel
import SV.TxCache.ReachableProofs
import SV.TxCache.AddCommute
import SV.TxCache.SessionWrapper
import SV.TxCache.ReachableSize
import SV.TxCache.GoList
import SV.TxCache.Sections
import SV.TxCache.ChunkedMap
import SV.Immunity.Model
import SV.Immunity.Spec
import SV.Immunity.Proofs
import SV.Immunity.CacheProofs
import SV.Immunity.FifoSpec
import SV.Immunity.ChunkLib
import SV.LRU.Model
import SV.LRU.Proofs
import SV.LRU.RefSpec
import SV.LRU.SimpleLruLib
import SV.LRU.CapacityLib
import SV.Persist.Model
import SV.Persist.Proofs
import SV.Persist.Crash
import SV.Persist.CrashProofs
import SV.Persist.ShardedProofs
import SV.Misc.Adapter
import SV.Misc.AdapterProofs
import SV.Misc.AdapterMore
import SV.Misc.Unit
import SV.Misc.UnitProofs
import SV.Misc.UnitReal
import SV.Misc.Fifo
import SV.Misc.FifoProofs
import SV.Misc.FifoRing
import SV.Misc.FifoRingProofs
import SV.Misc.FifoRingCache
import SV.Misc.FifoRingCacheProofs
import SV.Misc.TimeCache
import SV.Misc.TimeCacheProofs
import SV.Misc.TimeCacheMore
import SV.Conc.PersistConc
import SV.FactsProofs.Sync
import SV.FactsProofs.Batch
import SV.FactsProofs.Blocks
import SV.FactsProofs.Conc
import SV.FactsProofs.Unit
import SV.FactsProofs.Adapter
import SV.Generated.Funcs
import SV.GenProofs.TxThresholds
import SV.GenProofs.TxSelection
import SV.GenProofs.TxComparator
import SV.GenProofs.TxLists
import SV.GenProofs.LRU
import SV.GenProofs.Immunity
import SV.GenProofs.TimeCache
import SV.GenProofs.Persist
import SV.GenProofs.Config
import SV.GenProofs.Shard
import SV.GenProofs.TxSenderBytes
import SV.Conc.LinProofs
import SV.Props.C01
import SV.Props.C02
import SV.Props.C03
import SV.Props.C04
import SV.Props.C05
import SV.Props.C06
import SV.Props.C07
import SV.Props.C08
import SV.Props.C09
import SV.Props.C10
import SV.Props.C11
import SV.Props.C12
import SV.Props.C13
import SV.Props.C14
import SV.Props.C15
import SV.Props.C16
import SV.Props.C17
import SV.Props.C18
import SV.Props.C19
import SV.Props.C20
